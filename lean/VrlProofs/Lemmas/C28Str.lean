import VrlModel.C28
import VrlProofs.Lemmas.Utf8Str

/-! The string laws of C28 on the chars view (`…Cp` functions of `VrlModel/Str/Fns.lean`, case mapping of
    `Str/Case.lean`), and what carries them to bytes: which functions keep scalar values, `countLeads`. -/
namespace Str

/-- the law of `char::to_uppercase` the idempotence of `upcase` needs: upper-casing the image of a
    char changes nothing (sampled exhaustively over all scalar values by `o.c28.casemap`). -/
structure LawfulUpper (cm : CaseMap) : Prop where
  idem : ∀ c, upcaseCp cm (cm.toUpper c) = cm.toUpper c
  scalar : ∀ c, isScalar c = true → ∀ d ∈ cm.toUpper c, isScalar d = true

/-- the laws of `char::to_lowercase`: every char of an image is a fixed point and is not `Σ`
    (`Σ` itself is handled by the Final_Sigma rule and yields `σ`/`ς`, both fixed points). -/
structure LawfulLower (cm : CaseMap) : Prop where
  fixed : ∀ c, c ≠ capSigma → ∀ d ∈ cm.toLower c, d ≠ capSigma ∧ cm.toLower d = [d]
  small : cm.toLower smallSigma = [smallSigma]
  final : cm.toLower finalSigma = [finalSigma]
  scalar : ∀ c, isScalar c = true → ∀ d ∈ cm.toLower c, isScalar d = true

theorem upcaseCp_eq_flatMap (cm : CaseMap) : (s : List Nat) → upcaseCp cm s = s.flatMap cm.toUpper
  | [] => rfl
  | c :: s => by rw [upcaseCp, upcaseCp_eq_flatMap cm s, List.flatMap_cons]

theorem upcaseCp_idem (cm : CaseMap) (h : LawfulUpper cm) (s : List Nat) :
    upcaseCp cm (upcaseCp cm s) = upcaseCp cm s := by
  simp only [upcaseCp_eq_flatMap, List.flatMap_assoc]
  congr 1; funext c
  rw [← upcaseCp_eq_flatMap]; exact h.idem c

theorem upcaseCp_scalar (cm : CaseMap) (h : LawfulUpper cm) (s : List Nat)
    (hs : ∀ c ∈ s, isScalar c = true) : ∀ d ∈ upcaseCp cm s, isScalar d = true := by
  intro d hd
  rw [upcaseCp_eq_flatMap, List.mem_flatMap] at hd
  obtain ⟨c, hc, hd⟩ := hd
  exact h.scalar c (hs c hc) d hd

theorem mem_downcaseGo (cm : CaseMap) {d : Nat} : (s before : List Nat) → d ∈ downcaseGo cm before s →
    d = finalSigma ∨ d = smallSigma ∨ ∃ c ∈ s, c ≠ capSigma ∧ d ∈ cm.toLower c
  | c :: s, before, hd => by
    rw [downcaseGo, List.mem_append] at hd
    rcases hd with hd | hd
    · split at hd
      · rw [List.mem_singleton] at hd
        split at hd
        · exact .inl hd
        · exact .inr (.inl hd)
      · exact .inr (.inr ⟨c, List.mem_cons_self, ‹_›, hd⟩)
    · rcases mem_downcaseGo cm s (c :: before) hd with h | h | ⟨x, hx, h⟩
      · exact .inl h
      · exact .inr (.inl h)
      · exact .inr (.inr ⟨x, List.mem_cons_of_mem _ hx, h⟩)

/-- what `downcase` leaves unchanged (`downcaseGo_of_low`) -/
def Low (cm : CaseMap) (s : List Nat) : Prop := ∀ d ∈ s, d ≠ capSigma ∧ cm.toLower d = [d]

theorem downcaseGo_of_low (cm : CaseMap) : (s before : List Nat) → Low cm s → downcaseGo cm before s = s
  | [], _, _ => rfl
  | c :: s, before, h => by
    have hc := h c (by simp)
    have ih := downcaseGo_of_low cm s (c :: before) (fun d hd => h d (by simp [hd]))
    simp [downcaseGo, hc.1, hc.2, ih]

theorem low_downcaseGo (cm : CaseMap) (h : LawfulLower cm) (s before : List Nat) :
    Low cm (downcaseGo cm before s) := by
  intro d hd
  rcases mem_downcaseGo cm s before hd with rfl | rfl | ⟨c, -, hc, hd⟩
  · exact ⟨by decide, h.final⟩
  · exact ⟨by decide, h.small⟩
  · exact h.fixed c hc d hd

theorem downcaseCp_idem (cm : CaseMap) (h : LawfulLower cm) (s : List Nat) :
    downcaseCp cm (downcaseCp cm s) = downcaseCp cm s :=
  downcaseGo_of_low cm _ [] (low_downcaseGo cm h s [])

theorem downcaseGo_scalar (cm : CaseMap) (h : LawfulLower cm) (s before : List Nat)
    (hs : ∀ c ∈ s, isScalar c = true) : ∀ d ∈ downcaseGo cm before s, isScalar d = true := by
  intro d hd
  rcases mem_downcaseGo cm s before hd with rfl | rfl | ⟨c, hc, -, hd⟩
  · decide
  · decide
  · exact h.scalar c (hs c hc) d hd

theorem noSigma_cons (c : Nat) (s : List Nat) :
    C28.noSigma (c :: s) = true ↔ c ≠ capSigma ∧ C28.noSigma s = true := by
  simp only [C28.noSigma, List.contains_cons, Bool.not_eq_true', Bool.or_eq_false_iff, beq_eq_false_iff_ne, ne_eq]
  constructor
  · rintro ⟨h1, h2⟩; exact ⟨fun e => h1 e.symm, h2⟩
  · rintro ⟨h1, h2⟩; exact ⟨fun e => h1 e.symm, h2⟩

theorem downcaseGo_noSigma (cm : CaseMap) : (s before : List Nat) → C28.noSigma s = true →
    downcaseGo cm before s = s.flatMap cm.toLower
  | [], _, _ => rfl
  | c :: s, before, h => by
    obtain ⟨hc, hs⟩ := (noSigma_cons c s).mp h
    simp [downcaseGo, hc, downcaseGo_noSigma cm s (c :: before) hs]

theorem downcaseCp_noSigma (cm : CaseMap) (s : List Nat) (h : C28.noSigma s = true) :
    downcaseCp cm s = s.flatMap cm.toLower := downcaseGo_noSigma cm s [] h

theorem ascii_lawfulUpper : LawfulUpper CaseMap.ascii where
  idem c := by
    simp only [CaseMap.ascii, upcaseCp, List.append_nil, List.cons.injEq, and_true]
    unfold asciiUpper; repeat' split
    all_goals omega
  scalar c hc d hd := by
    simp only [CaseMap.ascii, List.mem_singleton] at hd
    subst hd
    rw [isScalar_iff] at *
    unfold asciiUpper; split <;> omega

theorem ascii_lawfulLower : LawfulLower CaseMap.ascii where
  fixed c hc d hd := by
    simp only [CaseMap.ascii, List.mem_singleton] at hd
    subst hd
    simp only [CaseMap.ascii, capSigma, List.cons.injEq, and_true] at *
    unfold asciiLower; constructor
    · split <;> omega
    · repeat' split
      all_goals omega
  small := by decide
  final := by decide
  scalar c hc d hd := by
    simp only [CaseMap.ascii, List.mem_singleton] at hd
    subst hd
    rw [isScalar_iff] at *
    unfold asciiLower; split <;> omega

theorem drop_takeWhile_length {α : Type} (p : α → Bool) (s : List α) :
    s.drop (s.takeWhile p).length = s.dropWhile p := by
  have := List.drop_left' (l₁ := s.takeWhile p) (l₂ := s.dropWhile p) rfl
  rwa [List.takeWhile_append_dropWhile] at this

theorem specTrim_trimCp (s : List Nat) : C28.specTrim s (trimCp s) = true := by
  -- `t` = `s` without its leading whitespace is `r ++ w` (`takeWhile`/`dropWhile` on `t.reverse`): `w` the
  -- trailing whitespace, `r` the result; its ends are no whitespace because `dropWhile` stops there
  unfold C28.specTrim trimCp dropWs
  simp only [drop_takeWhile_length]
  have hhead := List.head?_dropWhile_not isWhitespace s
  generalize s.dropWhile isWhitespace = t at *
  have hlast := List.head?_dropWhile_not isWhitespace t.reverse
  have ht : t = (t.reverse.dropWhile isWhitespace).reverse ++ (t.reverse.takeWhile isWhitespace).reverse := by
    rw [← List.reverse_append, List.takeWhile_append_dropWhile, List.reverse_reverse]
  have hw : ((t.reverse.takeWhile isWhitespace).reverse).all isWhitespace = true := by
    rw [List.all_reverse]; exact List.all_takeWhile
  generalize (t.reverse.dropWhile isWhitespace) = r' at *
  generalize (t.reverse.takeWhile isWhitespace).reverse = w at *
  subst ht
  simp only [Bool.and_eq_true]
  refine ⟨⟨⟨?_, ?_⟩, ?_⟩, ?_⟩
  · exact List.isPrefixOf_iff_prefix.mpr (List.prefix_append _ _)
  · simpa using hw
  · cases hr : r'.reverse with
    | nil => simp
    | cons a as =>
      simp only [hr, List.cons_append, List.head?_cons] at hhead ⊢
      simp [hhead]
  · rw [List.getLast?_reverse]
    cases hr : r'.head? with
    | none => simp
    | some a => simp only [hr] at hlast; simp [hlast]

theorem mem_trimCp {s : List Nat} {c : Nat} (h : c ∈ trimCp s) : c ∈ s := by
  unfold trimCp dropWs at h
  rw [List.mem_reverse] at h
  have := (List.dropWhile_sublist _).subset h
  rw [List.mem_reverse] at this
  exact (List.dropWhile_sublist _).subset this

theorem length_truncateCp (limit : Nat) (suffix s : List Nat) :
    (truncateCp limit suffix s).length ≤ limit + suffix.length := by
  unfold truncateCp
  split
  · rw [List.length_append, List.length_take]; omega
  · omega

theorem mem_truncateCp {limit : Nat} {suffix s : List Nat} {c : Nat} (h : c ∈ truncateCp limit suffix s) :
    c ∈ s ∨ c ∈ suffix := by
  unfold truncateCp at h
  split at h
  · exact (List.mem_append.mp h).imp_left List.mem_of_mem_take
  · exact .inl h

theorem splitGo_ne_nil (pat : List Nat) (n k : Nat) (cur s : List Nat) : splitGo pat n k cur s ≠ [] := by
  fun_induction splitGo pat n k cur s with
  | case1 | case3 => exact List.cons_ne_nil _ _       -- end of input; a delimiter found: a piece is emitted
  | case2 _ _ _ _ _ ih | case4 _ _ _ _ _ ih => exact ih   -- a char skipped or added to the piece

theorem joinCp_cons (sep x : List Nat) : (rest : List (List Nat)) → rest ≠ [] →
    joinCp sep (x :: rest) = x ++ sep ++ joinCp sep rest
  | [], h => absurd rfl h
  | _ :: _, _ => rfl

theorem join_splitGo (pat : List Nat) (hp : pat ≠ []) (n k : Nat) (cur s : List Nat) (hk : k ≤ s.length) :
    joinCp pat (splitGo pat n k cur s) = cur.reverse ++ s.drop k := by
  fun_induction splitGo pat n k cur s with
  | case1 => simp [joinCp]                                        -- end of input
  | case2 n skip cur c rest ih => exact ih (by simpa using hk)    -- `k = skip + 1`: a char of the delimiter skipped
  | case3 n cur c rest h ih =>
    -- `k = 0`, a delimiter starts here and the limit allows a cut (`2 ≤ n`): `c :: rest = pat ++ t`,
    -- the piece ends, the rest of `pat` is skipped
    obtain ⟨t, ht⟩ := List.isPrefixOf_iff_prefix.mp h.2
    have hl : pat.length = (pat.length - 1) + 1 := by have := List.length_pos_iff.mpr hp; omega
    have hd : rest.drop (pat.length - 1) = t := by
      have := congrArg (List.drop pat.length) ht
      rw [List.drop_left, hl, List.drop_succ_cons] at this
      exact this.symm
    have hlen := congrArg List.length ht
    simp only [List.length_append, List.length_cons] at hlen
    rw [joinCp_cons _ _ _ (splitGo_ne_nil _ _ _ _ _), ih (by omega), hd, ← ht]
    simp
  | case4 n cur c rest h ih =>
    -- `k = 0`, no cut here (no delimiter, or the limit is reached): `c` joins the piece
    rw [ih (by simp)]; simp

theorem charsN_ne_nil : (s : List Nat) → (k : Nat) → charsN k s ≠ []
  | [], _ => by simp [charsN]
  | _ :: _, k => by simp only [charsN]; split <;> simp

theorem join_charsN : (s : List Nat) → (k : Nat) → joinCp [] (charsN k s) = s
  | [], _ => rfl
  | c :: rest, k => by
    simp only [charsN]
    split
    · rfl
    · rw [joinCp_cons _ _ _ (charsN_ne_nil _ _), join_charsN rest (k - 1)]; simp

/-- `join(split(s, d, limit: n), d) = s` on the chars view, the empty delimiter included -/
theorem join_splitCp (n : Nat) (hn : 1 ≤ n) (pat s : List Nat) : joinCp pat (splitCp n pat s) = s := by
  fun_cases splitCp n pat s with
  | case1 h0 => exact absurd h0 (by omega)      -- `n = 0` is excluded by `hn`
  | case2 _ hp h1 => rfl                          -- `pat = []`, `n = 1`: one piece
  | case3 _ hp h1 =>                              -- `pat = []`, `2 ≤ n`: `""` and then the chars
    subst hp
    rw [joinCp_cons _ _ _ (charsN_ne_nil _ _), join_charsN]; rfl
  | case4 _ hp =>                                 -- `pat ≠ []`
    rw [join_splitGo pat hp n 0 [] s (Nat.zero_le _)]; rfl

theorem mem_joinCp (sep : List Nat) : (ps : List (List Nat)) → (p : List Nat) → p ∈ ps →
    ∀ c ∈ p, c ∈ joinCp sep ps
  | [x], p, hp, c, hc => by simp at hp; subst hp; simpa [joinCp]
  | x :: y :: rest, p, hp, c, hc => by
    simp only [joinCp, List.mem_append]
    rcases List.mem_cons.mp hp with rfl | hp
    · exact Or.inl (Or.inl hc)
    · exact Or.inr (mem_joinCp sep (y :: rest) p hp c hc)

theorem itemsCp_bytesArr : (ps : List (List Nat)) → (∀ p ∈ ps, ∀ c ∈ p, isScalar c = true) →
    itemsCp (bytesArr ps) = some ps
  | [], _ => rfl
  | p :: ps, h => by
    simp only [bytesArr, itemsCp]
    rw [itemsCp_bytesArr ps (fun q hq => h q (by simp [hq])), decode_encode p (h p (by simp))]
    rfl

theorem countLeads_append (a b : List Nat) : C28.countLeads (a ++ b) = C28.countLeads a + C28.countLeads b := by
  simp [C28.countLeads, List.filter_append]

theorem countLeads_lead (b : Nat) (bs : List Nat) (h : b < 0x80 ∨ 0xC0 ≤ b) :
    C28.countLeads (b :: bs) = C28.countLeads bs + 1 := by
  have : (b / 64 != 2) = true := by simp; omega
  simp [C28.countLeads, this]

theorem countLeads_cont (d : Nat) (bs : List Nat) (h : d < 64) :
    C28.countLeads ((0x80 + d) :: bs) = C28.countLeads bs := by
  have : ((0x80 + d) / 64 != 2) = false := by simp; omega
  simp [C28.countLeads, this]

theorem countLeads_code {n : Nat} {bs : List Nat} (h : Utf8.Code n bs) : C28.countLeads bs = 1 := by
  cases h with
  | one h => exact countLeads_lead n [] (.inl h)
  | two a d h1 =>
    rw [countLeads_lead _ _ (.inr (Nat.le_add_right _ _)), countLeads_cont _ _ h1]; rfl
  | three a d₁ d₂ h1 h2 =>
    rw [countLeads_lead _ _ (.inr (by omega)), countLeads_cont _ _ h1, countLeads_cont _ _ h2]; rfl
  | four a d₁ d₂ d₃ h1 h2 h3 =>
    rw [countLeads_lead _ _ (.inr (by omega)), countLeads_cont _ _ h1, countLeads_cont _ _ h2,
      countLeads_cont _ _ h3]; rfl

theorem countLeads_encodeCp (c : Nat) (h : isScalar c = true) : C28.countLeads (encodeCp c) = 1 :=
  countLeads_code (Utf8.code_of_scalar h)

theorem countLeads_encode : (cs : List Nat) → (∀ c ∈ cs, isScalar c = true) →
    C28.countLeads (encode cs) = cs.length
  | [], _ => rfl
  | c :: cs, h => by
    rw [encode, countLeads_append, countLeads_encodeCp c (h c (by simp)),
      countLeads_encode cs fun d hd => h d (by simp [hd]), List.length_cons, Nat.add_comm]

theorem isPrefixOf_eq_subAt (s v : List Nat) : s.isPrefixOf v = C28.subAt v s 0 := by
  rw [Bool.eq_iff_iff, List.isPrefixOf_iff_prefix, List.prefix_iff_eq_take]
  simp only [C28.subAt, Nat.zero_add, List.drop_zero, Bool.and_eq_true, decide_eq_true_eq, beq_iff_eq]
  constructor
  · intro h
    refine ⟨?_, h.symm⟩
    have := congrArg List.length h
    simp at this; omega
  · intro h; exact h.2.symm

theorem isSuffixOf_eq_subAt (s v : List Nat) : s.isSuffixOf v = C28.subAt v s (v.length - s.length) := by
  rw [Bool.eq_iff_iff, List.isSuffixOf_iff_suffix, List.suffix_iff_eq_drop]
  simp only [C28.subAt, Bool.and_eq_true, decide_eq_true_eq, beq_iff_eq]
  constructor
  · intro h
    have hl := congrArg List.length h
    rw [List.length_drop] at hl
    exact ⟨by omega, by rw [← h, List.take_length]⟩
  · rintro ⟨hl, h⟩
    rw [List.take_of_length_le (by rw [List.length_drop]; omega)] at h
    exact h.symm

theorem subAt_cons (c : Nat) (rest needle : List Nat) (i : Nat) :
    C28.subAt (c :: rest) needle (i + 1) = C28.subAt rest needle i := by
  simp only [C28.subAt, List.length_cons, List.drop_succ_cons]
  congr 1
  simp; omega

theorem containsCp_eq (needle : List Nat) : (hay : List Nat) →
    containsCp needle hay = (List.range (hay.length + 1)).any (C28.subAt hay needle)
  | [] => by
    cases needle <;> simp [containsCp, C28.subAt, List.range_succ_eq_map]
  | c :: rest => by
    rw [containsCp, containsCp_eq needle rest, List.length_cons, List.range_succ_eq_map (n := rest.length + 1),
      List.any_cons, List.any_map, isPrefixOf_eq_subAt]
    congr 2
    funext a
    exact (subAt_cons c rest needle a).symm

end Str
