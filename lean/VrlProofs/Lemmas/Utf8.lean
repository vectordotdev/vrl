/-
  UTF-8 lemmas: `decode (encode cs) = some cs` for every list of Unicode scalar values, and the
  decoder is strict: `decode bs = some cs → encode cs = bs`.

  Encoder and decoder meet in the relation `Code n bs` of `Utf8Spec`: the encoder writes the one
  code of its argument, the decoder accepts exactly the codes of scalar values (`decodeOne_code`:
  on a code of `n` it answers `charOfNat? n`).
-/
import VrlProofs.Lemmas.Utf8Spec

namespace Utf8

theorem charOfNat?_toNat (c : Char) : charOfNat? c.toNat = some c := by
  unfold charOfNat?
  have h : c.toNat.isValidChar := c.valid
  rw [dif_pos h]
  rfl

theorem toNat_of_charOfNat? {n : Nat} {c : Char} (h : charOfNat? n = some c) : c.toNat = n := by
  unfold charOfNat? at h
  split at h
  · cases h; rfl
  · cases h

theorem horner3 (a d₁ d₂ : Nat) : a * 4096 + d₁ * 64 + d₂ = (a * 64 + d₁) * 64 + d₂ := by
  rw [Nat.add_mul, Nat.mul_assoc]

theorem horner4 (a d₁ d₂ d₃ : Nat) :
    a * 262144 + d₁ * 4096 + d₂ * 64 + d₃ = ((a * 64 + d₁) * 64 + d₂) * 64 + d₃ := by
  rw [Nat.add_mul, Nat.add_mul, Nat.add_mul, Nat.mul_assoc, Nat.mul_assoc, Nat.mul_assoc]

theorem isCont_iff (b : Nat) : isCont b = true ↔ (0x80 ≤ b ∧ b < 0xC0) := by
  simp only [isCont, Bool.and_eq_true, decide_eq_true_eq]

theorem isCont_digit {d : Nat} (h : d < 64) : isCont (0x80 + d) = true :=
  (isCont_iff _).2 ⟨Nat.le_add_right _ _, Nat.add_lt_add_left h _⟩

theorem digit_of_isCont {b : Nat} (h : isCont b = true) : ∃ d, d < 64 ∧ b = 0x80 + d := by
  rw [isCont_iff] at h
  exact ⟨b - 0x80, Nat.sub_lt_left_of_lt_add h.1 h.2, (Nat.add_sub_cancel' h.1).symm⟩

theorem lead_not_lt {k L : Nat} (a : Nat) (h : k ≤ L) : ¬ L + a < k :=
  Nat.not_lt.2 (Nat.le_trans h (Nat.le_add_right L a))

theorem decodeOne_code {n : Nat} {bs : List Nat} (h : Code n bs) (rest : List Nat) :
    decodeOne (bs ++ rest) = (charOfNat? n).map (·, rest) := by
  cases h with
  | one h => exact if_pos h
  | two a d h1 hn ha' ha =>
    subst hn
    show decodeOne (_ :: _ :: rest) = _
    unfold decodeOne
    dsimp only
    rw [if_neg (lead_not_lt a (by decide)), if_neg (Nat.not_lt.2 (Nat.add_le_add_left ha' _)),
      if_pos (Nat.add_lt_add_left ha _), if_pos (isCont_digit h1), Nat.add_sub_cancel_left,
      Nat.add_sub_cancel_left]
  | three a d₁ d₂ h1 h2 hn hlo ha =>
    subst hn
    show decodeOne (_ :: _ :: _ :: rest) = _
    unfold decodeOne
    dsimp only
    rw [if_neg (lead_not_lt a (by decide)), if_neg (lead_not_lt a (by decide)),
      if_neg (lead_not_lt a (by decide)), if_pos (Nat.add_lt_add_left ha _)]
    simp only [isCont_digit h1, isCont_digit h2, Nat.add_sub_cancel_left, horner3, hlo,
      Bool.and_self, decide_true, if_true]
  | four a d₁ d₂ d₃ h1 h2 h3 hn hlo ha =>
    subst hn
    show decodeOne (_ :: _ :: _ :: _ :: rest) = _
    unfold decodeOne
    dsimp only
    rw [if_neg (lead_not_lt a (by decide)), if_neg (lead_not_lt a (by decide)),
      if_neg (lead_not_lt a (by decide)), if_neg (lead_not_lt a (by decide)),
      if_pos (Nat.add_lt_add_left ha _)]
    simp only [isCont_digit h1, isCont_digit h2, isCont_digit h3, Nat.add_sub_cancel_left, horner4,
      hlo, Bool.and_self, decide_true, if_true]

theorem charOfNat?_map_pair {n : Nat} {r rest : List Nat} {c : Char}
    (h : (charOfNat? n).map (·, r) = some (c, rest)) : c.toNat = n ∧ r = rest := by
  obtain ⟨c', hc, he⟩ := Option.map_eq_some_iff.mp h
  cases he
  exact ⟨toNat_of_charOfNat? hc, rfl⟩

theorem code_of_decodeOne {bs : List Nat} {c : Char} {rest : List Nat}
    (h : decodeOne bs = some (c, rest)) : ∃ pre, Code c.toNat pre ∧ bs = pre ++ rest := by
  revert h
  -- of the branches of `decodeOne` four accept, one per length; the others return `none`
  fun_cases decodeOne bs with
  | case2 b0 r l1 => -- `l1 : b0 < 0x80`: one byte
    intro h
    obtain ⟨hn, rfl⟩ := charOfNat?_map_pair h
    exact ⟨[b0], hn ▸ .one (hn ▸ l1), rfl⟩
  | case4 b0 _ l2 l3 b1 r1 hc =>
    -- `l2 : ¬ b0 < 0xC2`, `l3 : b0 < 0xE0`: lead C2..DF, one continuation byte
    intro h
    obtain ⟨a, rfl⟩ := Nat.exists_eq_add_of_le (Nat.le_trans (by decide : 0xC0 ≤ 0xC2) (Nat.not_lt.1 l2))
    obtain ⟨d, hd, rfl⟩ := digit_of_isCont hc
    rw [Nat.add_sub_cancel_left, Nat.add_sub_cancel_left] at h
    obtain ⟨hn, rfl⟩ := charOfNat?_map_pair h
    exact ⟨_, .two a d hd hn (Nat.le_of_add_le_add_left (Nat.not_lt.1 l2)) (Nat.lt_of_add_lt_add_left l3), rfl⟩
  | case7 b0 _ _ l3 l4 b1 b2 r2 n hc =>
    -- `l3 : ¬ b0 < 0xE0`, `l4 : b0 < 0xF0`: lead E0..EF, two continuation bytes
    intro h
    obtain ⟨a, rfl⟩ := Nat.exists_eq_add_of_le (Nat.not_lt.1 l3)
    simp only [Bool.and_eq_true, decide_eq_true_eq] at hc
    obtain ⟨d₁, hd₁, rfl⟩ := digit_of_isCont hc.1.1
    obtain ⟨d₂, hd₂, rfl⟩ := digit_of_isCont hc.1.2
    simp only [n, Nat.add_sub_cancel_left, horner3] at h hc
    obtain ⟨hn, rfl⟩ := charOfNat?_map_pair h
    exact ⟨_, .three a d₁ d₂ hd₁ hd₂ hn (hn ▸ hc.2) (Nat.lt_of_add_lt_add_left l4), rfl⟩
  | case10 b0 _ _ _ l4 l5 b1 b2 b3 r3 n hc =>
    -- `l4 : ¬ b0 < 0xF0`, `l5 : b0 < 0xF8`: lead F0..F7, three continuation bytes
    intro h
    obtain ⟨a, rfl⟩ := Nat.exists_eq_add_of_le (Nat.not_lt.1 l4)
    simp only [Bool.and_eq_true, decide_eq_true_eq] at hc
    obtain ⟨d₁, hd₁, rfl⟩ := digit_of_isCont hc.1.1.1
    obtain ⟨d₂, hd₂, rfl⟩ := digit_of_isCont hc.1.1.2
    obtain ⟨d₃, hd₃, rfl⟩ := digit_of_isCont hc.1.2
    simp only [n, Nat.add_sub_cancel_left, horner4] at h hc
    obtain ⟨hn, rfl⟩ := charOfNat?_map_pair h
    exact ⟨_, .four a d₁ d₂ d₃ hd₁ hd₂ hd₃ hn (hn ▸ hc.2) (Nat.lt_of_add_lt_add_left l5), rfl⟩
  | _ => intro h; cases h

theorem decodeOne_encodeChar_append (c : Char) (bs : List Nat) :
    decodeOne (encodeChar c ++ bs) = some (c, bs) := by
  have hv : c.toNat < 0x200000 := by
    have : c.toNat.isValidChar := c.valid
    unfold Nat.isValidChar at this
    omega
  rw [encodeChar_eq, decodeOne_code (code_encodeCp hv), charOfNat?_toNat]
  rfl

theorem decodeOne_sound (bs : List Nat) (c : Char) (rest : List Nat)
    (h : decodeOne bs = some (c, rest)) : bs = encodeChar c ++ rest := by
  obtain ⟨pre, hc, rfl⟩ := code_of_decodeOne h
  rw [encodeChar_eq, encodeCp_of_code hc]

theorem encodeChar_ne_nil (c : Char) : encodeChar c ≠ [] := by
  intro h
  have := decodeOne_encodeChar_append c []
  rw [h] at this
  cases this

theorem length_le_encode (cs : List Char) : cs.length ≤ (encode cs).length := by
  induction cs with
  | nil => exact Nat.le_refl 0
  | cons c cs ih =>
    have := List.length_pos_iff.mpr (encodeChar_ne_nil c)
    rw [encode, List.length_append, List.length_cons]
    omega

theorem decodeFuel_step {bs rest : List Nat} {c : Char} (h : decodeOne bs = some (c, rest))
    (fuel : Nat) : decodeFuel (fuel + 1) bs = (decodeFuel fuel rest).map (c :: ·) := by
  cases bs with
  | nil => cases h
  | cons b bs =>
    rw [decodeFuel, h]
    dsimp only
    cases decodeFuel fuel rest <;> rfl

theorem decodeFuel_encode (cs : List Char) : ∀ fuel, cs.length ≤ fuel →
    decodeFuel fuel (encode cs) = some cs := by
  induction cs with
  | nil => intro fuel _; cases fuel <;> rfl
  | cons c cs ih =>
    intro fuel hf
    cases fuel with
    | zero => cases hf
    | succ f =>
      rw [encode, decodeFuel_step (decodeOne_encodeChar_append c _), ih f (Nat.le_of_succ_le_succ hf)]
      rfl

theorem decode_encode (cs : List Char) : decode (encode cs) = some cs :=
  decodeFuel_encode cs _ (length_le_encode cs)

theorem encode_append (a b : List Char) : encode (a ++ b) = encode a ++ encode b := by
  induction a with
  | nil => rfl
  | cons c cs ih => simp [encode, ih]

theorem mem_encode {c : Char} {cs : List Char} (hc : c ∈ cs) {b : Nat}
    (hb : b ∈ encodeChar c) : b ∈ encode cs := by
  induction cs with
  | nil => simp at hc
  | cons d ds ih =>
    simp only [encode, List.mem_append]
    rcases List.mem_cons.mp hc with h | h
    · subst h; exact Or.inl hb
    · exact Or.inr (ih h)

theorem encode_injective {a b : List Char} (h : encode a = encode b) : a = b := by
  have := decode_encode a
  rw [h, decode_encode] at this
  exact (Option.some.inj this).symm

theorem decodeFuel_sound : ∀ (fuel : Nat) (bs : List Nat) (cs : List Char),
    decodeFuel fuel bs = some cs → encode cs = bs := by
  intro fuel bs
  fun_induction decodeFuel fuel bs with
  | case1 => intro cs h; cases h; rfl
  | case5 fuel b bs c rest h1 cs' h2 ih =>
    -- `h1`: `decodeOne` gave `(c, rest)`; `h2`: the rest decoded to `cs'`
    intro cs h; cases h
    rw [decodeOne_sound _ _ _ h1, encode, ih cs' h2]
  | _ => intro cs h; cases h

theorem encode_decode (bs : List Nat) (cs : List Char) (h : decode bs = some cs) : encode cs = bs :=
  decodeFuel_sound _ bs cs h

end Utf8
