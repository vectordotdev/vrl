import VrlProofs.Lemmas.KindUnion

/-! Soundness of `Kind::insert` for paths of field segments and non-negative indices, outside the
    classes `D_minlen_counts_optional` and `D_insert_union_alt`. -/

namespace Kind

theorem isExact_of_isObject (K : Kind) (h : K.isObject = true) : K.isExact = true := by
  simp [isExact, h]

theorem isExact_of_isArray (K : Kind) (h : K.isArray = true) : K.isExact = true := by
  simp [isExact, h]

theorem empty_unknownKind : Col.empty.unknownKind = Kind.undefined := by decide

theorem empty_known : Col.empty.known = .nil := rfl

theorem object_of_hasObj {K : Kind} (h : K.hasObj = true) : ∃ c, K.object = some c := by
  cases K with
  | mk p a o => cases o <;> simp [hasObj, object] at h ⊢

theorem array_of_hasArr {K : Kind} (h : K.hasArr = true) : ∃ c, K.array = some c := by
  cases K with
  | mk p a o => cases a <;> simp [hasArr, array] at h ⊢

theorem prim_isEmpty_of_isObject {K : Kind} (h : K.isObject = true) : K.prim.isEmpty = true := by
  simp only [isObject, Bool.and_eq_true] at h; exact h.1

theorem hasArr_false_of_isObject {K : Kind} (h : K.isObject = true) : K.hasArr = false := by
  simp only [isObject, Bool.and_eq_true, Bool.not_eq_true'] at h; exact h.2

theorem prim_isEmpty_of_isArray {K : Kind} (h : K.isArray = true) : K.prim.isEmpty = true := by
  simp only [isArray, Bool.and_eq_true] at h; exact h.1

theorem hasObj_false_of_isArray {K : Kind} (h : K.isArray = true) : K.hasObj = false := by
  simp only [isArray, Bool.and_eq_true, Bool.not_eq_true'] at h; exact h.2

end Kind

namespace Spec
open Value (child optSorted)

theorem obj_of_mem_isObject (c : Option Value) (K : Kind) (h : memOpt c K = true)
    (hO : K.isObject = true) : ∃ m, c = some (.obj m) := by
  rcases memOpt_state c K h with ⟨m, hm, _⟩ | ⟨_, _, ha⟩ | hp
  · exact ⟨m, hm⟩
  · rw [Kind.hasArr_false_of_isObject hO] at ha; cases ha
  · rw [Kind.prim_isEmpty_of_isObject hO] at hp; cases hp

theorem arr_of_mem_isArray (c : Option Value) (K : Kind) (h : memOpt c K = true)
    (hA : K.isArray = true) : ∃ a, c = some (.arr a) := by
  rcases memOpt_state c K h with ⟨_, _, ho⟩ | ⟨a, ha, _⟩ | hp
  · rw [Kind.hasObj_false_of_isArray hA] at ho; cases ho
  · exact ⟨a, ha⟩
  · rw [Kind.prim_isEmpty_of_isArray hA] at hp; cases hp

/-- what `insert_recursive` relies on at a field segment: the object found at the location (or
    the fresh empty one) fits the collection the kind continues with. When the location does not hold
    an object, the kind is a union (or has no object state) and no known field is required. -/
theorem asMap_fits (c : Option Value) (K : Kind) (hs : optSorted c = true) (h : memOpt c K = true)
    (f : Key) {rest : Path} (hu : C19.unionAltReq K (.field f) rest = false) :
    ObjFits (Value.asMap c) (K.object.getD Col.empty) := by
  by_cases hv : ∃ m, c = some (.obj m)
  · obtain ⟨m, rfl⟩ := hv
    obtain ⟨col, hc, hfit⟩ := (mem_obj_fits m K (VMap.sortedKeys_of_sorted m hs)).mp h
    rw [hc]
    exact hfit
  · rw [asMap_non_obj c hv]
    refine fun k => (loc_undefined _ k).mpr fun K' hk => ?_
    cases hO : K.hasObj with
    | false => rw [Kind.object_none_of_hasObj_false hO] at hk; cases hk
    | true =>
      obtain ⟨col, hc⟩ := Kind.object_of_hasObj hO
      have hIs : K.isObject = false := by
        cases hIs : K.isObject with
        | false => rfl
        | true => exact absurd (obj_of_mem_isObject c K h hIs) hv
      rw [hc] at hk
      have := KList.any_false _ col.known (by simpa [C19.unionAltReq, hO, hIs, hc] using hu) k K' hk
      simpa using this

theorem field_insert_mem (m : VMap) (col : Col) (f : Key) (y : Value) (Y : Kind)
    (hms : m.SortedKeys = true) (hm : ObjFits m col) (hy : mem y Y = true) :
    mem (.obj (m.insert f y)) (Kind.ofObject (.mk (col.known.insert f Y) col.unknown)) = true := by
  refine (mem_obj_fits _ _ (VMap.sortedKeys_insert m f y hms)).mpr ⟨_, rfl, fun k => ?_⟩
  obtain ⟨kn, u⟩ := col
  rw [VMap.get_insert, loc_insert]
  split
  · exact hy
  · exact hm k

end Spec

namespace Kind

/-- the index keys `lo, …, lo + n - 1`: those `fillRange` visits. -/
def inRange (lo n : Nat) : Key → Bool
  | [j] => decide (lo ≤ j ∧ j < lo + n)
  | _ => false

theorem inRange_ofIdx (lo n j : Nat) : inRange lo n (Key.ofIdx j) = decide (lo ≤ j ∧ j < lo + n) := rfl

theorem fillRange_get (g : Kind → Kind) (fill : Kind) : (n lo : Nat) → (kn : KList) → (q : Key) →
    (fillRange g fill lo n kn).get q =
      if inRange lo n q = true then some (g ((kn.get q).getD fill)) else kn.get q
  | 0, lo, kn, q => by
    have : inRange lo 0 q = false := by
      unfold inRange
      split
      · simp
      · rfl
    simp [fillRange, this]
  | n + 1, lo, kn, q => by
    rw [fillRange, fillRange_get g fill n (lo + 1) _ q, KList.get_insert]
    by_cases hq : Key.ofIdx lo = q
    · subst hq
      have h1 : ¬ (lo + 1 ≤ lo ∧ lo < lo + 1 + n) := by omega
      simp [inRange_ofIdx, h1]
    · have h3 : inRange (lo + 1) n q = inRange lo (n + 1) q := by
        unfold inRange
        split
        · rename_i j
          have hj : j ≠ lo := fun e => hq (by rw [e]; rfl)
          rw [decide_eq_decide]; omega
        · rfl
      simp only [hq, if_false, h3]

end Kind

namespace Spec
open Value (child optSorted)

theorem asList_fits (c : Option Value) (K : Kind) (h : memOpt c K = true)
    (i : Int) {rest : Path} (hu : C19.unionAltReq K (.index i) rest = false)
    (hopt : C19.optionalIdx K (.index i) rest = false) :
    ArrFits (Value.asList c) (K.array.getD Col.empty) ∧
    (∀ k K', (K.array.getD Col.empty).known.get k = some K' → k.idx < (Value.asList c).length) := by
  by_cases hv : ∃ a, c = some (.arr a)
  · obtain ⟨a, rfl⟩ := hv
    obtain ⟨col, hc, _, habs⟩ := (mem_arr_iff a K).mp h
    obtain ⟨col', hc', hfit⟩ := (mem_arr_fits a K).mp h
    rw [hc] at hc'; cases hc'
    simp only [C19.optionalIdx, hc] at hopt
    rw [hc]
    exact ⟨hfit, known_idx_lt_length a col habs hopt⟩
  · rw [asList_non_arr c hv]
    have hno : ∀ k K', (K.array.getD Col.empty).known.get k = some K' → False := by
      intro k K' hk
      cases hA : K.hasArr with
      | false => rw [Kind.array_none_of_hasArr_false hA] at hk; cases hk
      | true =>
        -- a union: no known index is required, and none is optional either
        obtain ⟨col, hc⟩ := Kind.array_of_hasArr hA
        have hIs : K.isArray = false := by
          cases hIs : K.isArray with
          | false => rfl
          | true => exact absurd (arr_of_mem_isArray c K h hIs) hv
        rw [hc] at hk
        simp only [C19.optionalIdx, hc] at hopt
        have h1 := KList.any_false _ col.known (by simpa [C19.unionAltReq, hA, hIs, hc] using hu) k K' hk
        have h2 := KList.any_false _ col.known hopt k K' hk
        simp [h2] at h1
    exact ⟨⟨nofun, fun k _ => (loc_undefined _ k).mpr fun K' hk => (hno k K' hk).elim⟩,
      fun k K' hk => (hno k K' hk).elim⟩

/-- the known map after the hole filling of a non-negative index insertion. -/
def filled (col : Col) (idx : Nat) : KList :=
  if !col.known.contains (Key.ofIdx idx) then
    Kind.fillRange id col.unknownKind.withoutUndefined.orNull 0 idx col.known
  else col.known

theorem filled_get (col : Col) (idx : Nat) (q : Key) :
    (filled col idx).get q =
      if (!col.known.contains (Key.ofIdx idx) && Kind.inRange 0 idx q) = true then
        some ((col.known.get q).getD col.unknownKind.withoutUndefined.orNull)
      else col.known.get q := by
  unfold filled
  cases col.known.contains (Key.ofIdx idx)
  · simp [Kind.fillRange_get]
  · simp

theorem filled_get_idx (col : Col) (idx : Nat) :
    (filled col idx).get (Key.ofIdx idx) = col.known.get (Key.ofIdx idx) := by
  rw [filled_get, Kind.inRange_ofIdx]; simp

theorem filled_loc (col : Col) (idx : Nat) (q : Key) :
    (Col.mk (filled col idx) col.unknown).loc q =
      if (!col.known.contains (Key.ofIdx idx) && Kind.inRange 0 idx q) = true then
        (col.known.get q).getD col.unknownKind.withoutUndefined.orNull
      else col.loc q := by
  show ((filled col idx).get q).getD col.unknownKind = _
  rw [filled_get]
  by_cases h : (!col.known.contains (Key.ofIdx idx) && Kind.inRange 0 idx q) = true
  · rw [if_pos h, if_pos h]; rfl
  · rw [if_neg h, if_neg h]; rfl

/-- a hole's kind contains `null` and whatever the unknown kind admits, so filling only widens
    what the locations hold. -/
theorem filled_loc_mono (col : Col) (idx : Nat) (q : Key) (x : Value) (h : mem x (col.loc q) = true) :
    mem x ((Col.mk (filled col idx) col.unknown).loc q) = true := by
  rw [filled_loc]
  split
  · cases hk : col.known.get q with
    | some K' => rwa [loc_of_get hk] at h
    | none =>
      rw [loc_of_none hk] at h
      exact mem_orNull_of_mem _ _ ((mem_withoutUndefined x _).trans h)
  · exact h

theorem index_insert_mem (a : VList) (col : Col) (idx : Nat) (y : Value) (Y : Kind)
    (hfit : ArrFits a col) (hlen : ∀ k K', col.known.get k = some K' → k.idx < a.length)
    (hy : mem y Y = true) :
    mem (.arr (a.insertIdx (idx : Int) y))
      (Kind.ofArray (.mk ((filled col idx).insert (Key.ofIdx idx) Y) col.unknown)) = true := by
  have hunk : ∀ j, a.length ≤ j → col.known.get (Key.ofIdx j) = none := by
    intro j hj
    cases hk : col.known.get (Key.ofIdx j) with
    | none => rfl
    | some K' => have := hlen _ K' hk; simp only [Key.ofIdx, Key.idx] at this; omega
  refine (mem_arr_fits _ _).mpr ⟨_, rfl, fun j w hj => ?_, fun k hk => ?_⟩
  · rw [VList.getN_insertIdx_ofNat] at hj
    rw [loc_insert]
    by_cases hji : j = idx
    · subst hji; simp only [if_true] at hj ⊢; cases hj; exact hy
    · have hne : Key.ofIdx idx ≠ Key.ofIdx j := by simp [Key.ofIdx]; omega
      simp only [hji, if_false, hne] at hj ⊢
      by_cases hjl : j < a.length
      · simp only [hjl, if_true] at hj
        exact filled_loc_mono col idx _ w (hfit.1 j w hj)
      · -- a padding null, at an index between the length and `idx`: neither is known
        simp only [hjl, if_false] at hj
        by_cases hjx : j < idx
        · rw [if_pos hjx] at hj; cases hj
          have hnk : col.known.get (Key.ofIdx idx) = none := hunk idx (by omega)
          have hnj : col.known.get (Key.ofIdx j) = none := hunk j (by omega)
          have hr : 0 ≤ j ∧ j < 0 + idx := ⟨Nat.zero_le j, by omega⟩
          rw [filled_loc, Kind.inRange_ofIdx]
          simp only [KList.contains, hnk, hnj, Option.isSome_none, Bool.not_false, Bool.true_and, hr,
            Option.getD_none]
          cases col.unknownKind.withoutUndefined; rfl
        · rw [if_neg hjx] at hj; cases hj
  · -- beyond the new length nothing was filled: the location is as in `col`
    rw [VList.length_insertIdx_ofNat, Nat.max_le] at hk
    have hne : Key.ofIdx idx ≠ k := by rintro rfl; simp only [Key.ofIdx, Key.idx] at hk; omega
    rw [loc_insert, if_neg hne, filled_loc, if_neg]
    · exact hfit.2 k (by omega)
    · simp only [Bool.and_eq_true, not_and]
      intro _ hc
      unfold Kind.inRange at hc
      split at hc
      · simp only [decide_eq_true_eq] at hc
        simp only [Key.idx] at hk; omega
      · cases hc

theorem insertRec_nil (K X : Kind) (hX : X.isNever = false) : K.insertRec [] X = X := by
  simp [Kind.insertRec, hX]

theorem insertRec_field (K X : Kind) (f : Key) (rest : Path) (hX : X.isNever = false) :
    K.insertRec (.field f :: rest) X =
      Kind.ofObject (.mk ((K.object.getD Col.empty).known.insert f
        (Kind.insertRec ((K.object.getD Col.empty).loc f) rest X)) (K.object.getD Col.empty).unknown) := by
  simp [Kind.insertRec, hX, Col.loc]

theorem insertRec_index_nonneg (K X : Kind) (i : Int) (rest : Path) (hi : 0 ≤ i)
    (hX : X.isNever = false) :
    K.insertRec (.index i :: rest) X =
      Kind.ofArray (.mk ((filled (K.array.getD Col.empty) i.toNat).insert (Key.ofIdx i.toNat)
        (Kind.insertRec ((K.array.getD Col.empty).loc (Key.ofIdx i.toNat)) rest X))
        (K.array.getD Col.empty).unknown) := by
  have hneg : ¬ i < 0 := by omega
  generalize hcol : K.array.getD Col.empty = col
  cases col with
  | mk kn u =>
    have hfg := filled_get_idx (.mk kn u) i.toNat
    simp only [Kind.insertRec, hX, hneg, hcol, false_and, if_false, Bool.false_eq_true]
    simp only [filled, Col.loc, Col.known, Col.unknown, Col.unknownKind] at hfg ⊢
    rw [hfg]

/-- **`insert_recursive` is sound** along paths of fields and non-negative indices on which it meets
    neither an array kind with an optional known index nor a union kind whose collection state for the
    segment has a required known entry. -/
theorem insertRec_sound : (p : Path) → (c : Option Value) → (K : Kind) → (x : Value) → (X : Kind) →
    optSorted c = true → memOpt c K = true → mem x X = true → nonNegPath p = true →
    C19.anyOnInsertPath C19.optionalIdx K p = false →
    C19.anyOnInsertPath C19.unionAltReq K p = false →
    mem (Value.insertOpt c p x) (K.insertRec p X) = true
  | [], c, K, x, X, _, _, hx, _, _, _ => by
    rw [insertRec_nil K X (not_never_of_mem x X hx)]
    simpa [Value.insertOpt] using hx
  | .field f :: rest, c, K, x, X, hs, hc, hx, hp, h1, h2 => by
    have hX := not_never_of_mem x X hx
    simp only [nonNegPath, List.all_cons, Bool.and_eq_true] at hp
    simp only [C19.anyOnInsertPath, Bool.or_eq_false_iff] at h1 h2
    have hms := Value.asMap_sorted hs
    have hm := asMap_fits c K hs hc f h2.1
    have ih := insertRec_sound rest ((Value.asMap c).get f) _ x X
      (Value.child_sorted (.field f) hs)
      (hm f) hx hp.2 h1.2 h2.2
    rw [insertRec_field K X f rest hX]
    simp only [Value.insertOpt]
    exact field_insert_mem _ _ f _ _ (VMap.sortedKeys_of_sorted _ hms) hm ih
  | .index i :: rest, c, K, x, X, hs, hc, hx, hp, h1, h2 => by
    have hX := not_never_of_mem x X hx
    simp only [nonNegPath, List.all_cons, Bool.and_eq_true] at hp
    have hi : 0 ≤ i := by simpa [nonNegSeg] using hp.1
    simp only [C19.anyOnInsertPath, Bool.or_eq_false_iff] at h1 h2
    obtain ⟨hfit, hlen⟩ := asList_fits c K hc i h2.1 h1.1
    have hnext : C19.insertNext K (.index i) = (K.array.getD Col.empty).loc (Key.ofIdx i.toNat) := by
      simp [C19.insertNext, Int.not_lt.mpr hi, Col.loc]
    rw [hnext] at h1 h2
    have ih := insertRec_sound rest ((Value.asList c).getN i.toNat) _ x X
      (getIdx_nonneg _ i hi ▸ Value.child_sorted (.index i) hs)
      (hfit.at i.toNat) hx hp.2 h1.2 h2.2
    rw [insertRec_index_nonneg K X i rest hi hX]
    simp only [Value.insertOpt]
    rw [getIdx_nonneg _ i hi]
    have := index_insert_mem _ _ i.toNat _ _ hfit hlen ih
    rwa [Int.toNat_of_nonneg hi] at this

end Spec
