/-
  base16: the round trip for any digit function that `hexVal` reads back (`dec_digits`, and `decode_digits` behind the UTF-8
  conversion; the lower- and upper-case codecs are instances); hex digits are ASCII, so the UTF-8 conversion in front of
  `decode_base16` leaves them alone. base64: three bytes are four sextets below 64 (`sextets_lt`),
  `val ∘ sym` is the identity there, and the decoder recombines them by the Horner step of `Digits`
  (`dec_enc`); the alphabet has no `=`, so `stripPad` takes off exactly what the padded engine
  appended (`stripPad_enc`).
-/
import VrlModel.Codec.Base16
import VrlModel.Codec.Base64
import VrlProofs.Lemmas.C22Utf8
import VrlProofs.Lemmas.Digits

namespace Codec

theorem hexVal_hexLower : ∀ n, n < 16 → hexVal (hexLower n) = some n := by decide +kernel
theorem hexVal_hexUpper : ∀ n, n < 16 → hexVal (hexUpper n) = some n := by decide +kernel

/-- the characters `hexVal` reads: `0-9`, `a-f`, `A-F` -/
theorem hexVal_range {c : Nat} : ∀ x, hexVal c = some x →
    (48 ≤ c ∧ c ≤ 57) ∨ (97 ≤ c ∧ c ≤ 102) ∨ (65 ≤ c ∧ c ≤ 70) := by
  unfold hexVal
  repeat' refine of_ite_some (fun _ => by omega) fun _ => ?_
  nofun

theorem hexVal_ascii {c x : Nat} (h : hexVal c = some x) : c < 128 := by
  have := hexVal_range x h
  omega

namespace Base16

section
variable {d : Nat → Nat} {e : List Nat → List Nat} (hd : ∀ n, n < 16 → hexVal (d n) = some n)
  (nil : e [] = []) (cons : ∀ x r, e (x :: r) = d (x / 16) :: d (x % 16) :: e r)
include hd nil cons

theorem dec_digits : ∀ (b : List Nat), (∀ x ∈ b, x < 256) → dec (e b) = some b
  | [], _ => by rw [nil]; rfl
  | x :: r, hb => by
    obtain ⟨hx, hr⟩ := List.forall_mem_cons.mp hb
    rw [cons, dec, hd (x / 16) (Nat.div_lt_of_lt_mul hx), hd (x % 16) (Nat.mod_lt x (by decide)),
      dec_digits r hr]
    exact congrArg (some <| · :: r) (Nat.div_add_mod' x 16)

theorem digits_ascii : ∀ (b : List Nat), (∀ x ∈ b, x < 256) → ∀ y ∈ e b, y < 128
  | [], _ => by rw [nil]; nofun
  | x :: r, hb => by
    obtain ⟨hx, hr⟩ := List.forall_mem_cons.mp hb
    rw [cons]
    exact List.forall_mem_cons.mpr ⟨hexVal_ascii (hd (x / 16) (Nat.div_lt_of_lt_mul hx)),
      List.forall_mem_cons.mpr ⟨hexVal_ascii (hd (x % 16) (Nat.mod_lt x (by decide))), digits_ascii r hr⟩⟩

theorem decode_digits (b : List Nat) (hb : ∀ x ∈ b, x < 256) : decode (e b) = some b := by
  rw [decode, Utf8.lossy_ascii _ (digits_ascii hd nil cons b hb), dec_digits hd nil cons b hb]

end

theorem dec_enc : ∀ (b : List Nat), (∀ x ∈ b, x < 256) → dec (enc b) = some b :=
  dec_digits hexVal_hexLower rfl fun _ _ => rfl

theorem enc_ascii : ∀ (b : List Nat), (∀ x ∈ b, x < 256) → ∀ y ∈ enc b, y < 128 :=
  digits_ascii hexVal_hexLower rfl fun _ _ => rfl

theorem decode_enc (b : List Nat) (hb : ∀ x ∈ b, x < 256) : decode (enc b) = some b :=
  decode_digits hexVal_hexLower rfl (fun _ _ => rfl) b hb

/-- the same digits in upper case (what other base16 encoders produce). -/
def encUpper : List Nat → List Nat
  | [] => []
  | b :: rest => hexUpper (b / 16) :: hexUpper (b % 16) :: encUpper rest

theorem decode_encUpper (b : List Nat) (hb : ∀ x ∈ b, x < 256) : decode (encUpper b) = some b :=
  decode_digits hexVal_hexUpper rfl (fun _ _ => rfl) b hb

end Base16

namespace Base64

theorem val_sym (cs : Charset) : ∀ i, i < 64 → val cs (sym cs i) = some i := by
  cases cs <;> decide +kernel

theorem val_padByte (cs : Charset) : val cs padByte = none := by
  cases cs <;> rfl

theorem sym_ne_pad (cs : Charset) : ∀ i, i < 64 → (sym cs i == padByte) = false := fun i hi =>
  beq_false_of_ne fun e => by
    have := val_sym cs i hi
    rw [e, val_padByte] at this
    cases this

/-- the indices of the four symbols `enc` writes for three bytes; a final group of one or two bytes
    writes the first two or three of them with the missing bytes read as 0 -/
theorem sextets_lt {a b c : Nat} (ha : a < 256) (hb : b < 256) (hc : c < 256) :
    a / 4 < 64 ∧ a % 4 * 16 + b / 16 < 64 ∧ b % 16 * 4 + c / 64 < 64 ∧ c % 64 < 64 := by
  omega

/-- Three bytes are cut into four sextets, each below 64, that the decoder's arithmetic puts
    together again (`Digits.mul_add_div`, `mul_add_mod` in bases 16 and 4). A final group of one or two bytes is the
    same with the missing bytes read as 0, which leaves the last sextet written a multiple of 16 or 4. -/
theorem dec_enc (cs : Charset) : ∀ (b : List Nat), (∀ x ∈ b, x < 256) →
    dec cs (enc cs false b) = some b
  | [], _ => rfl
  | [a], h => by
    obtain ⟨s1, s2, -⟩ := sextets_lt (b := 0) (c := 0) (h a (by simp)) (by decide) (by decide)
    have s2 : a % 4 * 16 < 64 := s2
    rw [enc, if_neg Bool.false_ne_true, dec, val_sym cs _ s1, val_sym cs _ s2]
    simp only [Nat.mul_mod_left, if_true, Nat.mul_div_cancel _ (Nat.zero_lt_succ 15), Nat.div_add_mod']
  | [a, b], h => by
    have hb : b < 256 := h b (by simp)
    have hb16 : b / 16 < 16 := Nat.div_lt_of_lt_mul hb
    obtain ⟨s1, s2, s3, -⟩ := sextets_lt (c := 0) (h a (by simp)) hb (by decide)
    have s3 : b % 16 * 4 < 64 := s3
    rw [enc, if_neg Bool.false_ne_true, dec, val_sym cs _ s1, val_sym cs _ s2, val_sym cs _ s3]
    simp only [Nat.mul_mod_left, if_true, Nat.mul_div_cancel _ (Nat.zero_lt_succ 3),
      Digits.mul_add_div _ _ hb16, Digits.mul_add_mod _ _ hb16, Nat.div_add_mod']
  | a :: b :: c :: rest, h => by
    have hb : b < 256 := h b (by simp)
    have hc : c < 256 := h c (by simp)
    have hb16 : b / 16 < 16 := Nat.div_lt_of_lt_mul hb
    have hc64 : c / 64 < 4 := Nat.div_lt_of_lt_mul hc
    obtain ⟨s1, s2, s3, s4⟩ := sextets_lt (h a (by simp)) hb hc
    rw [enc, dec, val_sym cs _ s1, val_sym cs _ s2, val_sym cs _ s3, val_sym cs _ s4,
      dec_enc cs rest fun z hz => h z (by simp [hz])]
    simp only [Digits.mul_add_div _ _ hb16, Digits.mul_add_mod _ _ hb16, Digits.mul_add_div _ _ hc64,
      Digits.mul_add_mod _ _ hc64, Nat.div_add_mod']

theorem enc_no_pad (cs : Charset) : ∀ (b : List Nat), (∀ x ∈ b, x < 256) →
    ∀ y ∈ enc cs false b, (y == padByte) = false
  | [], _ => nofun
  | [a], h => by
    obtain ⟨s1, s2, -⟩ := sextets_lt (b := 0) (c := 0) (h a (by simp)) (by decide) (by decide)
    have s2 : a % 4 * 16 < 64 := s2
    rw [enc, if_neg Bool.false_ne_true]
    exact List.forall_mem_cons.mpr ⟨sym_ne_pad cs _ s1,
      List.forall_mem_cons.mpr ⟨sym_ne_pad cs _ s2, nofun⟩⟩
  | [a, b], h => by
    obtain ⟨s1, s2, s3, -⟩ := sextets_lt (c := 0) (h a (by simp)) (h b (by simp)) (by decide)
    have s3 : b % 16 * 4 < 64 := s3
    rw [enc, if_neg Bool.false_ne_true]
    exact List.forall_mem_cons.mpr ⟨sym_ne_pad cs _ s1, List.forall_mem_cons.mpr ⟨sym_ne_pad cs _ s2,
      List.forall_mem_cons.mpr ⟨sym_ne_pad cs _ s3, nofun⟩⟩⟩
  | a :: b :: c :: rest, h => by
    obtain ⟨s1, s2, s3, s4⟩ := sextets_lt (h a (by simp)) (h b (by simp)) (h c (by simp))
    rw [enc]
    exact List.forall_mem_cons.mpr ⟨sym_ne_pad cs _ s1, List.forall_mem_cons.mpr ⟨sym_ne_pad cs _ s2,
      List.forall_mem_cons.mpr ⟨sym_ne_pad cs _ s3, List.forall_mem_cons.mpr ⟨sym_ne_pad cs _ s4,
      enc_no_pad cs rest fun z hz => h z (by simp [hz])⟩⟩⟩⟩

/-- number of `=` the padded engine appends. -/
def padLen (n : Nat) : Nat := (3 - n % 3) % 3

theorem enc_pad (cs : Charset) : ∀ (b : List Nat),
    enc cs true b = enc cs false b ++ List.replicate (padLen b.length) padByte
  | [] => rfl
  | [_] => rfl
  | [_, _] => rfl
  | a :: b :: c :: rest => by
    have hl : padLen (rest.length + 3) = padLen rest.length :=
      congrArg (fun r => (3 - r) % 3) (Nat.add_mod_right rest.length 3)
    rw [enc, enc, enc_pad cs rest, List.length_cons, List.length_cons, List.length_cons, hl]
    rfl

theorem enc_ne_nil (cs : Charset) (pad : Bool) : ∀ {b : List Nat}, b ≠ [] → enc cs pad b ≠ []
  | [], h => absurd rfl h
  | [_], _ => by rw [enc]; nofun
  | [_, _], _ => by rw [enc]; nofun
  | _ :: _ :: _ :: _, _ => by rw [enc]; nofun

theorem stripPad_append {y : List Nat} (k : Nat) (hy : ∀ x ∈ y, (x == padByte) = false)
    (hne : y ≠ []) : stripPad (y ++ List.replicate k padByte) = y := by
  have hdrop : ∀ l : List Nat, (∀ x ∈ l, (x == padByte) = false) → l.dropWhile (· == padByte) = l := by
    intro l hl
    cases l with
    | nil => rfl
    | cons a t => exact List.dropWhile_cons_of_neg (by simp [hl a])
  obtain ⟨a, t, rfl⟩ := List.exists_cons_of_ne_nil hne
  have hall : ((a :: t) ++ List.replicate k padByte).all (· == padByte) = false := by
    simp [hy a]
  rw [stripPad, hall, if_neg Bool.false_ne_true, List.reverse_append, List.reverse_replicate,
    List.dropWhile_append, List.dropWhile_replicate]
  simp only [beq_self_eq_true, if_true, List.isEmpty_nil]
  rw [hdrop _ fun x hx => hy x (List.mem_reverse.mp hx), List.reverse_reverse]

theorem stripPad_enc (cs : Charset) (pad : Bool) (b : List Nat) (h : ∀ x ∈ b, x < 256) :
    stripPad (enc cs pad b) = enc cs false b := by
  by_cases hb : b = []
  · subst hb; rfl
  · have := stripPad_append (if pad then padLen b.length else 0) (enc_no_pad cs b h) (enc_ne_nil cs false hb)
    cases pad
    · rwa [if_neg Bool.false_ne_true, List.replicate_zero, List.append_nil] at this
    · rwa [if_pos rfl, ← enc_pad] at this

end Base64
end Codec
