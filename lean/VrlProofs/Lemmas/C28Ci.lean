import VrlModel.C28
import VrlProofs.Lemmas.C28Str

/-! Lemmas for case-insensitive `starts_with` (C28): on valid UTF-8 the hand-written char iterator
    yields the chars of the string, so the function is the char-wise comparison `ciPrefix`; how
    `ciPrefix` relates to "lower-case both strings, then compare". -/
namespace Str
open C28

/-- `char::to_lowercase` on ASCII is `to_ascii_lowercase` (the `eq_ignore_ascii_case` shortcut of
    starts_with.rs is the general rule there).  Holds for every `CaseMap.withAscii _`. -/
def AsciiLower (cm : CaseMap) : Prop := ∀ c, c < 128 → cm.toLower c = [asciiLower c]

theorem asciiLower_ascii : AsciiLower CaseMap.ascii := fun _ _ => rfl

theorem asciiLower_withAscii (t : CaseMap) : AsciiLower t.withAscii := by
  intro c hc
  simp [CaseMap.withAscii, hc, CaseMap.ascii]

theorem charsNext_multi (b : Nat) (rest : List Nat) (c w : Nat) (hw : utf8Width b = w) (h2 : 2 ≤ w)
    (hl : w ≤ (b :: rest).length) (hd : decodeLossy ((b :: rest).take w) = [c]) :
    charsNext (b :: rest) = some (.ok c, (b :: rest).drop w) := by
  subst hw
  simp only [charsNext]
  rw [if_neg (by omega), if_neg (by omega), if_neg (by omega), hd]

theorem utf8Width_2 (a : Nat) (h : a < 32) (h2 : 2 ≤ a) : utf8Width (0xC0 + a) = 2 := by
  rw [utf8Width, if_neg (by omega), if_pos (by omega)]

theorem utf8Width_3 (a : Nat) (h : a < 16) : utf8Width (0xE0 + a) = 3 := by
  rw [utf8Width, if_neg (by omega), if_neg (by omega), if_pos (by omega)]

theorem utf8Width_4 (a : Nat) (h : a < 5) : utf8Width (0xF0 + a) = 4 := by
  rw [utf8Width, if_neg (by omega), if_neg (by omega), if_neg (by omega), if_pos (by omega)]

theorem charsNext_encodeCp (c : Nat) (h : isScalar c = true) (tail : List Nat) :
    charsNext (encodeCp c ++ tail) = some (.ok c, tail) := by
  have hd := decodeLossy_encodeCp c h
  have hc := Utf8.code_of_scalar h
  generalize encodeCp c = bs at hd hc
  cases hc with
  | one h =>
    have hw : utf8Width c = 1 := if_pos (by omega)
    simp [charsNext, hw]
  | two a d h1 hn hlo hhi =>
    exact charsNext_multi _ _ c 2 (utf8Width_2 a hhi hlo) (by decide) (by simp) hd
  | three a d₁ d₂ h1 h2 hn hlo ha =>
    exact charsNext_multi _ _ c 3 (utf8Width_3 a ha) (by decide) (by simp) hd
  | four a d₁ d₂ d₃ h1 h2 h3 hn hlo _ =>
    subst hn
    exact charsNext_multi _ _ _ 4 (utf8Width_4 a (Utf8.second4 h1 h2 h3 hlo h).1) (by decide) (by simp) hd

theorem ciEq_eq_foldEq (cm : CaseMap) (h : AsciiLower cm) (a b : Nat) : ciEq cm a b = foldEq cm a b := by
  unfold ciEq foldEq
  split
  · rename_i hab
    rw [h a hab.1, h b hab.2, Bool.eq_iff_iff]
    simp
  · rfl

theorem ciAll_encode (cm : CaseMap) (h : AsciiLower cm) : (cs cv : List Nat) → (fuel : Nat) →
    (∀ c ∈ cs, isScalar c = true) → (∀ c ∈ cv, isScalar c = true) → cs.length < fuel →
    ciAll cm fuel (encode cs) (encode cv) = ciPrefix cm cs cv
  | _, _, 0, _, _, hf => by omega
  | [], _, _ + 1, _, _, _ => by simp [ciAll, encode, charsNext, ciPrefix]
  | a :: cs, [], _ + 1, hs, _, _ => by
    simp only [ciAll, encode, charsNext_encodeCp a (hs a (by simp))]
    simp [charsNext, ciPrefix]
  | a :: cs, b :: cv, fuel + 1, hs, hv, hf => by
    have ih := ciAll_encode cm h cs cv fuel (fun c hc => hs c (by simp [hc]))
      (fun c hc => hv c (by simp [hc])) (by simp at hf; omega)
    simp only [ciAll, encode, charsNext_encodeCp a (hs a (by simp)),
      charsNext_encodeCp b (hv b (by simp)), ih, ciPrefix, ciEq_eq_foldEq cm h]

/-- `flatMap toLower` is lower-casing char by char: `downcaseCp` where no `Σ` occurs (`downcaseCp_noSigma`) -/
theorem ciPrefix_sound (cm : CaseMap) : (cs cv : List Nat) → ciPrefix cm cs cv = true →
    cs.flatMap cm.toLower <+: cv.flatMap cm.toLower
  | [], _, _ => by simp
  | _ :: _, [], h => by simp [ciPrefix] at h
  | a :: cs, b :: cv, h => by
    simp only [ciPrefix, foldEq, Bool.and_eq_true, beq_iff_eq] at h
    have ih := ciPrefix_sound cm cs cv h.2
    simp only [List.flatMap_cons, h.1]
    exact (List.prefix_append_right_inj _).mpr ih

theorem ciPrefix_complete (cm : CaseMap) : (cs cv : List Nat) →
    singleLower cm cs = true → singleLower cm cv = true →
    cs.flatMap cm.toLower <+: cv.flatMap cm.toLower → ciPrefix cm cs cv = true
  | [], _, _, _, _ => rfl
  | a :: cs, [], hs, _, hp => by
    simp only [singleLower, List.all_cons, Bool.and_eq_true, beq_iff_eq] at hs
    have : (cm.toLower a).length = 0 := by
      have := hp.length_le
      simp at this
      simp [this.1]
    omega
  | a :: cs, b :: cv, hs, hv, hp => by
    simp only [singleLower, List.all_cons, Bool.and_eq_true, beq_iff_eq] at hs hv
    obtain ⟨x, hx⟩ := List.length_eq_one_iff.mp hs.1
    obtain ⟨y, hy⟩ := List.length_eq_one_iff.mp hv.1
    simp only [List.flatMap_cons, hx, hy, List.singleton_append, List.cons_prefix_cons] at hp
    have ih := ciPrefix_complete cm cs cv hs.2 hv.2 hp.2
    simp [ciPrefix, foldEq, hx, hy, hp.1, ih]

end Str
