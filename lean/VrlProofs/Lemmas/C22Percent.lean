/-
  percent: an escaped byte comes back from its two hex digits, and any other byte is copied by both
  sides, except a literal `%` in front of two hex digits (`literalEscape`), which the decoder takes
  for an escape; hex digits are alphanumeric and no set escapes those, so the encoder cannot break
  such a triple up. Hence `decRaw ∘ encRaw` is the identity exactly on `roundTripOK`; where it is
  not, three ASCII bytes have become one byte, which no map that keeps the ASCII bytes (`id`,
  `Utf8.lossy`) undoes (`roundtrip_iff_of_ascii`).
-/
import VrlModel.Codec.Percent
import VrlProofs.Lemmas.C22Base

namespace Codec.Percent
open Codec

def startsHex2 : List Nat → Bool
  | h :: l :: _ => isHex h && isHex l
  | _ => false

theorem hasPctHex_cons (b : Nat) (rest : List Nat) :
    hasPctHex (b :: rest) = ((b == pct && startsHex2 rest) || hasPctHex rest) := by
  cases rest with
  | nil => rfl
  | cons h t => cases t <;> rfl

theorem isHex_iff (c : Nat) : isHex c = true ↔ ∃ x, hexVal c = some x := by
  unfold isHex
  cases hexVal c <;> simp

theorem isAlnum_of_hexVal {c x : Nat} (h : hexVal c = some x) : isAlnum c = true := by
  have := hexVal_range x h
  simp [isAlnum]
  omega

theorem added_not_alnum : ∀ l ∈ [fragmentAdd, queryAdd, specialAdd, pathAdd, userinfoAdd, componentAdd,
    wwwFormAdd], ∀ x ∈ l, isAlnum x = false := by decide +kernel

/-- `NON_ALPHANUMERIC` by definition; the others hold only controls and punctuation. -/
theorem alnum_not_escaped (set : AsciiSet) {c : Nat} (h : isAlnum c = true) : set.escapes c = false := by
  have hc : 48 ≤ c ∧ c ≤ 122 := by simp [isAlnum] at h; omega
  have h128 : decide (128 ≤ c) = false := decide_eq_false (by omega)
  have hctl : isControl c = false := by simp [isControl]; omega
  have hadd : ∀ {l}, l ∈ [fragmentAdd, queryAdd, specialAdd, pathAdd, userinfoAdd, componentAdd, wwwFormAdd] →
      l.contains c = false := fun hl =>
    Bool.eq_false_iff.mpr fun hm => by simpa [h] using added_not_alnum _ hl c (List.contains_iff_mem.mp hm)
  cases set <;> simp only [AsciiSet.escapes, AsciiSet.contains, h128, hctl, h, Bool.false_or, Bool.not_true]
  · exact Bool.and_false _
  all_goals exact hadd (by decide)

theorem isHex_pct : isHex pct = false := by decide

theorem isHex_hexUpper : ∀ n, n < 16 → isHex (hexUpper n) = true := fun n h => by
  rw [isHex, hexVal_hexUpper n h]; rfl

theorem decRaw_escape (h l x y : Nat) (r : List Nat) (hx : hexVal h = some x) (hy : hexVal l = some y) :
    decRaw (pct :: h :: l :: r) = (x * 16 + y) :: decRaw r := by
  simp [decRaw, hx, hy]

theorem decRaw_other (b : Nat) (r : List Nat) (hb : b ≠ pct) : decRaw (b :: r) = b :: decRaw r := by
  match r with
  | [] => rfl
  | [_] => rfl
  | h :: l :: r' => rw [decRaw, if_neg hb]

theorem decRaw_literal (r : List Nat) (hr : startsHex2 r = false) :
    decRaw (pct :: r) = pct :: decRaw r := by
  match r with
  | [] => rfl
  | [_] => rfl
  | h :: l :: r' =>
    rw [decRaw, if_pos rfl]
    cases hh : hexVal h <;> cases hl : hexVal l <;> simp [startsHex2, isHex, hh, hl] at hr ⊢

theorem startsHex2_encRaw (set : AsciiSet) (s : List Nat) :
    startsHex2 (encRaw set s) = true → startsHex2 s = true := by
  match s with
  | [] => simp [encRaw, startsHex2]
  | [a] =>
    simp only [encRaw]
    split
    · simp [startsHex2, isHex_pct]
    · simp [startsHex2]
  | a :: b :: r =>
    simp only [encRaw]
    split
    · simp [startsHex2, isHex_pct]
    · split
      · simp [startsHex2, isHex_pct]
      · simp [startsHex2]

theorem hexVal_ne_pct {c x : Nat} (h : hexVal c = some x) : c ≠ pct := by
  have := hexVal_range x h
  unfold pct
  omega

/-- `b :: rest` begins with a `%` that the set leaves alone in front of two hex digits: the decoder
    will take the three bytes for an escape. -/
def literalEscape (set : AsciiSet) (b : Nat) (rest : List Nat) : Bool :=
  !set.escapes pct && (b == pct && startsHex2 rest)

theorem roundTripOK_cons (set : AsciiSet) (b : Nat) (rest : List Nat) :
    roundTripOK set (b :: rest) = (!literalEscape set b rest && roundTripOK set rest) := by
  rw [roundTripOK, roundTripOK, hasPctHex_cons, literalEscape]
  cases set.escapes pct <;> cases (b == pct && startsHex2 rest) <;> rfl

theorem decRaw_encRaw_cons (set : AsciiSet) {b : Nat} (rest : List Nat) (hb : b < 256)
    (h : literalEscape set b rest = false) :
    decRaw (encRaw set (b :: rest)) = b :: decRaw (encRaw set rest) := by
  rw [encRaw]
  split
  · rw [decRaw_escape _ _ _ _ _ (hexVal_hexUpper _ (Nat.div_lt_of_lt_mul hb))
      (hexVal_hexUpper _ (Nat.mod_lt b (by decide))), Nat.div_add_mod']
  · rename_i hesc
    by_cases hp : b = pct
    · subst hp
      refine decRaw_literal _ (Bool.eq_false_iff.mpr fun hh => ?_)
      simp [literalEscape, hesc, startsHex2_encRaw set rest hh] at h
    · exact decRaw_other _ _ hp

theorem literalEscape_true {set : AsciiSet} {b : Nat} : ∀ {rest : List Nat}, literalEscape set b rest = true →
    set.escapes pct = false ∧ b = pct ∧
      ∃ h l r x y, rest = h :: l :: r ∧ hexVal h = some x ∧ hexVal l = some y
  | h :: l :: r, hh => by
    simp only [literalEscape, startsHex2, Bool.and_eq_true, Bool.not_eq_eq_eq_not, Bool.not_true,
      beq_iff_eq, isHex_iff] at hh
    obtain ⟨hesc, hb, ⟨x, hx⟩, y, hy⟩ := hh
    exact ⟨hesc, hb, h, l, r, x, y, rfl, hx, hy⟩
  | [], hh | [_], hh => by simp [literalEscape, startsHex2] at hh

section
variable (set : AsciiSet) {h l x y : Nat} (r : List Nat) (hx : hexVal h = some x) (hy : hexVal l = some y)
include hx hy

theorem encRaw_hex2 : encRaw set (h :: l :: r) = h :: l :: encRaw set r := by
  rw [encRaw, alnum_not_escaped set (isAlnum_of_hexVal hx), encRaw,
    alnum_not_escaped set (isAlnum_of_hexVal hy)]
  rfl

theorem decRaw_encRaw_hex2 : decRaw (encRaw set (h :: l :: r)) = h :: l :: decRaw (encRaw set r) := by
  rw [encRaw_hex2 set r hx hy, decRaw_other _ _ (hexVal_ne_pct hx), decRaw_other _ _ (hexVal_ne_pct hy)]

theorem decRaw_encRaw_pct_hex2 (hesc : set.escapes pct = false) :
    decRaw (encRaw set (pct :: h :: l :: r)) = (x * 16 + y) :: decRaw (encRaw set r) := by
  rw [encRaw, hesc, encRaw_hex2 set r hx hy]
  exact decRaw_escape _ _ _ _ _ hx hy

end

theorem decRaw_encRaw (set : AsciiSet) : ∀ (s : List Nat), (∀ x ∈ s, x < 256) →
    roundTripOK set s = true → decRaw (encRaw set s) = s
  | [], _, _ => rfl
  | b :: rest, hs, hok => by
    obtain ⟨hb, hrest⟩ := List.forall_mem_cons.mp hs
    rw [roundTripOK_cons, Bool.and_eq_true, Bool.not_eq_eq_eq_not, Bool.not_true] at hok
    rw [decRaw_encRaw_cons set rest hb hok.1, decRaw_encRaw set rest hrest hok.2]

theorem ascii_decRaw_encRaw (set : AsciiSet) : ∀ (s : List Nat), (∀ x ∈ s, x < 256) →
    (Utf8.ascii (decRaw (encRaw set s))).length ≤ (Utf8.ascii s).length ∧
    (roundTripOK set s = false → (Utf8.ascii (decRaw (encRaw set s))).length < (Utf8.ascii s).length)
  | [], _ => ⟨Nat.le_refl _, fun h => by simp [roundTripOK, hasPctHex] at h⟩
  | b :: rest, hs => by
    obtain ⟨hb, hrest⟩ := List.forall_mem_cons.mp hs
    rw [roundTripOK_cons]
    have ih := ascii_decRaw_encRaw set rest hrest
    cases hlit : literalEscape set b rest
    · rw [decRaw_encRaw_cons set rest hb hlit, Utf8.ascii_length_cons, Utf8.ascii_length_cons b]
      exact ⟨Nat.add_le_add_right ih.1 _, fun h => Nat.add_lt_add_right (ih.2 h) _⟩
    · -- the recursion is on `rest = h :: l :: r`; `h`, `l` pass through unchanged, so it speaks of `r`
      obtain ⟨hesc, rfl, h, l, r, x, y, rfl, hx, hy⟩ := literalEscape_true hlit
      have hb : (if x * 16 + y < 128 then 1 else 0) ≤ 1 := by split <;> decide
      rw [decRaw_encRaw_hex2 set r hx hy] at ih
      rw [decRaw_encRaw_pct_hex2 set r hx hy hesc, Utf8.ascii_length_cons,
        Utf8.ascii_cons_lt _ (show pct < 128 by decide)]
      simp only [Utf8.ascii_cons_lt _ (hexVal_ascii hx), Utf8.ascii_cons_lt _ (hexVal_ascii hy),
        List.length_cons] at ih ⊢
      have := ih.1
      suffices h : _ < _ from ⟨Nat.le_of_lt h, fun _ => h⟩
      omega

/-- `f` is `id`, or `Utf8.lossy` on UTF-8 text. Where the raw round trip fails, a literal `%hl` was
    read as an escape: three ASCII bytes became one byte, the decoded text has fewer ASCII bytes
    than `s`, and `f` does not bring them back. -/
theorem roundtrip_iff_of_ascii {f : List Nat → List Nat} (hf : ∀ l, Utf8.ascii (f l) = Utf8.ascii l)
    (set : AsciiSet) {s : List Nat} (hs : ∀ x ∈ s, x < 256) (hfs : f s = s) :
    f (decRaw (encRaw set s)) = s ↔ roundTripOK set s = true := by
  constructor
  · intro h
    cases hok : roundTripOK set s with
    | true => rfl
    | false =>
      have hlt := (ascii_decRaw_encRaw set s hs).2 hok
      rw [← hf, h] at hlt
      omega
  · intro hok
    rw [decRaw_encRaw set s hs hok, hfs]

end Codec.Percent
