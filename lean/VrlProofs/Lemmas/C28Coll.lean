import VrlModel.C28
import VrlProofs.Lemmas.Sorted

/-! The collection laws of C28 (`VrlModel/Coll.lean` against the Spec predicates of `VrlModel/C28.lean`):
    slice, unique, compact, keys/values/length, merge; `Value`'s `==` is lawful. -/

instance : LawfulBEq Value where
  eq_of_beq {a b} h := (Value.beq_iff a b).mp h
  rfl {a} := (Value.beq_iff a a).mpr rfl

namespace Coll

theorem toList_ofList : (xs : List Value) → toList (ofList xs) = xs
  | [] => rfl
  | x :: xs => by simp [toList, ofList, toList_ofList xs]

theorem length_toList : (xs : VList) → (toList xs).length = xs.length
  | .nil => rfl
  | .cons _ xs => by simp [toList, VList.length, length_toList xs]

/-! `sliceRange'` and `specCore` are `sliceRange` and `C28.specSliceL` with their `let`s for the
  normalised start `s` and end `en` turned into arguments; the model's functions unfold to them. -/

def sliceRange' (s en : Int) (len : Nat) : Option (Nat × Nat) :=
  if s < 0 ∨ s > (len : Int) then none
  else if en < s then none
  else if en > (len : Int) then some (s.toNat, len)
  else some (s.toNat, en.toNat)

def specCore {α : Type} [BEq α] (xs : List α) (start s en : Int) (w : Option (List α)) : Bool :=
  match w with
  | none => !(decide (0 ≤ s) && decide (s ≤ (xs.length : Int)) && decide (s ≤ en))
  | some w =>
    decide (0 ≤ s) && decide (s ≤ (xs.length : Int)) && decide (s ≤ en) &&
      decide ((w.length : Int) = min en (xs.length : Int) - s) &&
    (List.range w.length).all fun k => w[k]? == C28.idx xs (start + k)

theorem idx_at {α : Type} (xs : List α) (start : Int) (i k : Nat)
    (hs : (if start < 0 then start + (xs.length : Int) else start) = (i : Int))
    (hk : i + k < xs.length) : C28.idx xs (start + k) = xs[i + k]? := by
  unfold C28.idx
  split at hs
  · rw [if_neg (by omega), if_pos (by omega)]
    congr 1; omega
  · rw [if_pos (by omega)]
    congr 1; omega

theorem specCore_ok {α : Type} [BEq α] [LawfulBEq α] (xs : List α) (start s en : Int)
    (hs : (if start < 0 then start + (xs.length : Int) else start) = s) :
    specCore xs start s en
      ((sliceRange' s en xs.length).map fun p => (xs.drop p.1).take (p.2 - p.1)) = true := by
  by_cases hv : (0 ≤ s ∧ s ≤ (xs.length : Int)) ∧ s ≤ en
  · obtain ⟨i, rfl⟩ : ∃ i : Nat, s = i := ⟨s.toNat, by omega⟩
    -- the slice is `xs[i, j)` with `j = min en len`
    obtain ⟨j, hj, hr⟩ : ∃ j : Nat, min en xs.length = j ∧ sliceRange' i en xs.length = some (i, j) := by
      unfold sliceRange'
      rw [if_neg (by omega), if_neg (by omega)]
      split
      · exact ⟨xs.length, by omega, rfl⟩
      · exact ⟨en.toNat, by omega, rfl⟩
    have hlen : ((xs.drop i).take (j - i)).length = j - i := by
      rw [List.length_take, List.length_drop]; omega
    simp only [hr, specCore, Option.map_some, hj, hlen, Bool.and_eq_true, decide_eq_true_eq,
      List.all_eq_true, List.mem_range, beq_iff_eq]
    refine ⟨⟨hv, by omega⟩, fun k hk => ?_⟩
    rw [List.getElem?_take, if_pos hk, List.getElem?_drop]
    exact (idx_at xs start i k hs (by omega)).symm
  · have hr : sliceRange' s en xs.length = none := by
      unfold sliceRange'
      by_cases h1 : s < 0 ∨ s > (xs.length : Int)
      · rw [if_pos h1]
      · rw [if_neg h1, if_pos (by omega)]
    simp only [hr, specCore, Option.map_none, Bool.not_eq_true', ← Bool.not_eq_true, Bool.and_eq_true,
      decide_eq_true_eq]
    exact hv

theorem specSliceL_ok {α : Type} [BEq α] [LawfulBEq α] (xs : List α) (start : Int) (e : Option Int) :
    C28.specSliceL xs start e
      ((sliceRange start e xs.length).map fun p => (xs.drop p.1).take (p.2 - p.1)) = true := by
  cases e with
  | none => exact specCore_ok xs start _ (xs.length : Int) rfl
  | some e0 => exact specCore_ok xs start _ (if e0 < 0 then e0 + (xs.length : Int) else e0) rfl

theorem veq_refl (a : Value) : veq a a = true := by simp [veq]
theorem veq_symm (a b : Value) : veq a b = veq b a := by simp [veq, eq_comm]
theorem veq_congr {x z : Value} (h : veq x z = true) : veq x = veq z := by
  funext s
  simp only [veq, of_decide_eq_true h]

theorem veq_trans (a b c : Value) (h1 : veq a b = true) (h2 : veq b c = true) : veq a c = true := by
  rw [veq_congr h1]; exact h2

/-- `uniqueGo` compares with the kept values only, the Spec with every earlier value: the same,
    because every earlier value equals a kept one. -/
theorem uniqueGo_eq : (xs seen pre : List Value) →
    (∀ z, seen.any (veq z) = pre.any (fun y => veq y z)) → uniqueGo seen xs = C28.firstOccsFrom pre xs
  | [], _, _, _ => rfl
  | x :: xs, seen, pre, H => by
    rw [uniqueGo, C28.firstOccsFrom, H x]
    by_cases hdup : pre.any (fun y => veq y x) = true
    · rw [if_pos hdup, if_pos hdup]
      refine uniqueGo_eq xs seen (x :: pre) fun z => ?_
      rw [List.any_cons, ← H z]
      cases hxz : veq x z
      · rfl
      · rw [← veq_congr hxz, H x, hdup]; rfl
    · rw [if_neg hdup, if_neg hdup]
      congr 1
      refine uniqueGo_eq xs (x :: seen) (x :: pre) fun z => ?_
      rw [List.any_cons, List.any_cons, H z, veq_symm]

theorem uniqueGo_fresh (xs seen : List Value) : ∀ y ∈ uniqueGo seen xs, seen.any (veq y) = false := by
  fun_induction uniqueGo seen xs <;> intro y hy
  case case1 => cases hy
  case case2 ih => exact ih y hy
  case case3 seen x xs hx ih =>
    rcases List.mem_cons.mp hy with rfl | hy
    · exact Bool.eq_false_iff.mpr hx
    · have := ih y hy
      rw [List.any_cons, Bool.or_eq_false_iff] at this
      exact this.2

theorem distinct_uniqueGo (xs seen : List Value) : C28.distinct (uniqueGo seen xs) = true := by
  fun_induction uniqueGo seen xs
  case case1 => rfl
  case case2 ih => exact ih
  case case3 seen x xs _ ih =>
    rw [C28.distinct, ih, Bool.and_true, Bool.not_eq_true', List.any_eq_false]
    intro y hy hv
    have := uniqueGo_fresh xs (x :: seen) y hy
    rw [List.any_cons, veq_symm, hv] at this
    cases this

theorem uniqueGo_sublist (xs seen : List Value) : (uniqueGo seen xs).Sublist xs := by
  fun_induction uniqueGo seen xs
  case case1 => exact .slnil
  case case2 x _ _ ih => exact ih.cons x
  case case3 x _ _ ih => exact ih.cons_cons x

theorem uniqueGo_covers (xs seen : List Value) : ∀ x ∈ xs,
    seen.any (veq x) = true ∨ ∃ y ∈ uniqueGo seen xs, veq y x = true := by
  fun_induction uniqueGo seen xs <;> intro z hz
  case case1 => cases hz
  case case2 seen a xs ha ih =>
    rcases List.mem_cons.mp hz with rfl | hz
    · exact .inl ha
    · exact ih z hz
  case case3 seen a xs _ ih =>
    rcases List.mem_cons.mp hz with rfl | hz
    · exact .inr ⟨z, List.mem_cons_self, veq_refl z⟩
    · rcases ih z hz with h | ⟨y, hy, hv⟩
      · rw [List.any_cons, Bool.or_eq_true] at h
        rcases h with h | h
        · exact .inr ⟨a, List.mem_cons_self, by rw [veq_symm]; exact h⟩
        · exact .inl h
      · exact .inr ⟨y, List.mem_cons_of_mem _ hy, hv⟩

theorem specUnique_ok (xs : List Value) : C28.specUnique xs (uniqueL xs) = true := by
  unfold C28.specUnique uniqueL C28.firstOccs
  have h := uniqueGo_eq xs [] [] fun _ => rfl
  have d := distinct_uniqueGo xs []
  rw [h] at d ⊢
  simp [d]

theorem compactValue_nonrec (o : CompactOptions) (h : o.recursive = false) (v : Value) :
    compactValue o v = v := by
  cases v <;> simp [compactValue, h]

theorem subL_skip (deep : Bool) (x : Value) (xs : VList) : (rs : VList) → C28.subL deep xs rs = true →
    C28.subL deep (.cons x xs) rs = true
  | .nil, _ => by simp [C28.subL]
  | .cons r rs, h => by simp [C28.subL, h]

theorem subM_skip (deep : Bool) (k : List Nat) (x : Value) (m : VMap) : (rm : VMap) →
    C28.subM deep m rm = true → C28.subM deep (.cons k x m) rm = true
  | .nil, _ => by simp [C28.subM]
  | .cons l r rm, h => by simp [C28.subM, h]

/-- What `cleanL`/`cleanM` and `subL`/`subM` ask of one member `v` and its image: with `o.recursive`
    the image is clean and `v` with members deleted at every depth (`ih`); without, it is `v` itself. -/
theorem compact_member_ok (o : CompactOptions) (v : Value)
    (ih : o.recursive = true → C28.cleanV o (compactValue o v) = true ∧
      C28.subV true v (compactValue o v) = true ∧ (C28.cleanV o v = true → compactValue o v = v)) :
    (!o.recursive || C28.cleanV o (compactValue o v)) = true ∧
    (if o.recursive then C28.subV o.recursive v (compactValue o v) else v == compactValue o v) = true ∧
    ((!o.recursive || C28.cleanV o v) = true → compactValue o v = v) := by
  cases hr : o.recursive
  · simp [compactValue_nonrec o hr]
  · obtain ⟨c, s, f⟩ := ih hr
    simpa [hr, c, s] using f

/-! The three clauses of `specCompact` at every level: clean, only deletions, a clean input unchanged. -/
mutual
  theorem compactValue_ok (o : CompactOptions) (h : o.recursive = true) : (v : Value) →
      C28.cleanV o (compactValue o v) = true ∧ C28.subV true v (compactValue o v) = true ∧
      (C28.cleanV o v = true → compactValue o v = v)
    | .arr xs => by
      have := compactList_ok o xs
      rw [h] at this
      rw [show compactValue o (.arr xs) = .arr (compactList o xs) by simp [compactValue, h], C28.cleanV, C28.subV,
        C28.cleanV, Value.arr.injEq]
      exact this
    | .obj m => by
      have := compactMap_ok o m
      rw [h] at this
      rw [show compactValue o (.obj m) = .obj (compactMap o m) by simp [compactValue, h], C28.cleanV, C28.subV,
        C28.cleanV, Value.obj.injEq]
      exact this
    | .null | .bool _ | .int _ | .float _ | .bytes _ | .ts _ | .regex _ => by
      simp [compactValue, C28.cleanV, C28.subV]
  theorem compactList_ok (o : CompactOptions) : (xs : VList) →
      C28.cleanL o (compactList o xs) = true ∧ C28.subL o.recursive xs (compactList o xs) = true ∧
      (C28.cleanL o xs = true → compactList o xs = xs)
    | .nil => by simp [compactList, C28.cleanL, C28.subL]
    | .cons v vs => by
      obtain ⟨c, s, f⟩ := compact_member_ok o v fun h => compactValue_ok o h v
      obtain ⟨cl, sl, fl⟩ := compactList_ok o vs
      refine ⟨?_, ?_, fun hc => ?_⟩
      · simp only [compactList]
        split
        · exact cl
        · rename_i hne; simp [C28.cleanL, hne, c, cl]
      · simp only [compactList]
        split
        · exact subL_skip _ _ _ _ sl
        · simp [C28.subL, s, sl]
      · simp only [C28.cleanL, Bool.and_eq_true, Bool.not_eq_true'] at hc
        simp [compactList, f hc.1.2, hc.1.1, fl hc.2]
  theorem compactMap_ok (o : CompactOptions) : (m : VMap) →
      C28.cleanM o (compactMap o m) = true ∧ C28.subM o.recursive m (compactMap o m) = true ∧
      (C28.cleanM o m = true → compactMap o m = m)
    | .nil => by simp [compactMap, C28.cleanM, C28.subM]
    | .cons k v m => by
      obtain ⟨c, s, f⟩ := compact_member_ok o v fun h => compactValue_ok o h v
      obtain ⟨cl, sl, fl⟩ := compactMap_ok o m
      refine ⟨?_, ?_, fun hc => ?_⟩
      · simp only [compactMap]
        split
        · exact cl
        · rename_i hne; simp [C28.cleanM, hne, c, cl]
      · simp only [compactMap]
        split
        · exact subM_skip _ _ _ _ _ sl
        · simp [C28.subM, s, sl]
      · simp only [C28.cleanM, Bool.and_eq_true, Bool.not_eq_true'] at hc
        simp [compactMap, f hc.1.2, hc.1.1, fl hc.2]
end

theorem clean_compactValue (o : CompactOptions) (h : o.recursive = true) :
    (v : Value) → C28.cleanV o (compactValue o v) = true :=
  fun v => (compactValue_ok o h v).1

theorem sub_compactValue (o : CompactOptions) (h : o.recursive = true) :
    (v : Value) → C28.subV true v (compactValue o v) = true :=
  fun v => (compactValue_ok o h v).2.1

theorem compactValue_clean (o : CompactOptions) : (v : Value) → C28.cleanV o v = true →
    compactValue o v = v := fun v hc => by
  cases hr : o.recursive
  · exact compactValue_nonrec o hr v
  · exact (compactValue_ok o hr v).2.2 hc

theorem compactList_clean (o : CompactOptions) : (xs : VList) → C28.cleanL o xs = true →
    compactList o xs = xs :=
  fun xs => (compactList_ok o xs).2.2

theorem specCompact_list (o : CompactOptions) (xs : VList) :
    C28.specCompact o (.arr xs) (.arr (compactList o xs)) = true := by
  obtain ⟨c, s, f⟩ := compactList_ok o xs
  simp only [C28.specCompact, C28.cleanV, C28.subV, c, s, Bool.true_and, Bool.or_eq_true, Bool.not_eq_true']
  cases hc : C28.cleanL o xs
  · exact .inl rfl
  · right; rw [f hc]; simp

theorem specCompact_map (o : CompactOptions) (m : VMap) :
    C28.specCompact o (.obj m) (.obj (compactMap o m)) = true := by
  obtain ⟨c, s, f⟩ := compactMap_ok o m
  simp only [C28.specCompact, C28.cleanV, C28.subV, c, s, Bool.true_and, Bool.or_eq_true, Bool.not_eq_true']
  cases hc : C28.cleanM o m
  · exact .inl rfl
  · right; rw [f hc]; simp

theorem lookupOK_cons (k : List Nat) (v : Value) (m : VMap) (h : VMap.allGt k m = true) :
    (ks : List (List Nat)) → (vs : List Value) → C28.lookupOK m (ks.map Value.bytes) vs = true →
    C28.lookupOK (.cons k v m) (ks.map Value.bytes) vs = true
  | [], [], _ => rfl
  | [], _ :: _, h' | _ :: _, [], h' => by simp [C28.lookupOK] at h'
  | q :: ks, x :: vs, h' => by
    simp only [List.map_cons, C28.lookupOK, Bool.and_eq_true, beq_iff_eq] at h' ⊢
    exact ⟨VMap.get_cons_of_allGt v h h'.1, lookupOK_cons k v m h ks vs h'.2⟩

theorem entriesOK_ok : (m : VMap) → C28.entriesOK m ((keysL m).map Value.bytes) (valuesL m) = true
  | .nil => rfl
  | .cons k v m => by simp [keysL, valuesL, C28.entriesOK, entriesOK_ok m]

theorem lookupOK_ok : (m : VMap) → m.Sorted = true →
    C28.lookupOK m ((keysL m).map Value.bytes) (valuesL m) = true
  | .nil, _ => rfl
  | .cons k v m, h => by
    rw [VMap.sorted_cons] at h
    simp only [keysL, valuesL, List.map_cons, C28.lookupOK, VMap.get, if_true, Bool.and_eq_true, beq_self_eq_true,
      true_and]
    exact lookupOK_cons k v m h.2.1 _ _ (lookupOK_ok m h.2.2)

theorem length_keysL : (m : VMap) → (keysL m).length = m.length
  | .nil => rfl
  | .cons _ _ m => by simp [keysL, VMap.length, length_keysL m]

theorem length_valuesL : (m : VMap) → (valuesL m).length = m.length
  | .nil => rfl
  | .cons _ _ m => by simp [valuesL, VMap.length, length_valuesL m]

theorem specKVL_ok (m : VMap) (h : m.Sorted = true) :
    C28.specKVL m ((keysL m).map Value.bytes) (valuesL m) m.length = true := by
  simp [C28.specKVL, entriesOK_ok, lookupOK_ok m h, length_keysL, length_valuesL]

theorem mergeField_false (old : Option Value) (v : Value) : mergeField false old v = v := by
  cases v <;> simp [mergeField]

theorem get_mergeMaps (deep : Bool) : (to b : VMap) → b.Sorted = true → (q : List Nat) →
    (mergeMaps deep to b).get q =
      match b.get q with
      | some v => some (mergeField deep (to.get q) v)
      | none => to.get q
  | _, .nil, _, _ => rfl
  | to, .cons k v rest, h, q => by
    rw [VMap.sorted_cons] at h
    rw [mergeMaps, get_mergeMaps deep _ rest h.2.2 q]
    by_cases hq : k = q
    · subst hq
      simp only [VMap.get_none_of_allGt rest k h.2.1, VMap.get_insert_same, VMap.get, if_true]
    · simp only [VMap.get, hq, if_false, VMap.get_insert_other _ k q _ hq]

theorem mem_keysL_get : (m : VMap) → (k : List Nat) → k ∈ keysL m → (m.get k).isSome = true
  | .nil, _, h => by simp [keysL] at h
  | .cons l v m, k, h => by
    simp only [keysL, List.mem_cons] at h
    by_cases hk : l = k
    · simp [VMap.get, hk]
    · simp only [VMap.get, hk, if_false]
      exact mem_keysL_get m k (h.resolve_left (fun e => hk e.symm))

theorem frameOK_ok (deep : Bool) (a b : VMap) (hb : b.Sorted = true) :
    C28.frameOK a b (mergeMaps deep a b) = true := by
  simp only [C28.frameOK, Bool.and_eq_true, List.all_eq_true, Bool.or_eq_true, beq_iff_eq]
  constructor
  · intro k _
    rw [get_mergeMaps deep a b hb k]
    cases hk : b.get k
    · exact Or.inr rfl
    · exact Or.inl rfl
  · intro k hk
    have := mem_keysL_get _ k hk
    rw [get_mergeMaps deep a b hb k] at this
    cases hk : b.get k
    · simp only [hk] at this; exact Or.inl this
    · exact Or.inr rfl

mutual
  theorem mergeOK_ok (deep : Bool) (a r : VMap) : (b' : VMap) → b'.Sorted = true →
      (∀ k v, b'.get k = some v → r.get k = some (mergeField deep (a.get k) v)) →
      C28.mergeOK deep a r b' = true
    | .nil, _, _ => rfl
    | .cons k v rest, hs, h => by
      rw [VMap.sorted_cons] at hs
      simp only [C28.mergeOK, Bool.and_eq_true]
      constructor
      · rw [h k v (by simp [VMap.get])]
        exact fieldOK_ok deep (a.get k) v hs.1
      · apply mergeOK_ok deep a r rest hs.2.2
        intro q x hq
        exact h q x (VMap.get_cons_of_allGt v hs.2.1 hq)
  theorem fieldOK_ok (deep : Bool) (old : Option Value) : (v : Value) → v.Sorted = true →
      C28.fieldOK deep old (some (mergeField deep old v)) v = true
    | .obj c2, hs => by
      simp only [Value.Sorted] at hs
      cases deep
      · simp [C28.fieldOK, mergeField]
      · cases old with
        | none => simp [C28.fieldOK, mergeField]
        | some o =>
          cases o with
          | obj c1 =>
            simp only [C28.fieldOK, mergeField, Bool.and_eq_true]
            refine ⟨?_, frameOK_ok true c1 c2 hs⟩
            apply mergeOK_ok true c1 _ c2 hs
            intro k v hk
            rw [get_mergeMaps true c1 c2 hs k, hk]
          | _ => simp [C28.fieldOK, mergeField]
    | .null, _ | .bool _, _ | .int _, _ | .float _, _ | .bytes _, _ | .ts _, _ | .regex _, _ | .arr _, _ => by
      simp [C28.fieldOK, mergeField]
end

theorem specMerge_ok (deep : Bool) (a b : VMap) (hb : b.Sorted = true) :
    C28.specMerge deep a b (mergeMaps deep a b) = true := by
  simp only [C28.specMerge, Bool.and_eq_true]
  refine ⟨?_, frameOK_ok deep a b hb⟩
  apply mergeOK_ok deep a _ b hb
  intro k v hk
  rw [get_mergeMaps deep a b hb k, hk]

end Coll
