import VrlProofs.Lemmas.KindUnion

/-! `merge_keep` keeps the known maps key-sorted and keeps `any` as the only `Infinite` unknown, each
    on its own (one argument about the two loops of `Collection::merge`, used twice), hence tameness; the
    fold that unions the known kinds at selected keys (`at_path` at a negative index, `reduced_kind`)
    includes them and stays tame. -/

namespace Spec

/-- the two loops of `Collection::merge` store merges of the operands' kinds, up to the `undefined`
    state: a property of kinds that the kind-level merge keeps and that does not look at that state
    holds of every stored kind when it holds of every kind of the operands. -/
theorem col_merge_known_all (P : Kind → Bool) (f : Kind → Kind → Bool → Kind)
    (hf : ∀ x y ow, P x = true → P y = true → P (f x y ow) = true)
    (hor : ∀ k, P k = true → P k.orUndefined = true) (hwo : ∀ k, P k = true → P k.withoutUndefined = true)
    (k1 k2 : KList) (u1 u2 : Unknown) (ow : Bool) (hu1 : P u1.toKind = true) (hu2 : P u2.toKind = true)
    (v1 : k1.all (fun _ => P) = true) (v2 : k2.all (fun _ => P) = true) :
    (Col.mergeWith f (.mk k1 u1) (.mk k2 u2) ow).known.all (fun _ => P) = true := by
  apply KList.all_foldl_insert
  · intro v hv
    unfold Col.mergeKnownOther
    exact iteInduction (motive := (P · = true))
      (fun _ => iteInduction (motive := (P · = true)) (fun _ => hf _ _ _ hv hu1) fun _ => hv)
      fun _ => iteInduction (motive := (P · = true)) (fun _ => hv) fun _ => hor v hv
  · exact v2
  · apply KList.all_mapKV _ _ _ _ v1
    intro k v hv
    unfold Col.mergeKnownSelf
    cases hg : (Col.mk k2 u2).known.get k with
    | some ok =>
      have hok := KList.all_of_get _ k2 v2 k ok hg
      exact iteInduction (motive := (P · = true)) (fun _ => hok) fun _ => hf _ _ _ hv hok
    | none =>
      exact iteInduction (motive := (P · = true))
        (fun _ => iteInduction (motive := (P · = true)) (fun _ => hf _ _ _ (hwo _ hu2) hv) fun _ => hf _ _ _ hv hu2)
        fun _ => iteInduction (motive := (P · = true)) (fun _ => hor v hv) fun _ => hv

/-- from the collections to the kinds: `merge_keep` with any fuel keeps a property `PK` of kinds that
    is the conjunction of a property `PO` of the two collection states, holds of `any`, and is kept
    by `Collection::merge` whenever the kind-level merge keeps it. -/
theorem mergeKeepF_pres (PK : Kind → Bool) (PO : OCol → Bool)
    (hmk : ∀ p a o, PK (.mk p a o) = (PO a && PO o)) (hany : PK Kind.any = true)
    (hcol : ∀ f, (∀ x y ow, PK x = true → PK y = true → PK (f x y ow) = true) → ∀ c1 c2 ow,
      PO (.some c1) = true → PO (.some c2) = true → PO (.some (Col.mergeWith f c1 c2 ow)) = true) :
    (n : Nat) → ∀ x y ow, PK x = true → PK y = true → PK (Kind.mergeKeepF n x y ow) = true
  | 0 => fun _ _ _ _ _ => hany
  | n + 1 => by
    have ih := mergeKeepF_pres PK PO hmk hany hcol n
    have ho : ∀ a1 a2 ow, PO a1 = true → PO a2 = true →
        PO (OCol.mergeWith (Kind.mergeKeepF n) a1 a2 ow) = true := by
      intro a1 a2 ow h1 h2
      match a1, a2 with
      | .none, .none => exact h1
      | .none, .some _ => exact h2
      | .some _, .none => exact h1
      | .some c1, .some c2 => exact hcol _ ih c1 c2 ow h1 h2
    intro ⟨p1, a1, o1⟩ ⟨p2, a2, o2⟩ ow hx hy
    rw [hmk, Bool.and_eq_true] at hx hy
    rw [Kind.mergeKeepF, hmk, Bool.and_eq_true]
    exact ⟨ho a1 a2 ow hx.1 hy.1, ho o1 o2 ow hx.2 hy.2⟩

/-- **`merge_keep` keeps the known maps key-sorted.** -/
theorem mergeKeepF_sortedK (n : Nat) (x y : Kind) (ow : Bool) (hx : x.SortedK = true)
    (hy : y.SortedK = true) : (Kind.mergeKeepF n x y ow).SortedK = true := by
  refine mergeKeepF_pres Kind.SortedK OCol.SortedK (fun _ _ _ => rfl) (by decide) ?_ n x y ow hx hy
  intro f hf ⟨k1, u1⟩ ⟨k2, u2⟩ ow h1 h2
  simp only [OCol.SortedK, Col.SortedK, Bool.and_eq_true, KList.sortedK_eq_all] at h1 h2
  rw [show Col.mergeWith f (.mk k1 u1) (.mk k2 u2) ow = .mk _ _ from rfl]
  simp only [OCol.SortedK, Col.SortedK, Bool.and_eq_true, KList.sortedK_eq_all]
  refine ⟨⟨KList.sortedKeys_foldl_insert _ _ _ _ (by rw [KList.sortedKeys_mapKV]; exact h1.1.1),
    col_merge_known_all Kind.SortedK f hf (fun k h => by cases k; exact h) (fun k h => by cases k; exact h)
      k1 k2 u1 u2 ow (Unknown.sortedK_toKind u1 h1.2) (Unknown.sortedK_toKind u2 h2.2) h1.1.2 h2.1.2⟩, ?_⟩
  match u1, u2, h1.2, h2.2 with
  | .exact l, .exact r, s1, s2 => exact hf l r ow s1 s2
  | .exact _, .infinite _, _, _ => rfl
  | .infinite _, .exact _, _, _ => rfl
  | .infinite _, .infinite _, _, _ => rfl

/-- **`merge_keep` keeps `any` as the only `Infinite` unknown.** -/
theorem mergeKeepF_infAny (n : Nat) (x y : Kind) (ow : Bool) (hx : x.hasNonAnyInf = false)
    (hy : y.hasNonAnyInf = false) : (Kind.mergeKeepF n x y ow).hasNonAnyInf = false := by
  have := mergeKeepF_pres (fun k => !k.hasNonAnyInf) (fun a => !a.hasNonAnyInf)
    (fun _ _ _ => Bool.not_or _ _) (by decide) ?_ n x y ow (by simp [hx]) (by simp [hy])
  · simpa using this
  intro f hf ⟨k1, u1⟩ ⟨k2, u2⟩ ow h1 h2
  simp only [OCol.hasNonAnyInf, Col.hasNonAnyInf, Bool.not_or, Bool.and_eq_true,
    KList.hasNonAnyInf_eq_all] at h1 h2
  rw [show Col.mergeWith f (.mk k1 u1) (.mk k2 u2) ow = .mk _ _ from rfl]
  simp only [OCol.hasNonAnyInf, Col.hasNonAnyInf, Bool.not_or, Bool.and_eq_true, KList.hasNonAnyInf_eq_all]
  have ht : ∀ u : Unknown, (!u.hasNonAnyInf) = true → (!u.toKind.hasNonAnyInf) = true :=
    fun u h => by simp [Unknown.infAny_toKind u (by simpa using h)]
  refine ⟨col_merge_known_all _ f hf (fun k h => by cases k; exact h) (fun k h => by cases k; exact h)
    k1 k2 u1 u2 ow (ht u1 h1.2) (ht u2 h2.2) h1.1 h2.1, ?_⟩
  match u1, u2, h1.2, h2.2 with
  | .exact l, .exact r, s1, s2 => exact hf l r ow s1 s2
  | .exact _, .infinite _, _, s2 => exact s2
  | .infinite _, .exact _, s1, _ => exact s1
  | .infinite l, .infinite r, s1, _ =>
    simp only [Unknown.hasNonAnyInf, Bool.not_not] at s1
    show (!(!(l.merge r).isAny)) = true
    rw [inf_merge_isAny l r (Or.inl s1)]; rfl

theorem mergeKeepF_tame (n : Nat) (x y : Kind) (ow : Bool) (hx : Tame x) (hy : Tame y) :
    Tame (Kind.mergeKeepF n x y ow) :=
  ⟨mergeKeepF_sortedK n x y ow hx.1 hy.1, mergeKeepF_infAny n x y ow hx.2 hy.2⟩

theorem tame_union {A B : Kind} (tA : Tame A) (tB : Tame B) : Tame (A.union B) :=
  mergeKeepF_tame _ A B false tA tB

/-- one step of a fold that unions the known kinds at the keys selected by `p` (`get_recursive` at a
    negative index: the indices from `minIndex` on; `reduced_kind`: all keys). -/
def unionStep (p : Key → Prop) [DecidablePred p] (kind : Kind) (key : Key) (iKind : Kind) : Kind :=
  if p key then kind.mergeKeep iKind false else kind

def unionFold (p : Key → Prop) [DecidablePred p] (m : KList) (acc : Kind) : Kind :=
  m.foldl (unionStep p) acc

theorem unionStep_sound (p : Key → Prop) [DecidablePred p] (acc : Kind) (k : Key) (v : Kind)
    (ta : Tame acc) (tv : Tame v) :
    LocSub acc (unionStep p acc k v) ∧ (p k → LocSub v (unionStep p acc k v)) ∧
    Tame (unionStep p acc k v) := by
  unfold unionStep
  split
  · have hf := mergeKeepF_sound (Kind.fuel acc v)
    exact ⟨hf.left acc v ta tv, fun _ => hf.right acc v ta tv, mergeKeepF_tame _ acc v false ta tv⟩
  · rename_i hk
    exact ⟨LocSub.refl _, fun h => absurd h hk, ta⟩

theorem unionFold_sound (p : Key → Prop) [DecidablePred p] : (m : KList) → (acc : Kind) → Tame acc →
    TameL m →
    LocSub acc (unionFold p m acc) ∧
    (∀ key iKind, m.get key = some iKind → p key → LocSub iKind (unionFold p m acc)) ∧
    Tame (unionFold p m acc)
  | .nil, acc, ta, _ => ⟨LocSub.refl _, nofun, ta⟩
  | .cons k v m, acc, ta, tm => by
    obtain ⟨s1, s2, s3⟩ := unionStep_sound p acc k v ta (tameL_cons.mp tm).1
    obtain ⟨h1, h2, h3⟩ := unionFold_sound p m _ s3 (tameL_cons.mp tm).2
    refine ⟨s1.trans h1, fun key iKind hg hi => ?_, h3⟩
    simp only [KList.get] at hg
    split at hg
    · rename_i hk; subst hk; cases hg; exact (s2 hi).trans h1
    · exact h2 key iKind hg hi

end Spec
