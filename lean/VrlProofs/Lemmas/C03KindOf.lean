/-
  C03: `Kind::from(&Value)` of a literal satisfies the hypotheses of C19's union theorem, and no
  field kind of a literal has the `undefined` state (`NoUndef`), nor has a union of them: such a
  kind is not `json`-shaped, so `Unknown::from` does not widen it (`ofKindOk_of_noUndef`).
-/
import VrlProofs.Lemmas.C03Union
namespace C03
open Spec

theorem allGt_kindsFrom : (xs : VList) → (i j : Nat) → i < j → KList.allGt (Key.ofIdx i) (VList.kindsFrom xs j) = true
  | .nil, _, _, _ => rfl
  | .cons x xs, i, j, h => by
    simp only [VList.kindsFrom, KList.allGt, Bool.and_eq_true]
    refine ⟨by simp [Key.ofIdx, Key.lt, h], allGt_kindsFrom xs i (j + 1) (by omega)⟩

theorem sortedKeys_kindsFrom : (xs : VList) → (i : Nat) → (VList.kindsFrom xs i).SortedKeys = true
  | .nil, _ => rfl
  | .cons x xs, i => by
    simp only [VList.kindsFrom, KList.SortedKeys, Bool.and_eq_true]
    exact ⟨allGt_kindsFrom xs i (i + 1) (by omega), sortedKeys_kindsFrom xs (i + 1)⟩

theorem allGt_kinds : (m : VMap) → (k : Key) → VMap.allGt k m = true → KList.allGt k (VMap.kinds m) = true
  | .nil, _, _ => rfl
  | .cons l v m, k, h => by
    rw [VMap.allGt_cons] at h
    rw [VMap.kinds, KList.allGt_cons]
    exact ⟨h.1, allGt_kinds m k h.2⟩

theorem undefUnknown_good : (Unknown.ofKind Kind.undefined).SortedK = true ∧
    (Unknown.ofKind Kind.undefined).hasNonAnyInf = false := by decide

mutual
  theorem kindOf_good : (v : Value) → v.Sorted = true → Tame v.kindOf
    | .null, _ => ⟨by decide, by decide⟩
    | .bool _, _ => ⟨rfl, rfl⟩
    | .int _, _ => ⟨rfl, rfl⟩
    | .float _, _ => ⟨rfl, rfl⟩
    | .bytes _, _ => ⟨rfl, rfl⟩
    | .ts _, _ => ⟨rfl, rfl⟩
    | .regex _, _ => ⟨rfl, rfl⟩
    | .arr xs, h => by
      simp only [Value.Sorted] at h
      have hk := kindsFrom_good xs h 0
      refine ⟨?_, ?_⟩
      · simp only [Value.kindOf, Kind.ofArray, Col.ofKnown, Kind.SortedK, OCol.SortedK, Col.SortedK,
          Bool.and_eq_true]
        exact ⟨⟨⟨sortedKeys_kindsFrom xs 0, hk.1⟩, undefUnknown_good.1⟩, trivial⟩
      · simp only [Value.kindOf, Kind.ofArray, Col.ofKnown, Kind.hasNonAnyInf, OCol.hasNonAnyInf,
          Col.hasNonAnyInf, Bool.or_eq_false_iff]
        exact ⟨⟨hk.2, undefUnknown_good.2⟩, trivial⟩
    | .obj m, h => by
      simp only [Value.Sorted] at h
      have hk := kinds_good m h
      refine ⟨?_, ?_⟩
      · simp only [Value.kindOf, Kind.ofObject, Col.ofKnown, Kind.SortedK, OCol.SortedK, Col.SortedK,
          Bool.and_eq_true]
        exact ⟨trivial, ⟨hk.1, hk.2.1⟩, undefUnknown_good.1⟩
      · simp only [Value.kindOf, Kind.ofObject, Col.ofKnown, Kind.hasNonAnyInf, OCol.hasNonAnyInf,
          Col.hasNonAnyInf, Bool.or_eq_false_iff]
        exact ⟨trivial, hk.2.2, undefUnknown_good.2⟩
  theorem kindsFrom_good : (xs : VList) → xs.Sorted = true → (i : Nat) →
      (VList.kindsFrom xs i).SortedK = true ∧ (VList.kindsFrom xs i).hasNonAnyInf = false
    | .nil, _, _ => ⟨rfl, rfl⟩
    | .cons x xs, h, i => by
      rw [VList.sorted_cons] at h
      have hx := kindOf_good x h.1
      have hr := kindsFrom_good xs h.2 (i + 1)
      simp only [VList.kindsFrom, KList.SortedK, KList.hasNonAnyInf, Bool.and_eq_true,
        Bool.or_eq_false_iff]
      exact ⟨⟨hx.1, hr.1⟩, hx.2, hr.2⟩
  theorem kinds_good : (m : VMap) → m.Sorted = true →
      (VMap.kinds m).SortedKeys = true ∧ (VMap.kinds m).SortedK = true ∧
        (VMap.kinds m).hasNonAnyInf = false
    | .nil, _ => ⟨rfl, rfl, rfl⟩
    | .cons k v m, h => by
      rw [VMap.sorted_cons] at h
      have hv := kindOf_good v h.1
      have hr := kinds_good m h.2.2
      simp only [VMap.kinds, KList.SortedKeys, KList.SortedK, KList.hasNonAnyInf, Bool.and_eq_true,
        Bool.or_eq_false_iff]
      exact ⟨⟨allGt_kinds m k h.2.1, hr.1⟩, ⟨hv.1, hr.2.1⟩, hv.2, hr.2.2⟩
end

theorem union_prim : (a b : Kind) → (a.union b).prim = a.prim.or b.prim
  | .mk .., .mk .. => by rw [Kind.union, Kind.mergeKeep_mk]; rfl

abbrev NoUndef (k : Kind) : Prop := k.prim.undefined = false

theorem noUndef_union {a b : Kind} (ha : NoUndef a) (hb : NoUndef b) : NoUndef (a.union b) := by
  rw [NoUndef, union_prim]; simp [Prim.or, ha, hb]

theorem noUndef_kindOf (v : Value) : NoUndef v.kindOf := by cases v <;> rfl

theorem noUndef_withoutUndefined (k : Kind) : NoUndef k.withoutUndefined := by
  cases k; rfl

theorem noUndef_unionAll : (m : KList) → (acc : Kind) → NoUndef acc →
    (m.all fun _ K => !K.prim.undefined) = true → NoUndef (unionAll acc m)
  | .nil, _, h, _ => h
  | .cons k v rest, acc, h, ha => by
    simp only [KList.all, Bool.and_eq_true, Bool.not_eq_true'] at ha
    exact noUndef_unionAll rest (acc.union v) (noUndef_union h ha.1) ha.2

theorem noUndef_reducedKind {c : Col} (h : (c.known.all fun _ K => !K.prim.undefined) = true) :
    NoUndef c.reducedKind := by
  rw [reducedKind_eq]
  refine noUndef_union ?_ (noUndef_withoutUndefined _)
  cases hk : c.known with
  | nil => rfl
  | cons k v rest =>
    simp only [hk, KList.all, Bool.and_eq_true, Bool.not_eq_true'] at h
    exact noUndef_unionAll rest v h.1 h.2

theorem isAny_of_isNever {k : Kind} (h : k.isNever = true) : k.isAny = true := by
  simp [Kind.isAny, Kind.containsBytes, Kind.containsInteger, Kind.containsFloat, Kind.containsBoolean,
    Kind.containsTimestamp, Kind.containsRegex, Kind.containsNull, Kind.containsUndefined,
    Kind.containsArray, Kind.containsObject, h]

theorem ofKindOk_of_noUndef {k : Kind} (h : NoUndef k) : ofKindOk k = true := by
  unfold ofKindOk
  cases hj : k.isJson with
  | false => simp
  | true =>
    have hu : k.containsUndefined = true := by
      simp only [Kind.isJson, Bool.and_eq_true] at hj
      exact hj.1.1.2
    simp only [Kind.containsUndefined, h, Bool.false_or] at hu
    simp [isAny_of_isNever hu]

theorem all_noUndef_kinds : (m : VMap) → ((VMap.kinds m).all fun _ K => !K.prim.undefined) = true
  | .nil => rfl
  | .cons k v m => by
    simp only [VMap.kinds, KList.all, Bool.and_eq_true, Bool.not_eq_true']
    exact ⟨noUndef_kindOf v, all_noUndef_kinds m⟩

end C03
