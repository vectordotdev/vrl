/-
  Calls without closure (the pure functions of the modelled subset): such a call evaluates its argument
  slots in order and applies `purFn` to the values, so it changes the state only through its
  arguments and can only `return` through them.
-/
import VrlModel.Lang.Pure
import VrlProofs.Lemmas.Call

namespace Lang

/-- out of model (`oom`, state untouched), or the slots, each an argument thunk, and then `purFn` -/
theorem callFn_none (name : String) (args : List (Option String × Thunk)) (s : St) :
    callFn name args none s = (.oom, s) ∨
    ∃ slots, (∀ t, some t ∈ slots → ∃ k, (k, t) ∈ args) ∧
      callFn name args none s =
        match evalSlots slots s with
        | (.ok vals, s) => (purFn name vals, s)
        | (.error r, s) => (r, s) := by
  unfold callFn
  split
  · exact .inl rfl
  next hpar =>
  split
  · exact .inl rfl
  next slots hpl =>
  split
  · next h => cases h
  · next h => cases h
  · next h => cases h
  · next h => cases h
  · exact .inr ⟨_, placeArgs_mem _ args _ hpl, rfl⟩
  · exact .inl rfl

def Stable (t : Thunk) : Prop := ∀ s, (t s).2 = s

theorem evalSlots_stable (slots : List (Option Thunk)) (h : ∀ t, some t ∈ slots → Stable t) (s : St) :
    (evalSlots slots s).2 = s :=
  evalSlots_keeps (J := (· = s)) slots (fun t ht s' hs' => by subst hs'; exact h t ht _) s rfl

theorem callFn_stable (name : String) (args : List (Option String × Thunk))
    (ha : ∀ k t, (k, t) ∈ args → Stable t) (s : St) : (callFn name args none s).2 = s := by
  obtain h | ⟨slots, hsl, h⟩ := callFn_none name args s <;> rw [h]
  have h1 := evalSlots_stable slots (fun t ht => (hsl t ht).elim fun k hk => ha k t hk) s
  generalize evalSlots slots s = x at h1
  split <;> exact h1

def NoRet (t : Thunk) : Prop := ∀ s v, (t s).1 ≠ .ret v

theorem purFn_no_ret (name : String) (args : List (Option Value)) (v : Value) : purFn name args ≠ .ret v := by
  fun_cases purFn name args <;> nofun

theorem evalSlots_no_ret : (slots : List (Option Thunk)) → (∀ t, some t ∈ slots → NoRet t) → ∀ s v,
    (evalSlots slots s).1 ≠ .error (.ret v)
  | [], _, _, _ => nofun
  | none :: rest, h, s, v => by
    have ih := evalSlots_no_ret rest (fun t ht => h t (List.mem_cons_of_mem _ ht)) s v
    unfold evalSlots
    generalize evalSlots rest s = y at ih
    split
    · nofun
    · exact ih
  | some t :: rest, h, s, v => by
    have h1 := h t List.mem_cons_self s v
    unfold evalSlots
    generalize t s = x at h1
    split
    · next s1 =>
      have ih := evalSlots_no_ret rest (fun t ht => h t (List.mem_cons_of_mem _ ht)) s1 v
      generalize evalSlots rest s1 = y at ih
      split
      · nofun
      · exact ih
    · exact fun e => h1 (Except.error.inj e)

theorem callFn_no_ret (name : String) (args : List (Option String × Thunk))
    (ha : ∀ k t, (k, t) ∈ args → NoRet t) (s : St) (v : Value) : (callFn name args none s).1 ≠ .ret v := by
  obtain h | ⟨slots, hsl, h⟩ := callFn_none name args s <;> rw [h]
  · nofun
  have h1 := evalSlots_no_ret slots (fun t ht => (hsl t ht).elim fun k hk => ha k t hk) s v
  generalize evalSlots slots s = x at h1
  split
  · exact purFn_no_ret _ _ _
  · exact fun e => h1 (congrArg _ e)

end Lang
