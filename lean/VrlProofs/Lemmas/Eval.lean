/-
  `Runtime::resolve` around the program block: the root check, a target read whose value is dropped
  (`targetGet_snd`), then `finish`.
-/
import VrlModel.Lang.Eval

namespace Lang

/-- the program boundary: the outcome of the block as that of the run, `return` counting as success -/
def finish : Res × St → RunOutcome × St
  | (.ok v, s) | (.ret v, s) => (.ok v, s)
  | (.abort m, s) => (.abort m, s)
  | (.err, s) => (.error, s)
  | (.panic, s) => (.panic, s)
  | (.oom, s) => (.oom, s)

theorem run_eq (prog : Exprs) (s : St) :
    run prog s = if (s.tick 0 false []).1 = true then (.error, (s.tick 0 false []).2)
      else finish (evalSeq prog (s.tick 0 false []).2) := rfl

theorem finish_snd (x : Res × St) : (finish x).2 = x.2 := by
  obtain ⟨r, s⟩ := x; cases r <;> rfl

theorem targetGet_snd (s : St) (m : Bool) (p : Path) : (s.targetGet m p).2 = (s.tick 0 m p).2 := by
  unfold St.targetGet St.tick; cases s.faults.contains s.ops <;> rfl

end Lang
