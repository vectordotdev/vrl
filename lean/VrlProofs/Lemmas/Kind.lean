import VrlModel.KindSpec
import VrlProofs.Lemmas.Sorted

/-! The known maps of kinds (`KList`): lookups, key order (`SortedKeys`), properties of all values
    (`KList.all`); and what membership (`Spec.mem`) does not look at: the `undefined` state. -/

namespace KList

theorem allGt_cons {a l : Key} {v : Kind} {m : KList} :
    allGt a (.cons l v m) = true ↔ Key.lt a l = true ∧ allGt a m = true :=
  Bool.and_eq_true_iff

theorem sortedKeys_cons {k : Key} {v : Kind} {m : KList} :
    (KList.cons k v m).SortedKeys = true ↔ allGt k m = true ∧ m.SortedKeys = true :=
  Bool.and_eq_true_iff

theorem get_insert_same (m : KList) (q : Key) (x : Kind) : (m.insert q x).get q = some x := by
  fun_induction insert m q x with
  -- arms of `insert`: 1 the empty map, 2 the new key is below the head (put in front), 3 the head is
  -- the key (its value replaced), 4 the search goes on in the tail
  | case1 => simp [get]
  | case2 => simp [get]
  | case3 => simp [get]
  | case4 _ _ _ _ _ _ hk ih => simp [get, hk, ih]

theorem get_insert_other (m : KList) (q r : Key) (x : Kind) (h : q ≠ r) :
    (m.insert q x).get r = m.get r := by
  fun_induction insert m q x with
  | case1 => simp [get, h]
  | case2 => simp [get, h]
  | case3 => simp [get, h]
  | case4 _ _ _ _ _ _ _ ih => simp only [get, ih h]

theorem get_insert (m : KList) (q r : Key) (x : Kind) :
    (m.insert q x).get r = if q = r then some x else m.get r := by
  by_cases h : q = r
  · subst h; simp [get_insert_same]
  · simp [h, get_insert_other m q r x h]

theorem get_remove_other (m : KList) (q r : Key) (h : q ≠ r) : (m.remove q).get r = m.get r := by
  fun_induction remove m q with
  -- arms of `remove`: 1 the empty map, 2 the head is the key (dropped), 3 the search goes on in the tail
  | case1 => rfl
  | case2 => simp [get, h]
  | case3 _ _ _ _ _ ih => simp only [get, ih h]

theorem get_mapKV (f : Key → Kind → Kind) : (m : KList) → (q : Key) →
    (mapKV f m).get q = (m.get q).map (f q)
  | .nil, _ => rfl
  | .cons k v m, q => by
    simp only [mapKV, get]
    split
    · rename_i h; subst h; rfl
    · exact get_mapKV f m q

theorem keys_mapKV (f : Key → Kind → Kind) : (m : KList) → (mapKV f m).keys = m.keys
  | .nil => rfl
  | .cons k v m => by simp [mapKV, keys, keys_mapKV f m]

theorem mem_keys_of_get (m : KList) (q : Key) (v : Kind) (h : m.get q = some v) : q ∈ m.keys := by
  fun_induction get m q with
  -- arms of `get`: 1 the empty map, 2 the head is the key (found), 3 the search goes on in the tail
  | case1 => cases h
  | case2 => exact List.mem_cons_self
  | case3 _ _ _ _ _ ih => exact List.mem_cons_of_mem _ (ih h)

theorem get_isSome_of_mem_keys : (m : KList) → (q : Key) → q ∈ m.keys → (m.get q).isSome = true
  | .nil, _, h => by simp [keys] at h
  | .cons k w m, q, h => by
    simp only [keys, List.mem_cons] at h
    simp only [get]
    split
    · rfl
    · rename_i hk
      rcases h with h | h
      · exact absurd h.symm hk
      · exact get_isSome_of_mem_keys m q h

theorem contains_iff (m : KList) (q : Key) : m.contains q = true ↔ q ∈ m.keys := by
  constructor
  · intro h
    unfold contains at h
    cases hg : m.get q with
    | none => simp [hg] at h
    | some v => exact mem_keys_of_get m q v hg
  · intro h; exact get_isSome_of_mem_keys m q h

theorem all_of_get (f : Key → Kind → Bool) (m : KList) (ha : m.all f = true) (q : Key) (v : Kind)
    (h : m.get q = some v) : f q v = true := by
  fun_induction get m q with
  | case1 => cases h
  | case2 => simp only [all, Bool.and_eq_true] at ha; cases h; exact ha.1
  | case3 _ _ _ _ _ ih => simp only [all, Bool.and_eq_true] at ha; exact ih ha.2 h

theorem any_false (f : Key → Kind → Bool) (m : KList) (ha : m.any f = false) (q : Key) (v : Kind)
    (h : m.get q = some v) : f q v = false := by
  fun_induction get m q with
  | case1 => cases h
  | case2 => simp only [any, Bool.or_eq_false_iff] at ha; cases h; exact ha.1
  | case3 _ _ _ _ _ ih => simp only [any, Bool.or_eq_false_iff] at ha; exact ih ha.2 h

theorem get_none_of_allGt : (m : KList) → (k : Key) → allGt k m = true → m.get k = none
  | .nil, _, _ => rfl
  | .cons l v m, k, h => by
    rw [allGt_cons] at h
    simp [get, (Key.lt_ne k l h.1).symm, get_none_of_allGt m k h.2]

theorem allGt_trans : (m : KList) → (a b : Key) → Key.lt a b = true → allGt b m = true →
    allGt a m = true
  | .nil, _, _, _, _ => rfl
  | .cons l _ m, a, b, hab, h => by
    rw [allGt_cons] at h ⊢
    exact ⟨Key.lt_trans a b l hab h.1, allGt_trans m a b hab h.2⟩

theorem allGt_insert (m : KList) (a q : Key) (x : Kind) (h : Key.lt a q = true)
    (hm : allGt a m = true) : allGt a (m.insert q x) = true := by
  fun_induction insert m q x with
  | case1 => simp [allGt, h]
  | case2 => simpa [allGt, h] using hm
  | case3 => simpa [allGt] using hm
  | case4 _ _ _ _ _ _ _ ih =>
    rw [allGt_cons] at hm ⊢
    exact ⟨hm.1, ih h hm.2⟩

theorem sortedKeys_insert (m : KList) (q : Key) (x : Kind) (hs : m.SortedKeys = true) :
    (m.insert q x).SortedKeys = true := by
  fun_induction insert m q x with
  | case1 => rfl
  | case2 k v m q x hlt =>
    simp only [SortedKeys, allGt, Bool.and_eq_true] at hs ⊢
    exact ⟨⟨hlt, allGt_trans m q k hlt hs.1⟩, hs⟩
  | case3 => exact hs
  | case4 k v m q x hnlt hne ih =>
    rw [sortedKeys_cons] at hs ⊢
    exact ⟨allGt_insert m k q x (Key.lt_of_not_lt_of_ne hnlt hne) hs.1, ih hs.2⟩

theorem allGt_mapKV (f : Key → Kind → Kind) : (m : KList) → (a : Key) →
    allGt a (mapKV f m) = allGt a m
  | .nil, _ => rfl
  | .cons k v m, a => by simp [mapKV, allGt, allGt_mapKV f m a]

theorem sortedKeys_mapKV (f : Key → Kind → Kind) : (m : KList) →
    (mapKV f m).SortedKeys = m.SortedKeys
  | .nil => rfl
  | .cons k v m => by simp [mapKV, SortedKeys, allGt_mapKV, sortedKeys_mapKV f m]

theorem allGt_remove (m : KList) (a q : Key) (hm : allGt a m = true) : allGt a (m.remove q) = true := by
  fun_induction remove m q with
  | case1 => rfl
  | case2 => rw [allGt_cons] at hm; exact hm.2
  | case3 _ _ _ _ _ ih =>
    rw [allGt_cons] at hm ⊢
    exact ⟨hm.1, ih hm.2⟩

theorem sortedKeys_remove (m : KList) (q : Key) (hs : m.SortedKeys = true) :
    (m.remove q).SortedKeys = true := by
  fun_induction remove m q with
  | case1 => rfl
  | case2 => rw [sortedKeys_cons] at hs; exact hs.2
  | case3 k v m q _ ih =>
    rw [sortedKeys_cons] at hs ⊢
    exact ⟨allGt_remove m k q hs.1, ih hs.2⟩

theorem all_insert (f : Key → Kind → Bool) (m : KList) (q : Key) (x : Kind) (hm : m.all f = true)
    (hx : f q x = true) : (m.insert q x).all f = true := by
  fun_induction insert m q x with
  | case1 => simp [all, hx]
  | case2 => simpa [all, hx] using hm
  | case3 => simp only [all, Bool.and_eq_true] at hm ⊢; exact ⟨hx, hm.2⟩
  | case4 _ _ _ _ _ _ _ ih => simp only [all, Bool.and_eq_true] at hm ⊢; exact ⟨hm.1, ih hm.2 hx⟩

theorem all_remove (f : Key → Kind → Bool) : (m : KList) → (q : Key) → m.all f = true →
    (m.remove q).all f = true
  | .nil, _, _ => rfl
  | .cons k v m, q, hm => by
    simp only [all, Bool.and_eq_true] at hm
    simp only [remove]
    split
    · exact hm.2
    · simp [all, hm.1, all_remove f m q hm.2]

theorem all_mapKV (f : Key → Kind → Bool) (g : Key → Kind → Kind)
    (hg : ∀ k v, f k v = true → f k (g k v) = true) : (m : KList) → m.all f = true →
    (mapKV g m).all f = true
  | .nil, _ => rfl
  | .cons k v m, hm => by
    simp only [all, Bool.and_eq_true] at hm
    simp [mapKV, all, hg k v hm.1, all_mapKV f g hg m hm.2]

theorem all_foldl_insert (P : Kind → Bool) (skip : Key → Bool) (g : Kind → Kind)
    (hg : ∀ v, P v = true → P (g v) = true) : (m : KList) → (acc : KList) →
    m.all (fun _ => P) = true → acc.all (fun _ => P) = true →
    (m.foldl (fun acc key ok => if skip key then acc else acc.insert key (g ok)) acc).all (fun _ => P) = true
  | .nil, acc, _, ha => ha
  | .cons k v m, acc, hm, ha => by
    simp only [all, Bool.and_eq_true] at hm
    simp only [foldl]
    apply all_foldl_insert P skip g hg m _ hm.2
    split
    · exact ha
    · exact all_insert _ acc k _ ha (hg v hm.1)

theorem sortedKeys_foldl_insert (skip : Key → Bool) (g : Kind → Kind) : (m : KList) → (acc : KList) →
    acc.SortedKeys = true →
    (m.foldl (fun acc key ok => if skip key then acc else acc.insert key (g ok)) acc).SortedKeys = true
  | .nil, acc, ha => ha
  | .cons k v m, acc, ha => by
    simp only [foldl]
    apply sortedKeys_foldl_insert skip g m
    split
    · exact ha
    · exact sortedKeys_insert acc k _ ha

theorem allGt_filter (f : Key → Kind → Bool) (m : KList) (a : Key) (h : allGt a m = true) :
    allGt a (filter f m) = true := by
  fun_induction filter f m with
  -- arms of `filter`: 1 the empty map, 2 the head entry is kept, 3 it is dropped
  | case1 => rfl
  | case2 _ _ _ _ ih =>
    rw [allGt_cons] at h ⊢
    exact ⟨h.1, ih h.2⟩
  | case3 _ _ _ _ ih => rw [allGt_cons] at h; exact ih h.2

theorem sortedKeys_filter (f : Key → Kind → Bool) (m : KList) (h : m.SortedKeys = true) :
    (filter f m).SortedKeys = true := by
  fun_induction filter f m with
  | case1 => rfl
  | case2 k _ m _ ih =>
    rw [sortedKeys_cons] at h ⊢
    exact ⟨allGt_filter f m k h.1, ih h.2⟩
  | case3 _ _ _ _ ih => rw [sortedKeys_cons] at h; exact ih h.2

theorem all_filter (f g : Key → Kind → Bool) (m : KList) (h : m.all f = true) :
    (filter g m).all f = true := by
  fun_induction filter g m with
  | case1 => rfl
  | case2 _ _ _ _ ih =>
    simp only [all, Bool.and_eq_true] at h ⊢
    exact ⟨h.1, ih h.2⟩
  | case3 _ _ _ _ ih => simp only [all, Bool.and_eq_true] at h; exact ih h.2

theorem get_filter (f : Key → Kind → Bool) (m : KList) (q : Key) (h : m.SortedKeys = true) :
    (filter f m).get q = (match m.get q with
      | some v => if f q v then some v else none
      | none => none) := by
  fun_induction filter f m with
  | case1 => rfl
  | case2 k v m hf ih =>
    rw [sortedKeys_cons] at h
    by_cases hk : k = q
    · subst hk; simp [get, hf]
    · simp only [get, hk, if_false]; exact ih h.2
  | case3 k v m hf ih =>
    rw [sortedKeys_cons] at h
    by_cases hk : k = q
    · subst hk; rw [ih h.2, get_none_of_allGt m k h.1]; simp [get, hf]
    · simp only [get, hk, if_false]; exact ih h.2

theorem get_remove_same : (m : KList) → (q : Key) → m.SortedKeys = true → (m.remove q).get q = none
  | .nil, _, _ => rfl
  | .cons k v m, q, h => by
    rw [sortedKeys_cons] at h
    simp only [remove]
    split
    · rename_i hk; subst hk; exact get_none_of_allGt m k h.1
    · rename_i hk
      simp only [get, hk, if_false]
      exact get_remove_same m q h.2

theorem all_of_forall_get : (m : KList) → m.SortedKeys = true → ∀ (f : Key → Kind → Bool),
    (∀ k v, m.get k = some v → f k v = true) → m.all f = true
  | .nil, _, _, _ => rfl
  | .cons k v m, hs, f, h => by
    rw [sortedKeys_cons] at hs
    simp only [all, Bool.and_eq_true]
    refine ⟨h k v (by simp [get]), all_of_forall_get m hs.2 f ?_⟩
    intro q w hq
    apply h q w
    have hne : k ≠ q := by
      intro e; subst e
      rw [get_none_of_allGt m k hs.1] at hq; cases hq
    simp [get, hne, hq]

end KList

namespace Spec

theorem memR_of_mem {v : Value} {K : Kind} (h : mem v K = true) : memR v K = true := by
  simp [memR, h]

theorem hasArr_mk (p : Prim) (a o : OCol) : (Kind.mk p a o).hasArr = (match a with | .some _ => true | .none => false) := by
  cases a <;> rfl

theorem mem_setPrim_undefined (b : Bool) (v : Value) (p : Prim) (a o : OCol) :
    mem v (.mk { p with undefined := b } a o) = mem v (.mk p a o) := by
  cases v with
  | arr _ => cases a <;> rfl
  | obj _ => cases o <;> rfl
  | _ => rfl

theorem mem_orUndefined (v : Value) (k : Kind) : mem v k.orUndefined = mem v k := by
  cases k with
  | mk p a o => exact mem_setPrim_undefined true v p a o

theorem mem_withoutUndefined (v : Value) (k : Kind) : mem v k.withoutUndefined = mem v k := by
  cases k with
  | mk p a o => exact mem_setPrim_undefined false v p a o

theorem mem_unknown_toKind (v : Value) (u : Unknown) : mem v u.toKind = mem v (unknownElemKind u) := by
  cases u with
  | exact k => simp [Unknown.toKind, Unknown.toExistingKind, unknownElemKind, mem_orUndefined, mem_withoutUndefined]
  | infinite i =>
    simp only [Unknown.toKind, Unknown.toExistingKind, unknownElemKind, mem_orUndefined, mem_withoutUndefined]
    rfl

theorem infKind_eq_ofInf (i : Inf) : infKind i = Kind.ofInf i := rfl

theorem orUndefined_undefined (k : Kind) : k.orUndefined.prim.undefined = true := by
  cases k; rfl

theorem toKind_undefined (u : Unknown) : u.toKind.prim.undefined = true :=
  orUndefined_undefined _

end Spec
