/-
  Frame lemmas for C15 on field-only paths: what `crud::insert` / `crud::remove` (with and without
  compaction) at a path `p` do to a location `q` that diverges from `p`.

  Removal with `compact: true` deletes the parents it emptied; for a diverging `q` this is
  harmless, because a parent is only deleted when it is empty, i.e. when nothing was stored below
  it on the way to `q` either. The one thing needed from the value is that the objects met along
  `q` have strictly sorted (hence unique) keys — the `BTreeMap` invariant, `spineOK`: the model's
  `VMap.remove` drops the first entry with the key, and on an association list with a duplicate key
  that would uncover the second one (`C15.witness_remove_unsorted_model`).
-/
import VrlModel.ReadOnly
import VrlProofs.Props.C18

namespace C15
open ReadOnly Value

/-- keys strictly increasing (nothing is asked of the values) -/
def keysSorted : VMap → Bool
  | .nil => true
  | .cons k _ m => VMap.allGt k m && keysSorted m

/-- every object met on the way along `q` has strictly sorted keys -/
def spineOK : Option Value → Path → Bool
  | some (.obj m), .field f :: rest => keysSorted m && spineOK (m.get f) rest
  | _, _ => true

theorem spineOK_none (q : Path) : spineOK none q = true := by
  cases q with
  | nil => rfl
  | cons s _ => cases s <;> rfl

theorem keysSorted_eq : (m : VMap) → keysSorted m = m.SortedKeys
  | .nil => rfl
  | .cons _ _ m => by rw [keysSorted, VMap.SortedKeys, keysSorted_eq m]

theorem spineOK_field (c : Option Value) (g : List Nat) (q : Path) :
    spineOK c (.field g :: q) = (keysSorted (asMap c) && spineOK (child c (.field g)) q) := by
  cases c with
  | none => exact (spineOK_none q).symm
  | some v =>
    cases v with
    | obj m => rfl
    | _ => exact (spineOK_none q).symm

theorem spineOK_of_sorted (q : Path) : ∀ (c : Option Value), optSorted c = true → spineOK c q = true := by
  induction q with
  | nil => intro c _; cases c with
    | none => rfl
    | some v => cases v <;> rfl
  | cons s rest ih =>
    intro c hc
    cases s with
    | index _ => cases c with
      | none => rfl
      | some v => cases v <;> rfl
    | field f =>
      rw [spineOK_field, Bool.and_eq_true]
      exact ⟨(keysSorted_eq _).trans (VMap.sortedKeys_of_sorted _ (asMap_sorted hc)), ih _ (child_sorted _ hc)⟩

theorem insert_spine (p : Path) : ∀ (c : Option Value) (q : Path) (x : Value),
    C18.diverge p q = true → fieldOnly p = true → fieldOnly q = true → spineOK c q = true →
    spineOK (some (insertOpt c p x)) q = true := by
  induction p with
  | nil => intro c q x hd; cases hd
  | cons s rest ih =>
    intro c q x hd hp hq hs
    cases q with
    | nil => cases hd
    | cons t q' =>
      cases s with
      | index _ => cases hp
      | field f =>
        cases t with
        | index _ => cases hq
        | field g =>
          -- the object the insert builds is `asMap c` with `f` rewritten; `q` goes on below `g`
          rw [spineOK_field, Bool.and_eq_true] at hs
          rw [insertOpt_cons, spineOK_field, Bool.and_eq_true]
          refine ⟨(keysSorted_eq _).trans (VMap.sortedKeys_insert _ _ _ (keysSorted_eq _ ▸ hs.1)), ?_⟩
          by_cases hfg : f = g
          · subst hfg
            rw [child_put_same]
            exact ih _ q' x (by simpa [C18.diverge] using hd) hp hq hs.2
          · rw [child_put_other c _ (fun e => hfg (Seg.field.inj e)) rfl]
            exact hs.2

/-- the third clause carries the induction through a parent that compaction drops: a location that
    is dropped held nothing at `q` -/
theorem removeOpt_frame (p : Path) (c : Option Value) (prune : Bool) : ∀ (q : Path) (prev new : Value) (gone : Bool),
    C18.diverge p q = true → fieldOnly p = true → fieldOnly q = true → spineOK c q = true →
    removeOpt c p prune = some (prev, new, gone) →
    getOpt (some new) q = getOpt c q ∧ spineOK (some new) q = true ∧ (gone = true → getOpt c q = none) := by
  -- of the arms of `removeOpt` only a field of an object below which something was removed (4) meets
  -- the hypotheses
  fun_induction removeOpt c p prune with
  | case4 m f rest prune prev new gone hr m' ih =>
    intro q _ _ _ hd hp hq hs h
    cases h
    cases q with
    | nil => cases hd
    | cons t q' =>
    cases t with
    | index _ => cases hq
    | field g =>
    simp only [spineOK, Bool.and_eq_true] at hs
    obtain ⟨hk, hg⟩ := hs
    rw [keysSorted_eq] at hk
    -- what `q` finds below `g` in the new map, and its spine there
    have key : getOpt (m'.get g) q' = getOpt (m.get g) q' ∧ spineOK (m'.get g) q' = true := by
      by_cases hfg : f = g
      · subst hfg
        obtain ⟨i1, i2, i3⟩ := ih q' _ _ _ (by simpa [C18.diverge] using hd) hp hq hg hr
        cases gone with
        | true =>
          show getOpt ((m.remove f).get f) q' = _ ∧ spineOK ((m.remove f).get f) q' = true
          rw [VMap.get_remove_same_of_sortedKeys m f hk, i3 rfl]
          exact ⟨C18.getOpt_none _, spineOK_none _⟩
        | false =>
          show getOpt ((m.insert f new).get f) q' = _ ∧ spineOK ((m.insert f new).get f) q' = true
          rw [VMap.get_insert_same]
          exact ⟨i1, i2⟩
      · cases gone with
        | true =>
          show getOpt ((m.remove f).get g) q' = _ ∧ spineOK ((m.remove f).get g) q' = true
          rw [VMap.get_remove_other m f g hfg]
          exact ⟨rfl, hg⟩
        | false =>
          show getOpt ((m.insert f new).get g) q' = _ ∧ spineOK ((m.insert f new).get g) q' = true
          rw [VMap.get_insert_other m f g new hfg]
          exact ⟨rfl, hg⟩
    have hks : keysSorted m' = true := by
      rw [keysSorted_eq]
      show VMap.SortedKeys (if gone = true then m.remove f else m.insert f new) = true
      split
      · exact VMap.sortedKeys_remove m f hk
      · exact VMap.sortedKeys_insert m f new hk
    refine ⟨key.1, Bool.and_eq_true_iff.mpr ⟨hks, key.2⟩, fun hgone => ?_⟩
    -- the parent is dropped only when the new map is empty: then it holds nothing under `g`
    show getOpt (m.get g) q' = none
    rw [← key.1]
    cases hm' : m' with
    | nil => exact C18.getOpt_none _
    | cons _ _ _ => rw [hm'] at hgone; simp [VMap.isEmpty] at hgone
  | case2 => intro q _ _ _ hd; cases q <;> cases hd  -- `p = []`: nothing diverges from it
  | case6 => intro q _ _ _ _ hp; cases hp  -- an index of an array: `p` is not field-only
  | _ => intro q _ _ _ _ _ _ _ h; cases h  -- the arms that return `none`

end C15
