import VrlProofs.Lemmas.TypeKind
import VrlProofs.Lemmas.Vars

/-! `AllNan`, the form in which the proofs take the side conditions `Lang.safe`. Algebra of the
    type state (`LocalEnv` as an association list) and preservation of `Conforms` by the state
    operations of the type inference: `TypeState::merge`, `apply_child_scope`, changes of run-time
    flags. The operations of the run-time target when it rejects none, up to `St.Same`. -/

namespace Lang
open Spec

def AllNan (l : List Chk) : Prop := ∀ c ∈ l, c = Chk.nan

theorem allNan_nil : AllNan [] := by intro c h; cases h

theorem allNan_append {a b : List Chk} : AllNan (a ++ b) ↔ AllNan a ∧ AllNan b :=
  List.forall_mem_append

theorem allNan_chk_iff {c : Chk} {b : Bool} : AllNan (chk c b) ↔ (c = .nan ∨ b = true) := by
  unfold AllNan chk
  cases b <;> simp

theorem allNan_chk_nan (b : Bool) : AllNan (chk .nan b) := by
  unfold AllNan chk
  cases b <;> simp

theorem allNan_of_all {l : List Chk} (h : l.all (· == .nan) = true) : AllNan l := by
  intro c hc
  have := List.all_eq_true.mp h c hc
  simpa using this

theorem all_of_allNan {l : List Chk} (h : AllNan l) : l.all (· == .nan) = true := by
  apply List.all_eq_true.mpr
  intro c hc
  simp [h c hc]

theorem allNan_ite {b : Bool} {x y : List Chk} : AllNan (if b = true then x else y) ↔
    (b = true → AllNan x) ∧ (b = false → AllNan y) := by
  cases b <;> simp

namespace Locals

theorem get_nil (n : String) : get [] n = none := rfl

theorem get_cons (x : String × Details) (l : Locals) (n : String) :
    get (x :: l) n = if x.1 = n then some x.2 else get l n := by
  unfold get
  by_cases h : x.1 = n
  · simp [List.find?, h]
  · have : (x.1 == n) = false := by simp [h]
    simp [List.find?, this, h]

@[simp] theorem get_set_same (l : Locals) (n : String) (d : Details) : get (set l n d) n = some d := by
  simp [get, set]

theorem get_set_other (l : Locals) (n m : String) (d : Details) (h : n ≠ m) :
    get (set l n d) m = get l m := by
  have hm : (n == m) = false := by simp [h]
  simp [get, set, hm, Lang.find_filter_ne _ _ _ h]

theorem mem_of_get {l : Locals} {n : String} {d : Details} (h : get l n = some d) : (n, d) ∈ l := by
  unfold get at h
  cases hf : l.find? (·.1 == n) with
  | none => simp [hf] at h
  | some x =>
    rw [hf] at h
    simp only [Option.map_some, Option.some.injEq] at h
    have h1 := List.mem_of_find?_eq_some hf
    have h2 := List.find?_some hf
    simp only [beq_iff_eq] at h2
    cases x with
    | mk a b => simp only at h h2; subst h; subst h2; exact h1

theorem get_isSome_of_mem {l : Locals} {n : String} {d : Details} (h : (n, d) ∈ l) : (get l n).isSome = true := by
  rw [get, Option.isSome_map, List.find?_isSome]
  exact ⟨_, h, beq_self_eq_true n⟩

theorem get_applyChildScope (P C : Locals) (n : String) :
    get (applyChildScope P C) n = (get P n).map fun d => (get C n).getD d := by
  unfold applyChildScope
  induction P with
  | nil => rfl
  | cons x xs ih =>
    rw [List.map_cons, get_cons, get_cons]
    by_cases hx : x.1 = n
    · subst hx; simp
    · simp only [hx, if_false]; exact ih

theorem mergeEntry_fst (B : Locals) (x : String × Details) : (mergeEntry B x).1 = x.1 := by
  unfold mergeEntry; cases get B x.1 <;> rfl

theorem get_map_merge (A B : Locals) (n : String) :
    get (A.map (mergeEntry B)) n =
      (get A n).map fun d => match get B n with | some od => d.merge od | none => d := by
  induction A with
  | nil => rfl
  | cons x xs ih =>
    rw [List.map_cons, get_cons, get_cons, mergeEntry_fst]
    by_cases hx : x.1 = n
    · subst hx
      simp only [if_true, Option.map_some, Option.some.injEq]
      unfold mergeEntry
      cases get B x.1 <;> rfl
    · simp only [hx, if_false]
      exact ih

theorem get_append (A B : Locals) (n : String) :
    get (A ++ B) n = match get A n with | some d => some d | none => get B n := by
  unfold get
  rw [List.find?_append]
  cases List.find? (·.1 == n) A <;> rfl

theorem get_filter (B : Locals) (f : String → Bool) (n : String) :
    get (B.filter fun x => f x.1) n = if f n then get B n else none := by
  unfold get
  rw [List.find?_filter]
  by_cases hf : f n = true
  · rw [if_pos hf]
    congr; funext x
    by_cases hx : x.1 = n <;> simp [hx, hf]
  · rw [if_neg hf, List.find?_eq_none.mpr fun x _ => by by_cases hx : x.1 = n <;> simp_all]
    rfl

theorem get_merge (A B : Locals) (n : String) :
    get (merge A B) n =
      match get A n, get B n with
      | some a, some b => some (a.merge b)
      | some a, none => some a
      | none, b => b := by
  unfold merge
  rw [get_append, get_map_merge]
  cases ha : get A n with
  | some a => cases hb : get B n <;> simp
  | none =>
    simp only [Option.map_none]
    have := get_filter B (fun m => (get A m).isNone) n
    rw [this, ha]
    simp

end Locals

/-- the part of the run-time state `Conforms` looks at -/
def St.Same (s s' : St) : Prop :=
  s'.vars = s.vars ∧ s'.event = s.event ∧ s'.metadata = s.metadata ∧ s'.faults = s.faults

theorem St.Same.refl (s : St) : St.Same s s := ⟨rfl, rfl, rfl, rfl⟩

theorem St.Same.trans {a b c : St} (h1 : St.Same a b) (h2 : St.Same b c) : St.Same a c :=
  ⟨h2.1.trans h1.1, h2.2.1.trans h1.2.1, h2.2.2.1.trans h1.2.2.1, h2.2.2.2.trans h1.2.2.2⟩

theorem same_flags (s : St) (a b c d e : Bool) :
    St.Same s { s with evRet := a, evAbort := b, evClosure := c, evCatch := d, evShort := e } :=
  ⟨rfl, rfl, rfl, rfl⟩

theorem Conforms.of_same {s s' : St} {T : TState} (h : St.Same s s') (hc : Conforms s T) : Conforms s' T := by
  obtain ⟨hv, he, hm, hf⟩ := h
  refine ⟨by rw [hf]; exact hc.faults, ?_, by rw [he]; exact hc.event, by rw [he]; exact hc.eventSorted,
    by rw [hm]; exact hc.metadata, by rw [hm]; exact hc.metadataSorted, ?_⟩
  · intro n d hd
    obtain ⟨v, h1, h2⟩ := hc.vars n d hd
    exact ⟨v, by simpa [St.getVar, hv] using h1, h2⟩
  · intro n v hn
    exact hc.closed n v (by simpa [St.getVar, hv] using hn)

theorem Conforms.catch {s : St} {T : TState} (hc : Conforms s T) : Conforms { s with evCatch := true } T :=
  Conforms.of_same (same_flags s _ _ _ true _) hc

theorem Conforms.short {s : St} {T : TState} (hc : Conforms s T) : Conforms { s with evShort := true } T :=
  Conforms.of_same (same_flags s _ _ _ _ true) hc

theorem Conforms.of_tstate {s : St} {T T' : TState} (hl : T'.locals = T.locals) (ht : T'.target = T.target)
    (hm : T'.metadata = T.metadata) (hk : T'.leaked = T.leaked) (hc : Conforms s T) : Conforms s T' := by
  refine ⟨hc.faults, ?_, by rw [ht]; exact hc.event, hc.eventSorted, by rw [hm]; exact hc.metadata,
    hc.metadataSorted, ?_⟩
  · intro n d hd
    exact hc.vars n d (by simpa [TState.getVar, hl] using hd)
  · intro n v hn
    have := hc.closed n v hn
    simpa [TState.getVar, hl, hk] using this

theorem Conforms.extMem {s : St} {T : TState} (hc : Conforms s T) (m : Bool) :
    mem (if m then s.metadata else s.event) (T.extKind m) = true ∧
    (if m then s.metadata else s.event).Sorted = true := by
  cases m
  · exact ⟨hc.event, hc.eventSorted⟩
  · exact ⟨hc.metadata, hc.metadataSorted⟩

/-- the event (`m = false`) or the metadata replaced by `x` -/
def St.putExt (s : St) (m : Bool) (x : Value) : St :=
  if m then { s with metadata := x } else { s with event := x }

theorem Conforms.setExt {s : St} {T : TState} (hc : Conforms s T) (m : Bool) {K' : Kind} {x : Value}
    (hm : mem x K' = true) (hs : x.Sorted = true) : Conforms (s.putExt m x) (T.setExt m K') := by
  cases m
  · exact ⟨hc.faults, hc.vars, hm, hs, hc.metadata, hc.metadataSorted, hc.closed⟩
  · exact ⟨hc.faults, hc.vars, hc.event, hc.eventSorted, hm, hs, hc.closed⟩

theorem same_targetGet (s : St) (m : Bool) (p : Path) : St.Same s (s.targetGet m p).2 := by
  unfold St.targetGet St.tick
  simp only
  split <;> exact ⟨rfl, rfl, rfl, rfl⟩

theorem targetGet_eq (s : St) (hf : s.faults = []) (m : Bool) (p : Path) :
    (s.targetGet m p).1 = (if m then s.metadata else s.event).get p := by
  unfold St.targetGet St.tick
  simp [hf]

theorem targetInsert_eq {s s' : St} (hf : s.faults = []) {m : Bool} {p : Path} {v : Value}
    (hi : s.targetInsert m p v = some s') :
    ∃ v' prev, (if m then s.metadata else s.event).insert p v = .ok (v', prev) ∧ St.Same (s.putExt m v') s' := by
  unfold St.targetInsert St.tick at hi
  simp only [hf, List.contains_nil, Bool.false_eq_true, if_false] at hi
  cases hins : (if m = true then s.metadata else s.event).insert p v with
  | panic => rw [hins] at hi; cases hi
  | ok r =>
    rw [hins] at hi
    cases Option.some.inj hi
    exact ⟨r.1, r.2, rfl, by cases m <;> exact ⟨rfl, rfl, rfl, hf.symm⟩⟩

theorem targetRemove_eq (s : St) (hf : s.faults = []) (m : Bool) (p : Path) (b : Bool) :
    (s.targetRemove m p b).1 = ((if m then s.metadata else s.event).remove p b).1 ∧
    St.Same (s.putExt m ((if m then s.metadata else s.event).remove p b).2) (s.targetRemove m p b).2 := by
  unfold St.targetRemove St.tick
  simp only [hf, List.contains_nil, Bool.false_eq_true, if_false, true_and]
  cases m <;> exact ⟨rfl, rfl, rfl, hf.symm⟩

theorem names_of_all {A : Locals} {f : String → Bool} (h : A.all (fun (n, _) => f n) = true)
    {n : String} {d : Details} (hd : Locals.get A n = some d) : f n = true := by
  have := List.all_eq_true.mp h (n, d) (Locals.mem_of_get hd)
  simpa using this

/-- the hypotheses `mergeChecks` provides for `TypeState::merge` (`Lang.mergeOk`, in lower case, is
    another thing: the side condition of `Kind::merge`, the `|` operator) -/
structure MergeOk (A B : TState) : Prop where
  subBA : ∀ n d, B.getVar n = some d → (A.getVar n).isSome = true
  subAB : ∀ n d, A.getVar n = some d → (B.getVar n).isSome = true
  details : ∀ n a b, A.getVar n = some a → B.getVar n = some b →
    unionOk a.td.kind b.td.kind = true ∧ (optValueEq a.value b.value = true → a.value = b.value)
  target : unionOk A.target B.target = true
  metadata : unionOk A.metadata B.metadata = true

theorem mergeOk_of_checks {A B : TState} (h : AllNan (mergeChecks A B)) : MergeOk A B := by
  simp only [mergeChecks, allNan_append, allNan_chk_iff, reduceCtorEq, false_or] at h
  obtain ⟨⟨⟨⟨h1, h2⟩, h3⟩, h4⟩, h5⟩ := h
  refine ⟨fun n d hd => names_of_all (f := fun n => (A.getVar n).isSome) h1 hd,
    fun n d hd => names_of_all (f := fun n => (B.getVar n).isSome) h2 hd, fun n a b ha hb => ?_, h4, h5⟩
  have : AllNan (detailsMergeChecks a b) := fun c hc =>
    h3 c (List.mem_flatMap.mpr ⟨(n, a), Locals.mem_of_get ha, by simp only [hb]; exact hc⟩)
  simp only [detailsMergeChecks, allNan_append, allNan_chk_iff, reduceCtorEq, false_or] at this
  exact ⟨this.1, fun he => by simpa [he] using this.2⟩

theorem TState.getVar_setVar_same (T : TState) (n : String) (d : Details) :
    (T.setVar n d).getVar n = some d := Locals.get_set_same _ _ _

theorem TState.getVar_setVar_other (T : TState) (n m : String) (d : Details) (h : n ≠ m) :
    (T.setVar n d).getVar m = T.getVar m := Locals.get_set_other _ _ _ _ h

theorem TState.getVar_merge (A B : TState) (n : String) :
    (A.merge B).getVar n =
      match A.getVar n, B.getVar n with
      | some a, some b => some (a.merge b)
      | some a, none => some a
      | none, b => b := Locals.get_merge A.locals B.locals n

theorem Conforms.merge_left {s : St} {A B : TState} (ok : MergeOk A B) (hc : Conforms s A) :
    Conforms s (A.merge B) := by
  refine ⟨hc.faults, ?_, mem_union_left' ok.target hc.event, hc.eventSorted,
    mem_union_left' ok.metadata hc.metadata, hc.metadataSorted, ?_⟩
  case refine_2 =>
    intro n v hn
    rcases hc.closed n v hn with h | h
    · left
      rw [TState.getVar_merge]
      cases ha : A.getVar n with
      | none => rw [ha] at h; cases h
      | some a => cases B.getVar n <;> rfl
    · right; exact List.mem_append_left _ h
  intro n d hd
  rw [TState.getVar_merge] at hd
  cases ha : A.getVar n with
  | none =>
    rw [ha] at hd
    simp only at hd
    have := ok.subBA n d hd
    rw [ha] at this; cases this
  | some a =>
    obtain ⟨v, hv1, hv2, hv3, hv4⟩ := hc.vars n a ha
    rw [ha] at hd
    cases hb : B.getVar n with
    | none => rw [hb] at hd; simp only [Option.some.injEq] at hd; subst hd; exact ⟨v, hv1, hv2, hv3, hv4⟩
    | some b =>
      rw [hb] at hd
      simp only [Option.some.injEq] at hd
      subst hd
      refine ⟨v, hv1, mem_union_left' (ok.details n a b ha hb).1 hv2, hv3, ?_⟩
      intro c hcv
      simp only [Details.merge] at hcv
      split at hcv
      · exact hv4 c hcv
      · cases hcv

theorem Conforms.merge_right {s : St} {A B : TState} (ok : MergeOk A B) (hc : Conforms s B) :
    Conforms s (A.merge B) := by
  refine ⟨hc.faults, ?_, mem_union_right' ok.target hc.event, hc.eventSorted,
    mem_union_right' ok.metadata hc.metadata, hc.metadataSorted, ?_⟩
  case refine_2 =>
    intro n v hn
    rcases hc.closed n v hn with h | h
    · left
      rw [TState.getVar_merge]
      cases hb : B.getVar n with
      | none => rw [hb] at h; cases h
      | some b => cases A.getVar n <;> rfl
    · right; exact List.mem_append_right _ h
  intro n d hd
  rw [TState.getVar_merge] at hd
  cases ha : A.getVar n with
  | none =>
    rw [ha] at hd
    simp only at hd
    exact hc.vars n d hd
  | some a =>
    rw [ha] at hd
    cases hb : B.getVar n with
    | none =>
      have := ok.subAB n a ha
      rw [hb] at this; cases this
    | some b =>
      obtain ⟨v, hv1, hv2, hv3, hv4⟩ := hc.vars n b hb
      rw [hb] at hd
      simp only [Option.some.injEq] at hd
      subst hd
      refine ⟨v, hv1, mem_union_right' (ok.details n a b ha hb).1 hv2, hv3, ?_⟩
      intro c hcv
      simp only [Details.merge] at hcv
      split at hcv
      · rename_i he
        have := (ok.details n a b ha hb).2 he
        exact hv4 c (by rw [← this]; exact hcv)
      · cases hcv

theorem Locals.mem_droppedNames {P C : Locals} {n : String} {d : Details} (hc : Locals.get C n = some d)
    (hp : Locals.get P n = none) : n ∈ Locals.droppedNames P C := by
  unfold Locals.droppedNames
  rw [List.mem_map]
  refine ⟨(n, d), ?_, rfl⟩
  rw [List.mem_filter]
  exact ⟨Locals.mem_of_get hc, by simp [hp]⟩

theorem Conforms.scope {s : St} {P : Locals} {C : TState}
    (hsub : P.all (fun (n, _) => (C.getVar n).isSome) = true) (hc : Conforms s C) :
    Conforms s (scopedState P C) := by
  refine ⟨hc.faults, ?_, hc.event, hc.eventSorted, hc.metadata, hc.metadataSorted, ?_⟩
  · intro n d hd
    simp only [TState.getVar, scopedState] at hd
    rw [Locals.get_applyChildScope] at hd
    cases hp : Locals.get P n with
    | none => rw [hp] at hd; cases hd
    | some pd =>
      rw [hp] at hd
      have := names_of_all (f := fun n => (C.getVar n).isSome) hsub hp
      cases hcn : C.getVar n with
      | none => rw [hcn] at this; cases this
      | some cd =>
        simp only [TState.getVar] at hcn
        simp only [Option.map_some, hcn, Option.getD_some, Option.some.injEq] at hd
        subst hd
        exact hc.vars n cd hcn
  · intro n v hn
    rcases hc.closed n v hn with h | h
    · cases hcn : C.getVar n with
      | none => rw [hcn] at h; cases h
      | some cd =>
        cases hp : Locals.get P n with
        | some pd =>
          left
          simp only [TState.getVar, scopedState, Locals.get_applyChildScope, hp, Option.map_some, Option.isSome_some]
        | none =>
          right
          simp only [scopedState]
          exact List.mem_append_right _ (Locals.mem_droppedNames (by simpa [TState.getVar] using hcn) hp)
    · right
      simp only [scopedState]
      exact List.mem_append_left _ h

end Lang
