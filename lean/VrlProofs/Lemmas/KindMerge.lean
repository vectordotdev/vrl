import VrlProofs.Lemmas.KindUnion

/-! Soundness of `merge(Strategy::Overwrite)` against the run-time `a | b` on objects, outside the
    classes `D_merge_overwrite_maybe_absent`, `D_merge_unknown_overwrite`, `D_inf_over_exact`.
    (`FSound` of KindUnion speaks of `overwrite = false` only: where the overwrite merge recurses with
    `overwrite = true` the cases below are argued directly.) -/

namespace VMap

theorem mergeInto_sortedKeys : (b a : VMap) → a.SortedKeys = true → (a.mergeInto b).SortedKeys = true
  | .nil, _, h => h
  | .cons k v m, a, h => by
    simp only [VMap.mergeInto]
    exact mergeInto_sortedKeys m _ (sortedKeys_insert a k v h)

/-- `a | b`: the fields of `b` win. -/
theorem mergeInto_get : (b a : VMap) → (q : List Nat) → b.SortedKeys = true →
    (a.mergeInto b).get q = (match b.get q with | some w => some w | none => a.get q)
  | .nil, _, _, _ => rfl
  | .cons k v m, a, q, hs => by
    rw [sortedKeys_cons] at hs
    simp only [VMap.mergeInto]
    rw [mergeInto_get m _ q hs.2, get_insert]
    by_cases hk : k = q
    · subst hk
      simp [VMap.get, get_none_of_allGt m k hs.1]
    · simp [VMap.get, hk]

end VMap

namespace Spec

theorem ocol_merge_none_left (f : Kind → Kind → Bool → Kind) (a : OCol) (ow : Bool) :
    OCol.mergeWith f .none a ow = a := by cases a <;> rfl

theorem ocol_merge_none_right (f : Kind → Kind → Bool → Kind) (a : OCol) (ow : Bool) :
    OCol.mergeWith f a .none ow = a := by cases a <;> rfl

theorem mergeKeepF_right_of_flat (n : Nat) (l r : Kind) (ow : Bool) (w : Value)
    (hl : l.hasArr = false ∧ l.hasObj = false) (h : mem w r = true) :
    mem w (Kind.mergeKeepF n l r ow) = true := by
  cases n with
  | zero => exact mem_any w
  | succ n =>
    obtain ⟨pl, al, ol⟩ := l
    obtain ⟨pr, ar, or'⟩ := r
    cases al <;> cases ol <;> simp [Kind.hasArr, Kind.hasObj] at hl
    simp only [Kind.mergeKeepF, ocol_merge_none_left]
    exact mem_mono (prim_sup_or_right pl pr) (OColSub.refl _) (OColSub.refl _) w h

theorem mergeKeepF_left_of_flat (n : Nat) (l r : Kind) (ow : Bool) (w : Value)
    (hr : r.hasArr = false ∧ r.hasObj = false) (h : mem w l = true) :
    mem w (Kind.mergeKeepF n l r ow) = true := by
  cases n with
  | zero => exact mem_any w
  | succ n =>
    obtain ⟨pl, al, ol⟩ := l
    obtain ⟨pr, ar, or'⟩ := r
    cases ar <;> cases or' <;> simp [Kind.hasArr, Kind.hasObj] at hr
    simp only [Kind.mergeKeepF, ocol_merge_none_right]
    exact mem_mono (prim_sup_or_left pl pr) (OColSub.refl _) (OColSub.refl _) w h

theorem flat_of_not_defined (l : Kind) (h : (Unknown.exact l).toKind.containsAnyDefined = false) :
    l.hasArr = false ∧ l.hasObj = false := by
  cases l with
  | mk p a o =>
    simp only [Unknown.toKind, Unknown.toExistingKind, Kind.withoutUndefined, Kind.orUndefined,
      Kind.containsAnyDefined, Kind.isUndefined, Kind.onlyPrim, Kind.hasArr, Kind.hasObj,
      Bool.not_eq_false', Bool.and_eq_true, Bool.not_eq_true'] at h
    cases a <;> cases o <;> simp_all [Kind.hasArr, Kind.hasObj]

/-- the unknown of an overwrite-merge includes both unknowns, unless both are `Exact` with defined
    states (`D_merge_unknown_overwrite`). -/
theorem unknown_merge_overwrite_sound (n : Nat) (u1 u2 : Unknown) (t1 : TameU u1) (t2 : TameU u2)
    (hc : (u1.isExact && u1.toKind.containsAnyDefined && u2.isExact && u2.toKind.containsAnyDefined) = false) :
    LocSub u1.toKind (Unknown.mergeWith (Kind.mergeKeepF n) u1 u2 true).toKind ∧
    LocSub u2.toKind (Unknown.mergeWith (Kind.mergeKeepF n) u1 u2 true).toKind := by
  have hinf := fun he => And.intro (unknown_merge_infinite (Kind.mergeKeepF n) u1 u2 true t1 t2 he u1)
    (unknown_merge_infinite (Kind.mergeKeepF n) u1 u2 true t1 t2 he u2)
  match u1, u2, hc, hinf with
  | .exact _, .infinite _, _, hinf => exact hinf rfl
  | .infinite _, _, _, hinf => exact hinf rfl
  | .exact l, .exact r, hc, _ =>
    -- one of the two kinds has no defined state, hence no member and no collection
    simp only [Unknown.isExact, Bool.true_and, Bool.and_true, Bool.and_eq_false_iff, Unknown.mergeWith] at hc ⊢
    have hmem : ∀ (k : Kind) x, mem x k = true → (Unknown.exact k).toKind.containsAnyDefined = true :=
      fun k x hx => containsAnyDefined_of_mem x _ (by rw [mem_unknown_toKind]; exact hx)
    rcases hc with hd | hd
    · exact ⟨locSub_toKind fun x hx => absurd (hmem l x hx) (by simp [hd]),
        locSub_toKind fun x => mergeKeepF_right_of_flat n l r true x (flat_of_not_defined l hd)⟩
    · exact ⟨locSub_toKind fun x => mergeKeepF_left_of_flat n l r true x (flat_of_not_defined r hd),
        locSub_toKind fun x hx => absurd (hmem r x hx) (by simp [hd])⟩

theorem mergeKnownSelf_true (f : Kind → Kind → Bool → Kind) (c2 : Col) (k : Key) (k1 : Kind) :
    Col.mergeKnownSelf f c2 true k k1 =
      (match c2.known.get k with
       | some k2 => k2
       | none => if c2.unknownKind.containsAnyDefined = true
                 then f c2.unknownKind.withoutUndefined k1 false else k1) := by
  unfold Col.mergeKnownSelf
  cases c2.known.get k <;> simp

theorem mergeKnownOther_true (f : Kind → Kind → Bool → Kind) (suk ok : Kind) :
    Col.mergeKnownOther f suk true ok = ok := by
  unfold Col.mergeKnownOther
  simp

theorem mergeWith_true_loc (f : Kind → Kind → Bool → Kind) (c1 c2 : Col) (q : Key)
    (hs : c2.known.SortedKeys = true) :
    (Col.mergeWith f c1 c2 true).loc q =
      (match c2.known.get q, c1.known.get q with
       | some b, _ => b
       | none, some a =>
         if c2.unknown.toKind.containsAnyDefined = true then f c2.unknown.toKind.withoutUndefined a false else a
       | none, none => (Unknown.mergeWith f c1.unknown c2.unknown true).toKind) := by
  unfold Col.loc
  rw [Col.mergeWith_known_get f c1 c2 true q hs]
  simp only [mergeKnownSelf_true, Col.unknownKind]
  cases c1.known.get q <;> cases c2.known.get q <;> simp only [Option.map, mergeKnownOther_true] <;> rfl

/-- **the object collection of `merge(Overwrite)` describes `a | b`**, field by field. -/
theorem col_merge_overwrite_sound (n : Nat) (c1 c2 : Col) (ma mb : VMap)
    (hmb : mb.SortedKeys = true) (t1 : TameC c1) (t2 : TameC c2)
    (hopt : c2.known.any (fun _ v => v.prim.undefined) = false)
    (hunk : (c1.unknown.isExact && c1.unknownKind.containsAnyDefined &&
      c2.unknown.isExact && c2.unknownKind.containsAnyDefined) = false)
    (ha : ObjFits ma c1) (hb : ObjFits mb c2) :
    ObjFits (ma.mergeInto mb) (Col.mergeWith (Kind.mergeKeepF n) c1 c2 true) := by
  intro q
  have hf := mergeKeepF_sound n
  have hunkS := unknown_merge_overwrite_sound n c1.unknown c2.unknown t1.unknown t2.unknown hunk
  have ha := ha q
  have hb := hb q
  rw [VMap.mergeInto_get mb ma q hmb, mergeWith_true_loc _ c1 c2 q t2.sortedKeys]
  cases hbq : mb.get q with
  | some wb =>
    -- the field comes from `b`
    rw [hbq] at hb
    cases h2 : c2.known.get q with
    | some K2 => rwa [loc_of_get h2] at hb
    | none =>
      rw [loc_of_none h2] at hb
      cases h1 : c1.known.get q with
      | none => exact hunkS.2 _ hb
      | some K1 =>
        simp only [if_pos (containsAnyDefined_of_mem wb _ hb)]
        exact (hf.left _ K1 t2.unknown.toKind.withoutUndefined (t1.known.get h1)).elem
          ((mem_withoutUndefined wb _).trans hb)
  | none =>
    -- `b` lacks the field, which therefore is not known in `c2` (no optional known entry there)
    rw [hbq] at hb
    have h2 : c2.known.get q = none := by
      cases h2 : c2.known.get q with
      | none => rfl
      | some K2 =>
        rw [loc_of_get h2] at hb
        have := KList.any_false _ _ hopt q K2 h2
        rw [show K2.prim.undefined = true from hb] at this; cases this
    rw [h2]
    cases h1 : c1.known.get q with
    | none => rw [loc_of_none h1] at ha; exact hunkS.1 _ ha
    | some K1 =>
      rw [loc_of_get h1] at ha
      simp only
      split
      · exact hf.right _ K1 t2.unknown.toKind.withoutUndefined (t1.known.get h1) _ ha
      · exact ha

end Spec
