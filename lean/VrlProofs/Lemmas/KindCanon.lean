import VrlProofs.Lemmas.KindUnion

/-! `canonicalize` and `PartialEq for Kind` respect membership, for key-sorted kinds without an
    `Exact` unknown that `Unknown::canonicalize` turns into an `Infinite` one
    (`Kind.hasExactToInf`; otherwise finding `D_canon_exact_to_infinite`). -/

namespace KList

theorem eqWith_get (eq : Kind → Kind → Bool) : (m1 m2 : KList) → eqWith eq m1 m2 = true → (q : Key) →
    (m1.get q = none ∧ m2.get q = none) ∨
    ∃ v1 v2, m1.get q = some v1 ∧ m2.get q = some v2 ∧ eq v1 v2 = true
  | .nil, .nil, _, _ => Or.inl ⟨rfl, rfl⟩
  | .nil, .cons _ _ _, h, _ => by simp [eqWith] at h
  | .cons _ _ _, .nil, h, _ => by simp [eqWith] at h
  | .cons k v m, .cons k' v' m', h, q => by
    simp only [eqWith, Bool.and_eq_true, decide_eq_true_eq] at h
    obtain ⟨⟨hk, hv⟩, hm⟩ := h
    subst hk
    by_cases hq : k = q
    · exact Or.inr ⟨v, v', by simp [get, hq], by simp [get, hq], hv⟩
    · simp only [get, hq, if_false]
      exact eqWith_get eq m m' hm q

end KList

theorem KList.sortedK_get (m : KList) (q : Key) (K : Kind) (hs : m.SortedK = true)
    (h : m.get q = some K) : K.SortedK = true :=
  KList.all_of_get _ m (KList.sortedK_eq_all m ▸ hs) q K h

theorem KList.noE2I_eq_all : (m : KList) → (!m.hasExactToInf) = m.all fun _ k => !k.hasExactToInf
  | .nil => rfl
  | .cons _ v m => by
    simp only [KList.hasExactToInf, KList.all, Bool.not_or, KList.noE2I_eq_all m]

namespace Spec

/-- the kinds on which `canonicalize` and `==` respect membership: key-sorted, and no `Exact` unknown
    that `Unknown::canonicalize` would turn into an `Infinite` one (`NiceO`: the same for a collection
    state). -/
def Nice (K : Kind) : Prop := K.hasExactToInf = false ∧ K.SortedK = true

def NiceO (a : OCol) : Prop := a.hasExactToInf = false ∧ a.SortedK = true

theorem nice_mk (p : Prim) (a o : OCol) : Nice (.mk p a o) ↔ NiceO a ∧ NiceO o := by
  simp only [Nice, NiceO, Kind.hasExactToInf, Kind.SortedK, Bool.or_eq_false_iff, Bool.and_eq_true]
  exact and_and_and_comm

theorem niceO_some (k : KList) (u : Unknown) : NiceO (.some (.mk k u)) ↔
    k.hasExactToInf = false ∧ u.hasExactToInf = false ∧ k.SortedKeys = true ∧ k.SortedK = true ∧
      u.SortedK = true := by
  simp only [NiceO, OCol.hasExactToInf, Col.hasExactToInf, OCol.SortedK, Col.SortedK,
    Bool.or_eq_false_iff, Bool.and_eq_true, and_assoc]

theorem nice_get (k : KList) (q : Key) (K : Kind) (he : k.hasExactToInf = false)
    (hs : k.SortedK = true) (hg : k.get q = some K) : Nice K := by
  refine ⟨?_, KList.sortedK_get k q K hs hg⟩
  have h1 : k.all (fun _ k => !k.hasExactToInf) = true := by
    rw [← KList.noE2I_eq_all, he]; rfl
  simpa using KList.all_of_get _ k h1 q K hg

theorem nice_ofInf (i : Inf) : Nice (Kind.ofInf i).orUndefined := by
  rw [Kind.ofInf, Kind.orUndefined, nice_mk]
  cases i.array <;> cases i.object <;> exact ⟨⟨rfl, rfl⟩, ⟨rfl, rfl⟩⟩

theorem nice_toKind (u : Unknown) (he : u.hasExactToInf = false) (hs : u.SortedK = true) :
    Nice u.toKind := by
  refine ⟨?_, Unknown.sortedK_toKind u hs⟩
  cases u with
  | exact k =>
    simp only [Unknown.hasExactToInf, Bool.or_eq_false_iff] at he
    cases k; exact he.2
  | infinite i =>
    rw [Unknown.toKind, Unknown.toExistingKind, Kind.ofInf]
    cases i.array <;> cases i.object <;> rfl

theorem NiceO.loc {k : KList} {u : Unknown} (h : NiceO (.some (.mk k u))) (q : Key) :
    Nice ((Col.mk k u).loc q) := by
  obtain ⟨he, hu, _, sK, su⟩ := (niceO_some k u).mp h
  cases hq : (Col.mk k u).known.get q with
  | some K => rw [loc_of_get hq]; exact nice_get k q K he sK hq
  | none => rw [loc_of_none hq]; exact nice_toKind u hu su

/-- what the collection-level lemmas need from the kind equality: equal kinds describe the same
    locations. -/
structure EqSound (eq : Kind → Kind → Bool) : Prop where
  same : ∀ a b, Nice a → Nice b → eq a b = true → ∀ g, memOpt g a = memOpt g b

/-- a kind that admits `undefined` is not `never`, so its `contains_*` are its raw states. -/
theorem isNever_orUndefined (k : Kind) : k.orUndefined.isNever = false := by
  cases k with
  | mk p a o => cases a <;> cases o <;> simp [Kind.orUndefined, Kind.isNever, Prim.isEmpty]

theorem hasArr_ofInf (i : Inf) : (Kind.ofInf i).orUndefined.hasArr = i.array := by
  cases h : i.array <;> simp [Kind.ofInf, Kind.orUndefined, Kind.hasArr, h]

theorem hasObj_ofInf (i : Inf) : (Kind.ofInf i).orUndefined.hasObj = i.object := by
  cases h : i.object <;> simp [Kind.ofInf, Kind.orUndefined, Kind.hasObj, h]

theorem ofInf_orU_isAny (i : Inf) : (Kind.ofInf i).orUndefined.isAny = i.isAny := by
  simp [Kind.isAny, Kind.containsBytes, Kind.containsInteger, Kind.containsFloat, Kind.containsBoolean,
    Kind.containsTimestamp, Kind.containsRegex, Kind.containsNull, Kind.containsUndefined,
    Kind.containsArray, Kind.containsObject, isNever_orUndefined, hasArr_ofInf, hasObj_ofInf, Inf.isAny]
  simp [Kind.ofInf, Kind.orUndefined, Kind.prim, Inf.prim]

theorem ofInf_orU_isJson (i : Inf) : (Kind.ofInf i).orUndefined.isJson = i.isJson := by
  simp [Kind.isJson, Kind.containsBytes, Kind.containsInteger, Kind.containsFloat, Kind.containsBoolean,
    Kind.containsTimestamp, Kind.containsRegex, Kind.containsNull, Kind.containsUndefined,
    Kind.containsArray, Kind.containsObject, isNever_orUndefined, hasArr_ofInf, hasObj_ofInf, Inf.isJson]
  simp [Kind.ofInf, Kind.orUndefined, Kind.prim, Inf.prim]

theorem inf_eq_json_of_isJson (i : Inf) (h : i.isJson = true) : i = Inf.json := by
  cases i
  simp only [Inf.isJson, Bool.and_eq_true, Bool.not_eq_true'] at h
  simp_all [Inf.json]

theorem orUndefined_idem (k : Kind) : k.withoutUndefined.orUndefined.orUndefined = k.orUndefined := by
  cases k; rfl

theorem canonicalize_exact (e : Kind) (h1 : e.orUndefined.isAny = false)
    (h2 : e.orUndefined.isJson = false) : (Unknown.exact e).canonicalize = .exact e.orUndefined := by
  simp [Unknown.canonicalize, Unknown.toKind, Unknown.toExistingKind, orUndefined_idem, Unknown.ofKind, h1, h2]

theorem canonicalize_infinite (i : Inf) :
    (Unknown.infinite i).canonicalize =
      if i.isAny = true ∨ i.isJson = true then .infinite i else .exact (Kind.ofInf i).orUndefined := by
  simp only [Unknown.canonicalize, Unknown.toKind, Unknown.toExistingKind, orUndefined_idem, Unknown.ofKind,
    ofInf_orU_isAny, ofInf_orU_isJson]
  by_cases h1 : i.isAny = true
  · rw [if_pos h1, if_pos (Or.inl h1), inf_eq_any_of_isAny i h1]; rfl
  · by_cases h2 : i.isJson = true
    · rw [if_neg h1, if_pos h2, if_pos (Or.inr h2), inf_eq_json_of_isJson i h2]; rfl
    · rw [if_neg h1, if_neg h2, if_neg (not_or.mpr ⟨h1, h2⟩)]

theorem unknown_canon_mem (u : Unknown) (he : u.hasExactToInf = false) (x : Value) :
    mem x (unknownElemKind u.canonicalize) = mem x (unknownElemKind u) := by
  cases u with
  | exact e =>
    simp only [Unknown.hasExactToInf, Bool.or_eq_false_iff] at he
    rw [canonicalize_exact e he.1.1 he.1.2]
    exact mem_orUndefined x e
  | infinite i =>
    rw [canonicalize_infinite]
    split
    · rfl
    · exact mem_orUndefined x (Kind.ofInf i)

theorem unknown_canon_nice (u : Unknown) (he : u.hasExactToInf = false) (hs : u.SortedK = true) :
    u.canonicalize.hasExactToInf = false ∧ u.canonicalize.SortedK = true := by
  have hoo : ∀ k : Kind, k.orUndefined.orUndefined = k.orUndefined := fun k => by cases k; rfl
  cases u with
  | exact e =>
    simp only [Unknown.hasExactToInf, Bool.or_eq_false_iff] at he
    rw [canonicalize_exact e he.1.1 he.1.2]
    simp only [Unknown.hasExactToInf, hoo, he.1.1, he.1.2, Bool.false_or]
    cases e; exact ⟨he.2, hs⟩
  | infinite i =>
    rw [canonicalize_infinite]
    split
    · exact ⟨rfl, rfl⟩
    · rename_i h
      simp only [not_or, Bool.not_eq_true] at h
      simp only [Unknown.hasExactToInf, hoo, ofInf_orU_isAny, ofInf_orU_isJson, h.1, h.2, Bool.false_or]
      exact nice_ofInf i

theorem unknown_canon_memOpt (u : Unknown) (he : u.hasExactToInf = false) (g : Option Value) :
    memOpt g u.canonicalize.toKind = memOpt g u.toKind :=
  Bool.eq_iff_iff.mpr (by simp only [memOpt_toKind, unknown_canon_mem u he])

/-- a known entry equal to the unknown kind is dropped: its location is then the unknown's. -/
theorem canon_loc (eq : Kind → Kind → Bool) (k : KList) (u : Unknown) (q : Key) (sk : k.SortedKeys = true) :
    (Col.canonicalizeWith eq (.mk k u)).loc q =
      (match k.get q with
       | some K => if eq K u.toKind = true then u.canonicalize.toKind else K
       | none => u.canonicalize.toKind) := by
  show ((k.filter (fun _ kk => !eq kk u.toKind)).get q).getD u.canonicalize.toKind = _
  rw [KList.get_filter _ k q sk]
  cases k.get q with
  | none => rfl
  | some K => cases h : eq K u.toKind <;> simp [h]

theorem colSub_of_loc_eq {c c' : Col} (h : ∀ q g, memOpt g (c.loc q) = memOpt g (c'.loc q)) :
    ColSub c c' ∧ ColSub c' c :=
  ⟨fun q g hg => h q g ▸ hg, fun q g hg => (h q g).symm ▸ hg⟩

/-- **`Collection::canonicalize` changes no location.** -/
theorem col_canon_sound (eq : Kind → Kind → Bool) (hq : EqSound eq) (k : KList) (u : Unknown)
    (h : NiceO (.some (.mk k u))) (q : Key) (g : Option Value) :
    memOpt g ((Col.canonicalizeWith eq (.mk k u)).loc q) = memOpt g ((Col.mk k u).loc q) := by
  obtain ⟨_, hu, sk, _, su⟩ := (niceO_some k u).mp h
  have hn := h.loc q
  rw [canon_loc eq k u q sk]
  cases hk : k.get q with
  | none => rw [loc_of_none (c := .mk k u) hk]; exact unknown_canon_memOpt u hu g
  | some K =>
    rw [loc_of_get (c := .mk k u) hk] at hn ⊢
    simp only
    split
    · rename_i hd
      rw [unknown_canon_memOpt u hu g, hq.same K u.toKind hn (nice_toKind u hu su) hd g]
    · rfl

theorem ocol_canon_sound (eq : Kind → Kind → Bool) (hq : EqSound eq) : (a : OCol) → NiceO a →
    OColSub (a.canonicalizeWith eq) a ∧ OColSub a (a.canonicalizeWith eq)
  | .none, _ => ⟨trivial, trivial⟩
  | .some (.mk k u), h => colSub_of_loc_eq (col_canon_sound eq hq k u h)

theorem kind_canon_memOpt (eq : Kind → Kind → Bool) (hq : EqSound eq) (K : Kind) (hK : Nice K)
    (g : Option Value) : memOpt g (K.canonicalizeWith eq) = memOpt g K := by
  obtain ⟨p, a, o⟩ := K
  obtain ⟨hA, hO⟩ := (nice_mk p a o).mp hK
  have ha := ocol_canon_sound eq hq a hA
  have ho := ocol_canon_sound eq hq o hO
  exact Bool.eq_iff_iff.mpr ⟨locSub_mk (prim_sup_refl p) ha.1 ho.1 g, locSub_mk (prim_sup_refl p) ha.2 ho.2 g⟩

theorem ocol_canon_nice (eq : Kind → Kind → Bool) : (a : OCol) → NiceO a → NiceO (a.canonicalizeWith eq)
  | .none, h => h
  | .some (.mk k u), h => by
    obtain ⟨he, hu, sk, sK, su⟩ := (niceO_some k u).mp h
    obtain ⟨hu1, hu2⟩ := unknown_canon_nice u hu su
    refine (niceO_some _ _).mpr ⟨?_, hu1, KList.sortedKeys_filter _ k sk, ?_, hu2⟩
    · show (k.filter (fun _ kk => !eq kk u.toKind)).hasExactToInf = false
      have ha : k.all (fun _ k => !k.hasExactToInf) = true := by
        rw [← KList.noE2I_eq_all, he]; rfl
      have := KList.all_filter _ (fun _ kk => !eq kk u.toKind) k ha
      rw [← KList.noE2I_eq_all] at this
      simpa using this
    · show (k.filter (fun _ kk => !eq kk u.toKind)).SortedK = true
      rw [KList.sortedK_eq_all] at sK ⊢
      exact KList.all_filter _ _ k sK

theorem kind_canon_nice (eq : Kind → Kind → Bool) (K : Kind) (hK : Nice K) :
    Nice (K.canonicalizeWith eq) := by
  obtain ⟨p, a, o⟩ := K
  obtain ⟨hA, hO⟩ := (nice_mk p a o).mp hK
  exact (nice_mk _ _ _).mpr ⟨ocol_canon_nice eq a hA, ocol_canon_nice eq o hO⟩

/-- collections that the derived `PartialEq` identifies describe every location alike. -/
theorem col_eq_sound (eq : Kind → Kind → Bool) (hq : EqSound eq) (k1 k2 : KList) (u1 u2 : Unknown)
    (h1 : NiceO (.some (.mk k1 u1))) (h2 : NiceO (.some (.mk k2 u2)))
    (h : Col.eqWith eq (.mk k1 u1) (.mk k2 u2) = true) (q : Key) (g : Option Value) :
    memOpt g ((Col.mk k1 u1).loc q) = memOpt g ((Col.mk k2 u2).loc q) := by
  have n1 := h1.loc q
  have n2 := h2.loc q
  simp only [Col.eqWith, Col.known, Col.unknown, Bool.and_eq_true] at h
  rcases KList.eqWith_get eq k1 k2 h.1 q with ⟨g1, g2⟩ | ⟨v1, v2, g1, g2, he⟩
  · rw [loc_of_none (c := .mk k1 u1) g1] at n1 ⊢
    rw [loc_of_none (c := .mk k2 u2) g2] at n2 ⊢
    cases u1 <;> cases u2 <;> simp only [Unknown.eqWith, decide_eq_true_eq] at h
    · rename_i a b
      have hab := hq.same a b (by cases a; exact n1) (by cases b; exact n2) h.2
      exact Bool.eq_iff_iff.mpr
        ⟨locSub_toKind (u := .exact a) (u' := .exact b) (fun x hx => (hab (some x)).symm.trans hx) g,
          locSub_toKind (u := .exact b) (u' := .exact a) (fun x hx => (hab (some x)).trans hx) g⟩
    · cases h.2
    · cases h.2
    · rw [h.2]; rfl
  · rw [loc_of_get (c := .mk k1 u1) g1] at n1 ⊢
    rw [loc_of_get (c := .mk k2 u2) g2] at n2 ⊢
    exact hq.same v1 v2 n1 n2 he g

theorem ocol_eq_sound (eq : Kind → Kind → Bool) (hq : EqSound eq) : (a1 a2 : OCol) → NiceO a1 →
    NiceO a2 → OCol.eqWith eq a1 a2 = true → OColSub a1 a2 ∧ OColSub a2 a1
  | .none, .none, _, _, _ => ⟨trivial, trivial⟩
  | .some (.mk k1 u1), .some (.mk k2 u2), h1, h2, h => colSub_of_loc_eq (col_eq_sound eq hq k1 k2 u1 u2 h1 h2 h)

theorem kind_eq_sound (eq : Kind → Kind → Bool) (hq : EqSound eq) (p : Prim) (a1 o1 a2 o2 : OCol)
    (n1 : Nice (.mk p a1 o1)) (n2 : Nice (.mk p a2 o2))
    (ha : OCol.eqWith eq a1 a2 = true) (ho : OCol.eqWith eq o1 o2 = true) (g : Option Value) :
    memOpt g (.mk p a1 o1) = memOpt g (.mk p a2 o2) := by
  obtain ⟨hA1, hO1⟩ := (nice_mk _ _ _).mp n1
  obtain ⟨hA2, hO2⟩ := (nice_mk _ _ _).mp n2
  have hsa := ocol_eq_sound eq hq a1 a2 hA1 hA2 ha
  have hso := ocol_eq_sound eq hq o1 o2 hO1 hO2 ho
  exact Bool.eq_iff_iff.mpr ⟨locSub_mk (prim_sup_refl p) hsa.1 hso.1 g, locSub_mk (prim_sup_refl p) hsa.2 hso.2 g⟩

/-- **`PartialEq for Kind` (any fuel) relates kinds that describe the same locations.** -/
theorem eqF_sound : (n : Nat) → EqSound (Kind.eqF n)
  | 0 => ⟨fun _ _ _ _ h => by simp [Kind.eqF] at h⟩
  | n + 1 => by
    have ih := eqF_sound n
    constructor
    intro a b na nb h g
    simp only [Kind.eqF, Bool.and_eq_true, decide_eq_true_eq] at h
    obtain ⟨⟨hp, ha⟩, ho⟩ := h
    rw [← kind_canon_memOpt _ ih a na g, ← kind_canon_memOpt _ ih b nb g]
    have na' := kind_canon_nice (Kind.eqF n) a na
    have nb' := kind_canon_nice (Kind.eqF n) b nb
    cases hca : a.canonicalizeWith (Kind.eqF n) with
    | mk p1 a1 o1 =>
    cases hcb : b.canonicalizeWith (Kind.eqF n) with
    | mk p2 a2 o2 =>
      rw [hca] at hp ha ho na'
      rw [hcb] at hp ha ho nb'
      simp only [Kind.prim, Kind.arr, Kind.obj] at hp ha ho
      subst hp
      exact kind_eq_sound _ ih p1 a1 o1 a2 o2 na' nb' ha ho g

end Spec
