/-
  C30: the Boolean skeleton of the round trip.

  `to_lucene` of a tree is re-expressed through `clauseText` / `itemText` / `tailText`; the parser
  (`Grammar.query / more / item / clause`) and the visitor are followed over these texts by structural
  recursion on the tree, given that every leaf of the tree is `LeafGood` (its own text is read back as
  that leaf — proved per leaf kind in SearchLeaves.lean and SearchWildcard.lean).
-/
import VrlModel.Search.NF

namespace Search
open Grammar

def clauseText (F : FloatLib) : QNode → Str
  | .leaf l => l.toLucene F
  | n => paren (n.toLucene F)

/-- the text of an element of a Boolean group (under the normal form) -/
def itemText (F : FloatLib) : QNode → Str
  | .neg m => "NOT ".toList ++ clauseText F m
  | n => clauseText F n

def sepOf : BoolOp → Str
  | .and => " AND ".toList
  | .or => " OR ".toList

def tailText (F : FloatLib) (op : BoolOp) : QList → Str
  | .nil => []
  | .cons n ns => sepOf op ++ itemText F n ++ tailText F op ns

theorem toLucene_neg (F : FloatLib) (n : QNode) :
    (QNode.neg n).toLucene F = "NOT ".toList ++ clauseText F n := by
  cases n <;> rfl

def groupLucene (F : FloatLib) : BoolOp → QList → Str → Str
  | .and => QList.andLucene F
  | .or => QList.orLucene F

def groupItem (F : FloatLib) : BoolOp → QNode → Str
  | .and => QNode.andItem F
  | .or => QNode.orItem F

theorem toLucene_group (F : FloatLib) (op : BoolOp) (n : QNode) (ns : QList) :
    (QNode.bool op (.cons n ns)).toLucene F = groupLucene F op ns (groupItem F op n) := by
  cases op <;> rfl

theorem groupLucene_cons (F : FloatLib) (op : BoolOp) (n : QNode) (ns : QList) (out : Str) :
    groupLucene F op (.cons n ns) out =
      groupLucene F op ns ((if out.isEmpty then out else out ++ sepOf op) ++ groupItem F op n) := by
  cases op <;> rfl

theorem orItem_eq (F : FloatLib) (n : QNode) : n.orItem F = itemText F n := by
  match n with
  | .neg m => exact toLucene_neg F m
  | .leaf _ | .bool .and _ | .bool .or _ => rfl

/-- inside `AND`, `NOT NOT x` is printed without parentheses: the one shape the normal form excludes -/
theorem groupItem_eq (F : FloatLib) (op : BoolOp) (n : QNode) (h : NFItem F op n = true) :
    groupItem F op n = itemText F n := by
  match op, n, h with
  | .or, n, _ => exact orItem_eq F n
  | .and, .neg (.neg _), h => simp [NFItem, QNode.isNeg] at h
  | .and, .leaf _, _ | .and, .neg (.leaf _), _ | .and, .neg (.bool _ _), _ | .and, .bool .and _, _
  | .and, .bool .or _, _ => rfl

def LeafNonEmpty (F : FloatLib) (l : Leaf) : Prop := l.toLucene F ≠ []

theorem itemText_ne_nil (F : FloatLib) (n : QNode) (h : ∀ l, n = .leaf l → l.toLucene F ≠ []) :
    itemText F n ≠ [] := by
  cases n with
  | leaf l => simpa [itemText, clauseText] using h l rfl
  | neg m => simp [itemText]
  | bool op ns => simp [itemText, clauseText, paren]

theorem NFList_mem (F : FloatLib) (op : BoolOp) : (ns : QList) → NFList F op ns = true →
    ∀ n, n ∈ ns.toList → NFItem F op n = true
  | .nil, _, n, hn => by simp [QList.toList] at hn
  | .cons m ms, h, n, hn => by
    simp only [NFList, Bool.and_eq_true] at h
    simp only [QList.toList, List.mem_cons] at hn
    cases hn with
    | inl e => subst e; exact h.1
    | inr hm => exact NFList_mem F op ms h.2 n hm

theorem groupLucene_acc (F : FloatLib) (op : BoolOp) : (ns : QList) → (out : Str) → out ≠ [] →
    NFList F op ns = true → groupLucene F op ns out = out ++ tailText F op ns
  | .nil, out, _, _ => by cases op <;> exact (List.append_nil out).symm
  | .cons n ns, out, hne, h => by
    simp only [NFList, Bool.and_eq_true] at h
    rw [groupLucene_cons, List.isEmpty_eq_false_iff.mpr hne, groupLucene_acc F op ns _ (by simp [hne]) h.2,
      groupItem_eq F op n h.1]
    simp [tailText]

theorem notText : "NOT ".toList = ['N', 'O', 'T', ' '] := String.toList_ofList
theorem andSep : " AND ".toList = [' ', 'A', 'N', 'D', ' '] := String.toList_ofList
theorem orSep : " OR ".toList = [' ', 'O', 'R', ' '] := String.toList_ofList

/-- what may follow an element of a group: the end of the text, `)`, or the separator of the next element -/
def ItemEnd (rest : Str) : Prop :=
  rest = [] ∨ (∃ r, rest = ')' :: r) ∨ (∃ r, rest = ' ' :: 'A' :: 'N' :: 'D' :: ' ' :: r) ∨
    (∃ r, rest = ' ' :: 'O' :: 'R' :: ' ' :: r)

/-- what may follow a whole (sub)query -/
def QEnd (rest : Str) : Prop := rest = [] ∨ ∃ r, rest = ')' :: r

theorem QEnd.itemEnd {rest : Str} (h : QEnd rest) : ItemEnd rest := by
  cases h with
  | inl h => exact Or.inl h
  | inr h => exact Or.inr (Or.inl h)

theorem skipWs_head (c : Char) (r : Str) (h : isWs c = false) : skipWs (c :: r) = c :: r := by
  simp [skipWs, h]

theorem skipWs_QEnd {rest : Str} (h : QEnd rest) : skipWs rest = rest := by
  cases h with
  | inl h => subst h; rfl
  | inr h => obtain ⟨r, rfl⟩ := h; exact skipWs_head ')' r rfl

theorem itemEnd_sep (op : BoolOp) (x : Str) : ItemEnd (sepOf op ++ x) := by
  cases op
  · right; right; left; exact ⟨x, by simp [sepOf, andSep]⟩
  · right; right; right; exact ⟨x, by simp [sepOf, orSep]⟩

theorem ItemEnd.atTermEnd {rest : Str} (h : ItemEnd rest) : atTermEnd rest = true := by
  rcases h with h | ⟨r, h⟩ | ⟨r, h⟩ | ⟨r, h⟩ <;> subst h <;> rfl

theorem ItemEnd.not_star {rest : Str} (h : ItemEnd rest) : ∀ r', rest ≠ '*' :: r' := by
  intro r' e; have := h.atTermEnd; subst e; cases this

theorem ItemEnd.not_colon {rest : Str} (h : ItemEnd rest) : ∀ r', rest ≠ ':' :: r' := by
  intro r' e; have := h.atTermEnd; subst e; cases this

theorem itemEnd_cases {rest : Str} (h : ItemEnd rest) : QEnd rest ∨ ∃ op x, rest = sepOf op ++ x := by
  rcases h with h | ⟨r, h⟩ | ⟨r, h⟩ | ⟨r, h⟩
  · exact Or.inl (Or.inl h)
  · exact Or.inl (Or.inr ⟨r, h⟩)
  · exact Or.inr ⟨.and, r, by simp [h, sepOf, andSep]⟩
  · exact Or.inr ⟨.or, r, by simp [h, sepOf, orSep]⟩

/-- the loop of `visit_query` on the element `it` applies the conjunction `cj` and pushes the node `n` -/
def Pushes (F : FloatLib) (it : PItem) (cj : Option Bool) (n : QNode) : Prop :=
  ∀ tail st, visitItems F (it.cons tail) defaultField st false =
    visitItems F tail defaultField ((st.conj cj).push false n) false

theorem pushes_clause (F : FloatLib) (cj : Option Bool) (pc : PClause) (n : QNode)
    (h : visitClause F pc defaultField = .ok n) : Pushes F (.clause cj none pc) cj n := by
  intro tail st
  simp [PItem.cons, visitItems, h]

theorem pushes_not_clause (F : FloatLib) (cj : Option Bool) (pc : PClause) (n : QNode)
    (h : visitClause F pc defaultField = .ok n) : Pushes F (.clause cj (some true) pc) cj (.neg n) := by
  intro tail st
  simp [PItem.cons, visitItems, h, VState.push]

/-- What the skeleton asks of a leaf: its printed text is read back as the leaf, whatever end of an
    element follows.  Every leaf in normal form has it (`leafGood_of_NF`). -/
structure LeafGood (F : FloatLib) (l : Leaf) : Prop where
  /-- in first position of a query.  Where `multiterm` does not apply to the text, this follows from
      the other fields (`leafGood_of_clause`); a default-field term alone in its query is read by
      `multiterm` instead of `clause`. -/
  first : ∀ fuel rest, ItemEnd rest →
    ∃ it, item (fuel + 2) false (l.toLucene F ++ rest) = .ok it rest ∧ Pushes F it none (.leaf l)
  /-- as a clause: one token tree for every fuel and end -/
  clause : ∃ pc, (∀ fuel rest, ItemEnd rest → clause (fuel + 1) (l.toLucene F ++ rest) = .ok pc rest) ∧
    visitClause F pc defaultField = .ok (.leaf l)
  head : ∀ x, skipWs (l.toLucene F ++ x) = l.toLucene F ++ x
  noMod : ∀ rest, ItemEnd rest → modifiers (l.toLucene F ++ rest) = none
  nonEmpty : l.toLucene F ≠ []

theorem skipWs_space (x : Str) : skipWs (' ' :: x) = skipWs x := by simp [skipWs, isWs]

theorem skipWs_NOT (x : Str) : skipWs ('N' :: x) = 'N' :: x := skipWs_head 'N' x rfl

theorem multiterm_NOT (x : Str) : multiterm ('N' :: 'O' :: 'T' :: x) = none := by
  simp [multiterm, multitermLookahead, term, noKeyword, kwAnd, kwOr, kwNot, stripPrefix]

theorem multiterm_AND (x : Str) : multiterm ('A' :: 'N' :: 'D' :: x) = none := by
  simp [multiterm, multitermLookahead, term, noKeyword, kwAnd, kwOr, kwNot, stripPrefix]

theorem multiterm_OR (x : Str) : multiterm ('O' :: 'R' :: x) = none := by
  simp [multiterm, multitermLookahead, term, noKeyword, kwAnd, kwOr, kwNot, stripPrefix]

theorem multiterm_lparen (x : Str) : multiterm ('(' :: x) = none := by rfl

theorem modifiers_NOT (x : Str) : modifiers ('N' :: 'O' :: 'T' :: x) = some (true, x) := by
  simp [modifiers, kwNot, stripPrefix]

theorem modifiers_lparen (x : Str) : modifiers ('(' :: x) = none := by
  simp [modifiers, kwNot, stripPrefix]

theorem conjunction_AND (x : Str) : conjunction ('A' :: 'N' :: 'D' :: x) = some (false, x) := by
  simp [conjunction, kwAnd, stripPrefix]

theorem conjunction_OR (x : Str) : conjunction ('O' :: 'R' :: x) = some (true, x) := by
  simp [conjunction, kwAnd, kwOr, stripPrefix]

theorem matchall_lparen (x : Str) : matchall ('(' :: x) = none := by simp [matchall, stripPrefix]

theorem field_lparen (x : Str) : field ('(' :: x) = none := by rfl

theorem value_lparen (x : Str) : value ('(' :: x) = none := by rfl

mutual
  /-- the number of nodes.  The parser needs at most three units of fuel a node for the printed text
      (`query`, `item` and `clause` call each other in turn), and the text is at least as long
      (`sz_le_query`), so the fuel of `queryroot` suffices. -/
  def sz : QNode → Nat
    | .leaf _ => 1
    | .neg n => sz n + 1
    | .bool _ ns => szL ns + 1
  def szL : QList → Nat
    | .nil => 0
    | .cons n ns => sz n + szL ns
end

theorem sz_pos : (n : QNode) → 1 ≤ sz n
  | .leaf _ => by simp [sz]
  | .neg n => by simp [sz]
  | .bool _ ns => by simp [sz]

/-- The bounds `3 * sz m + k`: a `clause` needs one unit more than the `query` inside its parentheses,
    an `item` one more than its `clause`; at the end of a group `more` needs three units to find that
    no element follows (`more_end`), and `+ 8` in `MoreRT` is what `queryRT_bool` has left for it. -/
def ClauseRT (F : FloatLib) (m : QNode) : Prop :=
  ∀ fuel rest, 3 * sz m + 4 ≤ fuel → ItemEnd rest →
    ∃ pc, clause fuel (clauseText F m ++ rest) = .ok pc rest ∧ visitClause F pc defaultField = .ok m

def QueryRT (F : FloatLib) (m : QNode) : Prop :=
  ∀ fuel rest, 3 * sz m + 3 ≤ fuel → QEnd rest →
    ∃ its, query fuel (m.toLucene F ++ rest) = .ok its rest ∧
      visitItems F its defaultField ⟨[], []⟩ false = .ok m

structure ItemRT (F : FloatLib) (n : QNode) : Prop where
  first : ∀ fuel rest, 3 * sz n + 5 ≤ fuel → ItemEnd rest →
    ∃ it, item fuel false (itemText F n ++ rest) = .ok it rest ∧ Pushes F it none n
  later : ∀ (op : BoolOp) fuel rest, 3 * sz n + 5 ≤ fuel → ItemEnd rest →
    ∃ it, item fuel true (skipWs (sepOf op ++ (itemText F n ++ rest))) = .ok it rest ∧
      Pushes F it (some (op == .or)) n
  head : ∀ x, skipWs (itemText F n ++ x) = itemText F n ++ x
  nonEmpty : itemText F n ≠ []

/-- the state of `visit_query` after the later elements `ns` of an `op` group -/
def foldSt (op : BoolOp) (st : VState) : QList → VState
  | .nil => st
  | .cons n ns => foldSt op ((st.conj (some (op == .or))).push false n) ns

theorem item_fail_end (fuel : Nat) (b : Bool) (rest : Str) (h : QEnd rest) :
    item (fuel + 2) b rest = .fail := by
  cases h with
  | inl h => subst h; cases b <;> rfl
  | inr h => obtain ⟨r, rfl⟩ := h; cases b <;> rfl

theorem more_end (fuel : Nat) (rest : Str) (h : QEnd rest) : more (fuel + 3) rest = .ok .nil rest := by
  rw [more, skipWs_QEnd h, item_fail_end fuel true rest h]

theorem clause_group (F : FloatLib) (m : QNode) (hq : QueryRT F m)
    (hhead : ∀ x, skipWs (m.toLucene F ++ x) = m.toLucene F ++ x)
    (hm : clauseText F m = paren (m.toLucene F)) : ClauseRT F m := by
  intro fuel rest hf hr
  obtain ⟨f, rfl⟩ : ∃ f, fuel = f + 1 := ⟨fuel - 1, by omega⟩
  obtain ⟨its, hqr, hv⟩ := hq f (')' :: rest) (by omega) (Or.inr ⟨rest, rfl⟩)
  refine ⟨.group none its, ?_, ?_⟩
  · rw [hm]
    simp only [paren, List.cons_append, List.append_assoc]
    rw [clause, matchall_lparen, field_lparen]
    have e1 : ∀ x : Str, skipWs ('(' :: x) = '(' :: x := fun _ => rfl
    have e2 : skipWs (')' :: rest) = ')' :: rest := rfl
    simp only [e1, value_lparen, hhead, List.nil_append, hqr, e2]
  · simpa [visitClause] using hv

theorem item_first_plain (fuel : Nat) (s rest : Str) (pc : PClause)
    (hmt : multiterm s = none) (hmod : modifiers s = none) (hhead : skipWs s = s)
    (hc : clause fuel s = .ok pc rest) :
    item (fuel + 1) false s = .ok (.clause none none pc) rest := by
  rw [item]
  simp [hmt, hmod, hhead, hc]

theorem item_first_not (fuel : Nat) (t rest : Str) (pc : PClause)
    (hhead : skipWs (t ++ rest) = t ++ rest)
    (hc : clause fuel (t ++ rest) = .ok pc rest) :
    item (fuel + 1) false ('N' :: 'O' :: 'T' :: ' ' :: (t ++ rest)) = .ok (.clause none (some true) pc) rest := by
  rw [item]
  simp [multiterm_NOT, modifiers_NOT, skipWs_space, hhead, hc]

theorem sep_conj (op : BoolOp) (x : Str) :
    ∃ s, skipWs (sepOf op ++ x) = s ∧ multiterm s = none ∧ conjunction s = some (op == .or, ' ' :: x) := by
  cases op
  · exact ⟨_, by simp [sepOf, andSep, skipWs, isWs], multiterm_AND _, conjunction_AND _⟩
  · exact ⟨_, by simp [sepOf, orSep, skipWs, isWs], multiterm_OR _, conjunction_OR _⟩

theorem item_later_plain (op : BoolOp) (fuel : Nat) (t rest : Str) (pc : PClause)
    (hmod : modifiers (t ++ rest) = none) (hhead : skipWs (t ++ rest) = t ++ rest)
    (hc : clause fuel (t ++ rest) = .ok pc rest) :
    item (fuel + 1) true (skipWs (sepOf op ++ (t ++ rest))) = .ok (.clause (some (op == .or)) none pc) rest := by
  obtain ⟨s, hs, hmt, hcj⟩ := sep_conj op (t ++ rest)
  rw [hs, item]
  simp [hmt, hcj, skipWs_space, hmod, hhead, hc]

theorem item_later_not (op : BoolOp) (fuel : Nat) (t rest : Str) (pc : PClause)
    (hhead : skipWs (t ++ rest) = t ++ rest)
    (hc : clause fuel (t ++ rest) = .ok pc rest) :
    item (fuel + 1) true (skipWs (sepOf op ++ ('N' :: 'O' :: 'T' :: ' ' :: (t ++ rest)))) =
      .ok (.clause (some (op == .or)) (some true) pc) rest := by
  obtain ⟨s, hs, hmt, hcj⟩ := sep_conj op ('N' :: 'O' :: 'T' :: ' ' :: (t ++ rest))
  rw [hs, item]
  simp [hmt, hcj, skipWs_space, skipWs_NOT, modifiers_NOT, hhead, hc]

theorem itemRT_leaf (F : FloatLib) (l : Leaf) (hg : LeafGood F l) : ItemRT F (.leaf l) where
  first := by
    intro fuel rest hf hr
    obtain ⟨f, rfl⟩ : ∃ f, fuel = f + 2 := ⟨fuel - 2, by simp [sz] at hf; omega⟩
    exact hg.first f rest hr
  later := by
    intro op fuel rest hf hr
    obtain ⟨f, rfl⟩ : ∃ f, fuel = f + 2 := ⟨fuel - 2, by simp [sz] at hf; omega⟩
    obtain ⟨pc, hc, hv⟩ := hg.clause
    refine ⟨.clause (some (op == .or)) none pc, ?_, pushes_clause F _ pc _ hv⟩
    have := item_later_plain op (f + 1) (l.toLucene F) rest pc (hg.noMod rest hr) (hg.head rest) (hc f rest hr)
    simpa [itemText, clauseText] using this
  head := by intro x; simpa [itemText, clauseText] using hg.head x
  nonEmpty := by simpa [itemText, clauseText] using hg.nonEmpty

theorem itemRT_neg (F : FloatLib) (c : QNode) (hc : ClauseRT F c)
    (hhead : ∀ x, skipWs (clauseText F c ++ x) = clauseText F c ++ x) : ItemRT F (.neg c) where
  first := by
    intro fuel rest hf hr
    obtain ⟨f, rfl⟩ : ∃ f, fuel = f + 1 := ⟨fuel - 1, by omega⟩
    obtain ⟨pc, hcl, hv⟩ := hc f rest (by simp [sz] at hf; omega) hr
    refine ⟨.clause none (some true) pc, ?_, pushes_not_clause F none pc c hv⟩
    have := item_first_not f (clauseText F c) rest pc (hhead rest) hcl
    simpa [itemText, notText] using this
  later := by
    intro op fuel rest hf hr
    obtain ⟨f, rfl⟩ : ∃ f, fuel = f + 1 := ⟨fuel - 1, by omega⟩
    obtain ⟨pc, hcl, hv⟩ := hc f rest (by simp [sz] at hf; omega) hr
    refine ⟨.clause (some (op == .or)) (some true) pc, ?_, pushes_not_clause F _ pc c hv⟩
    have := item_later_not op f (clauseText F c) rest pc (hhead rest) hcl
    simpa [itemText, notText] using this
  head := by intro x; simp [itemText, notText, skipWs_NOT]
  nonEmpty := by simp [itemText, notText]

theorem skipWs_paren (s x : Str) : skipWs (paren s ++ x) = paren s ++ x :=
  skipWs_head '(' _ rfl

theorem clauseText_bool (F : FloatLib) (op : BoolOp) (ns : QList) :
    clauseText F (.bool op ns) = paren ((QNode.bool op ns).toLucene F) := by
  simp [clauseText]

theorem itemText_bool (F : FloatLib) (op : BoolOp) (ns : QList) :
    itemText F (.bool op ns) = paren ((QNode.bool op ns).toLucene F) := by
  simp [itemText, clauseText]

theorem itemRT_bool (F : FloatLib) (op : BoolOp) (ns : QList) (hc : ClauseRT F (.bool op ns)) :
    ItemRT F (.bool op ns) where
  first := by
    intro fuel rest hf hr
    obtain ⟨f, rfl⟩ : ∃ f, fuel = f + 1 := ⟨fuel - 1, by omega⟩
    obtain ⟨pc, hcl, hv⟩ := hc f rest (by omega) hr
    refine ⟨.clause none none pc, ?_, pushes_clause F none pc _ hv⟩
    rw [itemText_bool]; rw [clauseText_bool] at hcl
    have hmt : multiterm (paren ((QNode.bool op ns).toLucene F) ++ rest) = none := multiterm_lparen _
    have hmod : modifiers (paren ((QNode.bool op ns).toLucene F) ++ rest) = none := modifiers_lparen _
    exact item_first_plain f _ rest pc hmt hmod (skipWs_paren _ _) hcl
  later := by
    intro op' fuel rest hf hr
    obtain ⟨f, rfl⟩ : ∃ f, fuel = f + 1 := ⟨fuel - 1, by omega⟩
    obtain ⟨pc, hcl, hv⟩ := hc f rest (by omega) hr
    refine ⟨.clause (some (op' == .or)) none pc, ?_, pushes_clause F _ pc _ hv⟩
    rw [itemText_bool]; rw [clauseText_bool] at hcl
    have hmod : modifiers (paren ((QNode.bool op ns).toLucene F) ++ rest) = none := modifiers_lparen _
    exact item_later_plain op' f (paren ((QNode.bool op ns).toLucene F)) rest pc hmod (skipWs_paren _ _) hcl
  head := by intro x; rw [itemText_bool]; exact skipWs_paren _ _
  nonEmpty := by simp [itemText_bool, paren]

theorem foldSt_and : (ns : QList) → (st : VState) →
    foldSt .and st ns = { groups := st.groups, group := st.group ++ ns.toList }
  | .nil, st => by simp [foldSt, QList.toList]
  | .cons n ns, st => by
    rw [foldSt, foldSt_and ns]
    simp [VState.conj, VState.push, QList.toList]

/-- the end of `visit_query` on the and-groups `l` (the last one still open, all singletons) -/
def orFinal (l : List QNode) : QNode := foldNotAll (QNode.newBoolean .or l)

theorem foldSt_or : (ns : QList) → (g : List QNode) → (x : QNode) →
    finishQuery (foldSt .or ⟨g, [x]⟩ ns) = orFinal (g ++ x :: ns.toList)
  | .nil, g, x => by simp [foldSt, QList.toList, finishQuery, orFinal, QNode.newBoolean]
  | .cons n ns, g, x => by
    rw [foldSt]
    have : ((VState.mk g [x]).conj (some (BoolOp.or == BoolOp.or))).push false n = ⟨g ++ [x], [n]⟩ := by
      simp [VState.conj, VState.push, QNode.newBoolean]
    rw [this, foldSt_or ns]
    simp [QList.toList]

theorem finish_bool (op : BoolOp) (n m : QNode) (ns : QList) :
    finishQuery (foldSt op ((VState.mk [] []).push false n) (.cons m ns)) = .bool op (.cons n (.cons m ns)) := by
  have e : QList.ofList (n :: m :: ns.toList) = .cons n (.cons m ns) := by
    simp [QList.ofList, QList.ofList_toList]
  cases op with
  | and =>
    rw [foldSt_and]
    show foldNotAll (.bool .and (QList.ofList (n :: m :: ns.toList))) = _
    rw [e]; rfl
  | or =>
    show finishQuery (foldSt .or ⟨[], [n]⟩ (.cons m ns)) = _
    rw [foldSt_or]
    show foldNotAll (.bool .or (QList.ofList (n :: m :: ns.toList))) = _
    rw [e]; rfl

def MoreRT (F : FloatLib) (op : BoolOp) (ns : QList) : Prop :=
  ∀ fuel rest, 3 * szL ns + 8 ≤ fuel → QEnd rest →
    ∃ its, more fuel (tailText F op ns ++ rest) = .ok its rest ∧ (ns ≠ .nil → its ≠ .nil) ∧
      ∀ st, visitItems F its defaultField st false = .ok (finishQuery (foldSt op st ns))

theorem moreRT_nil (F : FloatLib) (op : BoolOp) : MoreRT F op .nil := by
  intro fuel rest hf hr
  obtain ⟨f, rfl⟩ : ∃ f, fuel = f + 3 := ⟨fuel - 3, by omega⟩
  exact ⟨.nil, by simpa [tailText] using more_end f rest hr, by simp, fun st => by simp [visitItems, foldSt]⟩

theorem PItem.cons_ne_nil (it : PItem) (its : PItems) : it.cons its ≠ .nil := by
  cases it <;> simp [PItem.cons]

theorem tail_itemEnd (F : FloatLib) (op : BoolOp) (ns : QList) (rest : Str) (hr : QEnd rest) :
    ItemEnd (tailText F op ns ++ rest) := by
  cases ns with
  | nil => simpa [tailText] using hr.itemEnd
  | cons n ns =>
    simp only [tailText, List.append_assoc]
    exact itemEnd_sep op _

theorem moreRT_cons (F : FloatLib) (op : BoolOp) (n : QNode) (ns : QList)
    (hn : ItemRT F n) (hns : MoreRT F op ns) : MoreRT F op (.cons n ns) := by
  intro fuel rest hf hr
  obtain ⟨f, rfl⟩ : ∃ f, fuel = f + 1 := ⟨fuel - 1, by omega⟩
  have hszn := sz_pos n
  simp only [szL] at hf
  obtain ⟨it, hit, hpush⟩ := hn.later op f (tailText F op ns ++ rest) (by omega) (tail_itemEnd F op ns rest hr)
  obtain ⟨its, hmore, _, hvis⟩ := hns f rest (by omega) hr
  refine ⟨it.cons its, ?_, fun _ => PItem.cons_ne_nil it its, ?_⟩
  · simp only [tailText, List.append_assoc]
    rw [more, hit]
    simp only [hmore]
  · intro st
    rw [hpush its st, hvis]
    simp [foldSt]

theorem foldNotAll_neg (c : QNode) (h : isMatchAll c = false) : foldNotAll (.neg c) = .neg c := by
  cases c with
  | leaf l => cases l <;> simp_all [foldNotAll, isMatchAll]
  | neg x => simp [foldNotAll]
  | bool op ns => simp [foldNotAll]

theorem queryRT_neg (F : FloatLib) (c : QNode) (hc : ClauseRT F c)
    (hhead : ∀ x, skipWs (clauseText F c ++ x) = clauseText F c ++ x) (hna : isMatchAll c = false) :
    QueryRT F (.neg c) := by
  intro fuel rest hf hr
  have hszc := sz_pos c
  simp only [sz] at hf
  obtain ⟨f, rfl⟩ : ∃ f, fuel = f + 5 := ⟨fuel - 5, by omega⟩
  obtain ⟨pc, hcl, hv⟩ := hc (f + 3) rest (by omega) hr.itemEnd
  have hit := item_first_not (f + 3) (clauseText F c) rest pc (hhead rest) hcl
  refine ⟨(PItem.clause none (some true) pc).cons .nil, ?_, ?_⟩
  · rw [toLucene_neg, notText]
    simp only [List.cons_append, List.nil_append]
    rw [query]
    simp only [hit, more_end (f + 1) rest hr, skipWs_QEnd hr]
  · rw [pushes_not_clause F none pc c hv .nil ⟨[], []⟩]
    simp [visitItems, finishQuery, VState.conj, VState.push, QNode.newBoolean, foldNotAll_neg c hna]

theorem queryRT_bool (F : FloatLib) (op : BoolOp) (n m : QNode) (ns : QList)
    (hn : ItemRT F n) (hm : MoreRT F op (.cons m ns))
    (htext : (QNode.bool op (.cons n (.cons m ns))).toLucene F = itemText F n ++ tailText F op (.cons m ns)) :
    QueryRT F (.bool op (.cons n (.cons m ns))) := by
  intro fuel rest hf hr
  obtain ⟨f, rfl⟩ : ∃ f, fuel = f + 1 := ⟨fuel - 1, by omega⟩
  have hszn := sz_pos n
  have hszm := sz_pos m
  simp only [sz, szL] at hf
  obtain ⟨it, hit, hpush⟩ := hn.first f (tailText F op (.cons m ns) ++ rest) (by omega)
    (tail_itemEnd F op (.cons m ns) rest hr)
  obtain ⟨its, hmore, hnn, hvis⟩ := hm f rest (by simp only [szL]; omega) hr
  refine ⟨it.cons its, ?_, ?_⟩
  · rw [htext, List.append_assoc, query]
    simp only [hit, hmore]
    have := hnn (by simp)
    cases its with
    | nil => exact absurd rfl this
    | multiterm ts r => rfl
    | clause cj md c r => rfl
  · rw [hpush its ⟨[], []⟩, hvis]
    simp only [VState.conj]
    rw [finish_bool]

theorem toLucene_bool (F : FloatLib) (op : BoolOp) (n : QNode) (ns : QList)
    (h : NFList F op (.cons n ns) = true) (hne : itemText F n ≠ []) :
    (QNode.bool op (.cons n ns)).toLucene F = itemText F n ++ tailText F op ns := by
  simp only [NFList, Bool.and_eq_true] at h
  rw [toLucene_group, groupItem_eq F op n h.1]
  exact groupLucene_acc F op ns _ hne h.2

theorem moreRT_of_items (F : FloatLib) (op : BoolOp) : (ns : QList) → (∀ n ∈ ns.toList, ItemRT F n) →
    MoreRT F op ns
  | .nil, _ => moreRT_nil F op
  | .cons n ns, h =>
    have ⟨hn, hr⟩ := List.forall_mem_cons.mp h
    moreRT_cons F op n ns hn (moreRT_of_items F op ns hr)

theorem leaf_clauseRT (F : FloatLib) (l : Leaf) (hg : LeafGood F l) : ClauseRT F (.leaf l) := by
  intro fuel rest hf hr
  obtain ⟨f, rfl⟩ : ∃ f, fuel = f + 1 := ⟨fuel - 1, by omega⟩
  obtain ⟨pc, hc, hv⟩ := hg.clause
  exact ⟨pc, by simpa [clauseText] using hc f rest hr, hv⟩

theorem leaf_queryRT (F : FloatLib) (l : Leaf) (hg : LeafGood F l) : QueryRT F (.leaf l) := by
  intro fuel rest hf hr
  obtain ⟨f, rfl⟩ : ∃ f, fuel = f + 4 := ⟨fuel - 4, by simp only [sz] at hf; omega⟩
  obtain ⟨it, hit, hpush⟩ := hg.first (f + 1) rest hr.itemEnd
  refine ⟨it.cons .nil, ?_, ?_⟩
  · show query (f + 4) (l.toLucene F ++ rest) = _
    rw [query]
    simp only [hit, more_end f rest hr, skipWs_QEnd hr]
  · rw [hpush .nil ⟨[], []⟩]
    simp [visitItems, finishQuery, VState.conj, VState.push, QNode.newBoolean, foldNotAll]

/-- a tree in normal form is read back from its text, as a query and as a clause -/
structure NodeRT (F : FloatLib) (m : QNode) : Prop where
  query : QueryRT F m
  clause : ClauseRT F m
  head : ∀ x, skipWs (clauseText F m ++ x) = clauseText F m ++ x

theorem nodeRT_bool (F : FloatLib) (op : BoolOp) (ns : QList) (hl : ∀ n ∈ ns.toList, ItemRT F n)
    (hnf : NFList F op ns = true) (h2 : 2 ≤ ns.length) : NodeRT F (.bool op ns) := by
  match ns, hl, hnf, h2 with
  | .nil, _, _, h2 => simp [QList.length] at h2
  | .cons n .nil, _, _, h2 => simp [QList.length] at h2
  | .cons n (.cons m ms), hl, hnf, _ =>
    obtain ⟨hn, hr⟩ := List.forall_mem_cons.mp hl
    have htext := toLucene_bool F op n (.cons m ms) hnf hn.nonEmpty
    have hq := queryRT_bool F op n m ms hn (moreRT_of_items F op (.cons m ms) hr) htext
    have hhead : ∀ x, skipWs ((QNode.bool op (.cons n (.cons m ms))).toLucene F ++ x) =
        (QNode.bool op (.cons n (.cons m ms))).toLucene F ++ x := by
      intro x; rw [htext, List.append_assoc, hn.head]
    exact {
      query := hq
      clause := clause_group F _ hq hhead (clauseText_bool F op _)
      head := fun x => by rw [clauseText_bool]; exact skipWs_paren _ _ }

mutual
  theorem nodeRT (F : FloatLib) (hL : ∀ l, NFLeaf F l = true → LeafGood F l) :
      (m : QNode) → NF F m = true → NodeRT F m
    | .leaf l, h => by
      have hg := hL l (by simpa [NF] using h)
      exact ⟨leaf_queryRT F l hg, leaf_clauseRT F l hg, fun x => by simpa [clauseText] using hg.head x⟩
    | .neg c, h => by
      simp only [NF, Bool.and_eq_true, Bool.not_eq_true'] at h
      have hc := nodeRT F hL c h.2
      have hq := queryRT_neg F c hc.clause hc.head h.1
      refine ⟨hq, clause_group F (.neg c) hq ?_ (by simp [clauseText]), fun x => by simp [clauseText, skipWs_paren]⟩
      intro x
      rw [toLucene_neg, notText]
      simp [skipWs_NOT]
    | .bool op ns, h => by
      simp only [NF, Bool.and_eq_true, decide_eq_true_eq] at h
      exact nodeRT_bool F op ns (listRT F hL op ns h.2) h.2 h.1
  theorem itemRT (F : FloatLib) (hL : ∀ l, NFLeaf F l = true → LeafGood F l) (op : BoolOp) :
      (n : QNode) → NFItem F op n = true → ItemRT F n
    | .leaf l, h => itemRT_leaf F l (hL l (by simpa [NFItem] using h))
    | .neg c, h => by
      simp only [NFItem, Bool.and_eq_true] at h
      have hc := nodeRT F hL c h.2
      exact itemRT_neg F c hc.clause hc.head
    | .bool op' ns, h => by
      simp only [NFItem, Bool.and_eq_true, decide_eq_true_eq] at h
      exact itemRT_bool F op' ns (nodeRT_bool F op' ns (listRT F hL op' ns h.2) h.2 h.1).clause
  theorem listRT (F : FloatLib) (hL : ∀ l, NFLeaf F l = true → LeafGood F l) (op : BoolOp) :
      (ns : QList) → NFList F op ns = true → ∀ n ∈ ns.toList, ItemRT F n
    | .nil, _ => fun _ hn => nomatch hn
    | .cons n ns, h => by
      simp only [NFList, Bool.and_eq_true] at h
      exact List.forall_mem_cons.mpr ⟨itemRT F hL op n h.1, listRT F hL op ns h.2⟩
end

theorem length_paren (s : Str) : (paren s).length = s.length + 2 := by simp [paren]

theorem tail_len (F : FloatLib) (op : BoolOp) : (ns : QList) →
    (∀ n ∈ ns.toList, sz n ≤ (itemText F n).length) → szL ns + ns.length ≤ (tailText F op ns).length
  | .nil, _ => Nat.le_refl 0
  | .cons n ns, h => by
    obtain ⟨h1, hr⟩ := List.forall_mem_cons.mp h
    have h2 := tail_len F op ns hr
    have h3 : 1 ≤ (sepOf op).length := by cases op <;> simp [sepOf, andSep, orSep]
    simp only [szL, tailText, QList.length, List.length_append]
    omega

theorem len_bool (F : FloatLib) (op : BoolOp) (ns : QList) (h : NFList F op ns = true) (h2 : 2 ≤ ns.length)
    (hl : ∀ n ∈ ns.toList, sz n ≤ (itemText F n).length) :
    sz (.bool op ns) ≤ ((QNode.bool op ns).toLucene F).length := by
  match ns, h, h2, hl with
  | .nil, _, h2, _ => simp [QList.length] at h2
  | .cons n ns', h, h2, hl =>
    obtain ⟨h1, hr⟩ := List.forall_mem_cons.mp hl
    have h3 := tail_len F op ns' hr
    have hpos : 0 < (itemText F n).length := by have := sz_pos n; omega
    rw [toLucene_bool F op n ns' h (by intro e; rw [e] at hpos; simp at hpos)]
    have : 1 ≤ ns'.length := by simp [QList.length] at h2; omega
    simp only [sz, szL, List.length_append]
    omega

theorem length_le_clauseText (F : FloatLib) (m : QNode) : (m.toLucene F).length ≤ (clauseText F m).length := by
  cases m with
  | leaf l => exact Nat.le_refl _
  | _ => simp only [clauseText, length_paren]; omega

mutual
  theorem sz_le_query (F : FloatLib) (hne : ∀ l, NFLeaf F l = true → l.toLucene F ≠ []) :
      (m : QNode) → NF F m = true → sz m ≤ (m.toLucene F).length
    | .leaf l, h => List.length_pos_iff.mpr (hne l (by simpa [NF] using h))
    | .neg c, h => by
      simp only [NF, Bool.and_eq_true] at h
      have ih := sz_le_query F hne c h.2
      have := length_le_clauseText F c
      rw [toLucene_neg, notText]
      simp only [sz, List.length_append, List.length_cons, List.length_nil]
      omega
    | .bool op ns, h => by
      simp only [NF, Bool.and_eq_true, decide_eq_true_eq] at h
      exact len_bool F op ns h.2 h.1 (sz_le_list F hne op ns h.2)
  theorem sz_le_item (F : FloatLib) (hne : ∀ l, NFLeaf F l = true → l.toLucene F ≠ []) (op : BoolOp) :
      (n : QNode) → NFItem F op n = true → sz n ≤ (itemText F n).length
    | .leaf l, h => List.length_pos_iff.mpr (hne l (by simpa [NFItem] using h))
    | .neg c, h => by
      simp only [NFItem, Bool.and_eq_true] at h
      have ih := sz_le_query F hne c h.2
      have := length_le_clauseText F c
      simp only [itemText, notText, sz, List.length_append, List.length_cons, List.length_nil]
      omega
    | .bool op' ns, h => by
      simp only [NFItem, Bool.and_eq_true, decide_eq_true_eq] at h
      have := len_bool F op' ns h.2 h.1 (sz_le_list F hne op' ns h.2)
      rw [itemText_bool, length_paren]; omega
  theorem sz_le_list (F : FloatLib) (hne : ∀ l, NFLeaf F l = true → l.toLucene F ≠ []) (op : BoolOp) :
      (ns : QList) → NFList F op ns = true → ∀ n ∈ ns.toList, sz n ≤ (itemText F n).length
    | .nil, _ => fun _ hn => nomatch hn
    | .cons n ns, h => by
      simp only [NFList, Bool.and_eq_true] at h
      exact List.forall_mem_cons.mpr ⟨sz_le_item F hne op n h.1, sz_le_list F hne op ns h.2⟩
end

theorem parse_of_query (F : FloatLib) (s : Str) (its : PItems) (t : QNode)
    (hb : s.all isUnicodeWs = false)
    (hq : query (3 * s.length + 6) s = .ok its [])
    (hv : visitItems F its defaultField ⟨[], []⟩ false = .ok t) : parse F s = .ok t := by
  unfold parse
  simp only [hb, Bool.false_eq_true, if_false, queryroot, hq, skipWs, List.isEmpty_nil, if_true, visitQuery, hv]

/-- The Boolean skeleton: if every leaf in normal form is read back from its own text
    (`LeafGood`), every tree in normal form is read back from its text. -/
theorem roundtrip_of_leaves (F : FloatLib) (hL : ∀ l, NFLeaf F l = true → LeafGood F l) (t : QNode)
    (h : NFRoot F t = true) : parse F (t.toLucene F) = .ok t := by
  simp only [NFRoot, Bool.or_eq_true, decide_eq_true_eq, Bool.and_eq_true, Bool.not_eq_true'] at h
  cases h with
  | inl h => subst h; rfl
  | inr h =>
    have hsz := sz_le_query F (fun l hl => (hL l hl).nonEmpty) t h.1
    obtain ⟨its, hq, hv⟩ := (nodeRT F hL t h.1).query (3 * (t.toLucene F).length + 6) [] (by omega) (Or.inl rfl)
    rw [List.append_nil] at hq
    exact parse_of_query F _ its _ h.2 hq hv

end Search
