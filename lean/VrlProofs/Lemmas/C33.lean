/-
  Lemmas for C33 (span producers, lean/VrlModel/Spans.lean): character boundaries; the spans of
  `verify_overwritable` as three inductions over `walk`; the char stream of the lexer (`PosOK`,
  `AllGood`) and one induction over `scanString`, parametric in what a good offset is.
-/
import VrlModel.Spans
import VrlProofs.Lemmas.Digits

namespace Spans

theorem not_cont_of_lt {b : Nat} (h : b < 128) : isCont b = false := by simp [isCont]; omega
theorem not_cont_of_ge {b : Nat} (h : 192 ≤ b) : isCont b = false := by simp [isCont]; omega

theorem boundary_of_not_cont {src : List Nat} {i b : Nat} (h : src[i]? = some b) (hb : isCont b = false) :
    isCharBoundary src i = true := by
  unfold isCharBoundary
  cases i with
  | zero => rfl
  | succ n => simp only [h, hb, Bool.not_false]

theorem boundary_of_ascii {src : List Nat} {i b : Nat} (h : src[i]? = some b) (hb : b < 128) :
    isCharBoundary src i = true :=
  boundary_of_not_cont h (not_cont_of_lt hb)

theorem boundary_len (src : List Nat) : isCharBoundary src src.length = true := by
  unfold isCharBoundary
  split
  · rfl
  · rw [List.getElem?_eq_none (Nat.le_refl _)]; exact beq_self_eq_true _

theorem boundary_of_allAscii {src : List Nat} (ha : ∀ b ∈ src, b < 128) {i : Nat} (hi : i ≤ src.length) :
    isCharBoundary src i = true := by
  rcases Nat.lt_or_eq_of_le hi with hlt | rfl
  · exact boundary_of_ascii (List.getElem?_eq_getElem hlt) (ha _ (List.getElem_mem hlt))
  · exact boundary_len src

theorem isCharBoundary_append (pre sub : List Nat) (i : Nat) (hi : 0 < i) :
    isCharBoundary (pre ++ sub) (pre.length + i) = isCharBoundary sub i := by
  obtain ⟨n, rfl⟩ : ∃ n, i = n + 1 := ⟨i - 1, by omega⟩
  have h : (pre ++ sub)[pre.length + n + 1]? = sub[n + 1]? := by
    rw [Nat.add_assoc, List.getElem?_append_right (Nat.le_add_right _ _), Nat.add_sub_cancel_left]
  simp only [isCharBoundary, ← Nat.add_assoc]
  rw [h]
  cases sub[n + 1]? with
  | none =>
    rw [Bool.eq_iff_iff]
    simp only [beq_iff_eq, List.length_append]
    omega
  | some b => rfl

theorem popStep_eq (p : Span) (s : Seg) :
    popStep p s = (⟨p.stop - displayLen s, p.stop⟩, ⟨p.start, p.stop - displayLen s - dotLen s⟩) := by
  cases s <;> rfl

theorem walk_bounds (segs : List Seg) : ∀ (parent : Span) (x : Span × Span), x ∈ walk parent segs →
    x.1.start ≤ x.1.stop ∧ x.1.stop ≤ parent.stop ∧ x.2.stop ≤ parent.stop ∧ x.2.start = parent.start := by
  induction segs with
  | nil => nofun
  | cons s rest ih =>
    intro p x h
    have hle : p.stop - displayLen s - dotLen s ≤ p.stop := by omega
    rcases List.mem_cons.mp h with rfl | h
    · rw [popStep_eq]
      exact ⟨Nat.sub_le _ _, Nat.le_refl _, hle, rfl⟩
    · have := ih _ x h
      rw [popStep_eq] at this
      exact ⟨this.1, Nat.le_trans this.2.1 hle, Nat.le_trans this.2.2.1 hle, this.2.2.2⟩

theorem fitsB_le (segs : List Seg) : ∀ (start stop : Nat), fitsB start stop segs = true → start ≤ stop := by
  induction segs with
  | nil => intro a b h; simpa [fitsB] using h
  | cons s rest ih =>
    intro a b h
    simp only [fitsB, Bool.and_eq_true, decide_eq_true_eq] at h
    have := ih _ _ h.2
    omega

theorem walk_ordered (segs : List Seg) : ∀ (parent : Span),
    fitsB parent.start parent.stop segs = true →
    ∀ x ∈ walk parent segs, x.2.start ≤ x.2.stop ∧ parent.start ≤ x.1.start := by
  induction segs with
  | nil => nofun
  | cons s rest ih =>
    intro p hf x h
    simp only [fitsB, Bool.and_eq_true, decide_eq_true_eq] at hf
    have hle := fitsB_le _ _ _ hf.2
    rcases List.mem_cons.mp h with rfl | h
    · simp only [popStep_eq]; omega
    · have := ih (popStep p s).2 (by simp only [popStep_eq]; rw [Nat.sub_sub]; exact hf.2) x h
      simp only [popStep_eq] at this; omega

theorem isFieldChar_lt {b : Nat} (h : isFieldChar b = true) : b < 128 := by
  simp [isFieldChar, isDigit, isAlphaU] at h
  omega

theorem displayBytes_head (s : Seg) : ∃ b tl, displayBytes s = b :: tl ∧ b < 128 := by
  cases s with
  | field f =>
    by_cases hv : validField f = true
    · simp only [displayBytes, hv, if_true]
      cases f with
      | nil => simp [validField] at hv
      | cons b tl =>
        simp only [validField, List.all_cons, Bool.and_eq_true] at hv
        exact ⟨b, tl, rfl, isFieldChar_lt hv.1.1⟩
    · simp only [displayBytes, hv]
      exact ⟨34, f ++ [34], rfl, by omega⟩
  | index i =>
    simp only [displayBytes]
    split <;> exact ⟨91, _, rfl, by omega⟩

theorem canon_length (s : Seg) : (canon s).length = displayLen s + dotLen s := by
  cases s <;> simp [canon, displayLen, dotLen]

theorem getElem?_of_take_drop {src c : List Nat} {a : Nat}
    (h : (src.drop a).take c.length = c) (j : Nat) (hj : j < c.length) :
    src[a + j]? = c[j]? := by
  have h2 : c[j]? = ((src.drop a).take c.length)[j]? := by rw [h]
  rw [h2, List.getElem?_take]
  simp [hj, List.getElem?_drop]

/-- the first bytes of the spelling (a dot or `[`) and of the `Display` text in it are ASCII -/
theorem boundary_canon {src : List Nat} {a : Nat} {s : Seg}
    (h : (src.drop a).take (canon s).length = canon s) :
    isCharBoundary src a = true ∧ isCharBoundary src (a + dotLen s) = true := by
  obtain ⟨b, tl, hd, hb⟩ := displayBytes_head s
  cases s with
  | field f =>
    have e0 := getElem?_of_take_drop h 0 (by simp [canon])
    have e1 := getElem?_of_take_drop h 1 (by simp [canon, hd])
    simp only [canon, hd, List.getElem?_cons_zero, List.getElem?_cons_succ] at e0 e1
    exact ⟨boundary_of_ascii e0 (by omega), boundary_of_ascii e1 hb⟩
  | index i =>
    have e0 := getElem?_of_take_drop h 0 (by simp [canon, hd])
    simp only [canon, hd, List.getElem?_cons_zero] at e0
    exact ⟨boundary_of_ascii e0 hb, boundary_of_ascii e0 hb⟩

theorem canonAtB_le (src : List Nat) (segs : List Seg) : ∀ (start stop : Nat),
    canonAtB src start stop segs = true → start ≤ stop := by
  induction segs with
  | nil => intro a b h; simpa [canonAtB] using h
  | cons s rest ih =>
    intro a b h
    simp only [canonAtB, Bool.and_eq_true, decide_eq_true_eq] at h
    have := ih _ _ h.2
    omega

theorem walk_wf (src : List Nat) (segs : List Seg) : ∀ (parent : Span),
    parent.stop ≤ src.length →
    isCharBoundary src parent.start = true → isCharBoundary src parent.stop = true →
    canonAtB src parent.start parent.stop segs = true →
    ∀ x ∈ walk parent segs, WF src x.1 ∧ WF src x.2 := by
  induction segs with
  | nil => nofun
  | cons s rest ih =>
    intro p hlen hbs hbe hc x h
    -- the spelling of `s` starts at `a = stop - (displayLen + dotLen)`: `a` (new end of the parent) and
    -- `a + dotLen` (start of the segment) are boundaries by `boundary_canon`; the rest is arithmetic
    simp only [canonAtB, Bool.and_eq_true, decide_eq_true_eq, beq_iff_eq] at hc
    obtain ⟨⟨hcl, heq⟩, hrest⟩ := hc
    have hle := canonAtB_le _ _ _ _ hrest
    obtain ⟨b0, b1⟩ := boundary_canon heq
    rw [canon_length] at hcl hle hrest b0 b1
    have e1 : p.stop - (displayLen s + dotLen s) + dotLen s = p.stop - displayLen s := by omega
    rw [e1] at b1
    rw [← Nat.sub_sub] at b0 hrest hle
    have hstop : p.stop - displayLen s - dotLen s ≤ src.length :=
      Nat.le_trans (Nat.le_trans (Nat.sub_le _ _) (Nat.sub_le _ _)) hlen
    rcases List.mem_cons.mp h with rfl | h
    · rw [popStep_eq]
      exact ⟨⟨Nat.sub_le _ _, hlen, b1, hbe⟩, hle, hstop, hbs, b0⟩
    · refine ih (popStep p s).2 ?_ ?_ ?_ ?_ x h <;> rw [popStep_eq]
      · exact hstop
      · exact hbs
      · exact b0
      · exact hrest

theorem overwritableLoop_mem (valid : Nat → Bool) (segs : List Seg) : ∀ (parent : Span) (x : Span × Span),
    overwritableLoop valid parent segs = some x → x ∈ walk parent segs := by
  intro p
  fun_induction overwritableLoop valid p segs <;> intro x h
  case case1 => cases h
  case case2 ih => exact List.mem_cons_of_mem _ (ih x h)
  case case3 => cases h; exact List.mem_cons_self

theorem utf8Len_pos (c : Nat) : 1 ≤ utf8Len c := by
  unfold utf8Len; split <;> (try split) <;> (try split) <;> omega
theorem utf8Len_le (c : Nat) : utf8Len c ≤ 4 := by
  unfold utf8Len; split <;> (try split) <;> (try split) <;> omega
theorem utf8Len_1 {c : Nat} (h : c < 128) : utf8Len c = 1 := if_pos h
theorem utf8Len_2 {c : Nat} (h1 : 128 ≤ c) (h2 : c < 2048) : utf8Len c = 2 := by
  rw [utf8Len, if_neg (by omega), if_pos h2]
theorem utf8Len_3 {c : Nat} (h1 : 2048 ≤ c) (h2 : c < 65536) : utf8Len c = 3 := by
  rw [utf8Len, if_neg (by omega), if_neg (by omega), if_pos h2]
theorem utf8Len_4 {c : Nat} (h1 : 65536 ≤ c) : utf8Len c = 4 := by
  rw [utf8Len, if_neg (by omega), if_neg (by omega), if_neg (by omega)]
theorem digits_lt_2 {x y : Nat} (hx : x < 32) (hy : y < 64) : x * 64 + y < 2048 :=
  Digits.mul_add_lt hx hy
theorem digits_lt_3 {x y z : Nat} (hx : x < 16) (hy : y < 64) (hz : z < 64) : (x * 64 + y) * 64 + z < 65536 :=
  Digits.mul_add_lt (m := 16 * 64) (Digits.mul_add_lt hx hy) hz
theorem utf8Len_le_2 {c : Nat} (h : c < 2048) : utf8Len c ≤ 2 := by
  unfold utf8Len; split <;> (try split) <;> omega
theorem utf8Len_le_3 {c : Nat} (h : c < 65536) : utf8Len c ≤ 3 := by
  unfold utf8Len; split <;> (try split) <;> (try split) <;> omega

/-- `lo` = a lower bound for the next offset; after a character at `p` the bound `p + 1` is all the
    scanner needs -/
def PosOK (len : Nat) : Nat → List (Nat × Nat) → Prop
  | _, [] => True
  | lo, (p, c) :: rest => lo ≤ p ∧ p + utf8Len c ≤ len ∧ PosOK len (p + 1) rest

theorem posOK_tail {len lo : Nat} {cs : List (Nat × Nat)} (h : PosOK len lo cs) : PosOK len lo (cs.drop 1) := by
  match cs, h with
  | [], _ => trivial
  | [_], _ => trivial
  | _ :: (p, c) :: rest, h => exact ⟨Nat.le_trans h.1 (Nat.le_of_succ_le h.2.2.1), h.2.2.2⟩

theorem posOK_charIndicesFrom (pos : Nat) (src : List Nat) : ∀ len lo, lo ≤ pos → pos + src.length ≤ len →
    PosOK len lo (charIndicesFrom pos src) := by
  fun_induction charIndicesFrom pos src with
  | case1 | case4 | case6 | case8 => intros; trivial
  | case2 pos b0 rest h ih =>
    intro len lo h1 h2
    rw [List.length_cons] at h2
    exact ⟨h1, by rw [utf8Len_1 h]; omega, ih len _ (Nat.le_refl _) (by omega)⟩
  -- a decoded character is never shorter than `len_utf8` of its code point (equal for well-formed
  -- UTF-8, possibly longer for an overlong form)
  | case3 pos b0 _ h b1 r ih =>
    intro len lo h1 h2
    simp only [List.length_cons] at h2
    have := utf8Len_le_2 (digits_lt_2 (Nat.mod_lt b0 (by decide)) (Nat.mod_lt b1 (by decide)))
    exact ⟨h1, by omega, ih len _ (Nat.add_le_add_left (by decide) pos) (by omega)⟩
  | case5 pos b0 _ _ h b1 b2 r ih =>
    intro len lo h1 h2
    simp only [List.length_cons] at h2
    have := utf8Len_le_3
      (digits_lt_3 (Nat.mod_lt b0 (by decide)) (Nat.mod_lt b1 (by decide)) (Nat.mod_lt b2 (by decide)))
    exact ⟨h1, by omega, ih len _ (Nat.add_le_add_left (by decide) pos) (by omega)⟩
  | case7 pos b0 _ _ _ b1 b2 b3 r ih =>
    intro len lo h1 h2
    simp only [List.length_cons] at h2
    have := utf8Len_le (((b0 % 8 * 64 + b1 % 64) * 64 + b2 % 64) * 64 + b3 % 64)
    exact ⟨h1, by omega, ih len _ (Nat.add_le_add_left (by decide) pos) (by omega)⟩

theorem nextIndex_bounds {len lo : Nat} {cs : List (Nat × Nat)} (h : PosOK len lo cs) (hl : lo ≤ len) :
    lo ≤ nextIndex len cs ∧ nextIndex len cs ≤ len := by
  match cs, h with
  | [], _ => exact ⟨hl, Nat.le_refl _⟩
  | (p, c) :: rest, h => exact ⟨h.1, Nat.le_trans (Nat.le_add_right _ _) h.2.1⟩

theorem charIndicesFrom_ascii (pos b0 : Nat) (rest : List Nat) (h : b0 < 128) :
    charIndicesFrom pos (b0 :: rest) = (pos, b0) :: charIndicesFrom (pos + 1) rest := by
  conv => lhs; unfold charIndicesFrom
  rw [if_pos h]

theorem charIndicesFrom_2 (pos b0 b1 : Nat) (r : List Nat) (h1 : ¬ b0 < 128) (h2 : b0 < 224) :
    charIndicesFrom pos (b0 :: b1 :: r) = (pos, b0 % 32 * 64 + b1 % 64) :: charIndicesFrom (pos + 2) r := by
  conv => lhs; unfold charIndicesFrom
  rw [if_neg h1, if_pos h2]

theorem charIndicesFrom_3 (pos b0 b1 b2 : Nat) (r : List Nat) (h2 : ¬ b0 < 224) (h3 : b0 < 240) :
    charIndicesFrom pos (b0 :: b1 :: b2 :: r) =
      (pos, (b0 % 16 * 64 + b1 % 64) * 64 + b2 % 64) :: charIndicesFrom (pos + 3) r := by
  conv => lhs; unfold charIndicesFrom
  rw [if_neg (by omega), if_neg h2, if_pos h3]

theorem charIndicesFrom_4 (pos b0 b1 b2 b3 : Nat) (r : List Nat) (h3 : ¬ b0 < 240) :
    charIndicesFrom pos (b0 :: b1 :: b2 :: b3 :: r) =
      (pos, ((b0 % 8 * 64 + b1 % 64) * 64 + b2 % 64) * 64 + b3 % 64) :: charIndicesFrom (pos + 4) r := by
  conv => lhs; unfold charIndicesFrom
  rw [if_neg (by omega), if_neg (by omega), if_neg h3]

def AllGood (G : Nat → Prop) (cs : List (Nat × Nat)) : Prop := ∀ x ∈ cs, G x.1 ∧ G (x.1 + utf8Len x.2)

theorem AllGood.nextIndex {G : Nat → Prop} {len : Nat} {cs : List (Nat × Nat)} (h : AllGood G cs) (hl : G len) :
    G (nextIndex len cs) := by
  match cs, h with
  | [], _ => exact hl
  | x :: _, h => exact (h x List.mem_cons_self).1

theorem boundary_lead {src : List Nat} (pre : List Nat) (b : Nat) (rest : List Nat) (hs : src = pre ++ b :: rest)
    (hb : isCont b = false) : isCharBoundary src pre.length = true :=
  boundary_of_not_cont (b := b) (by simp [hs]) hb

theorem wfUtf8_cons_ascii {b : Nat} {tl : List Nat} (hb : b < 128) (h : wfUtf8 (b :: tl) = true) :
    wfUtf8 tl = true := by
  unfold wfUtf8 at h; simpa [hb] using h

theorem boundary_wfUtf8 {src : List Nat} (pre suf : List Nat) (hs : src = pre ++ suf) (hw : wfUtf8 suf = true) :
    isCharBoundary src pre.length = true := by
  cases suf with
  | nil => rw [hs, List.append_nil]; exact boundary_len pre
  | cons b rest =>
    refine boundary_lead pre b rest hs ?_
    unfold wfUtf8 at hw
    by_cases h1 : b < 128
    · exact not_cont_of_lt h1
    · rw [if_neg h1] at hw
      by_cases h2 : b < 192
      · rw [if_pos h2] at hw; cases hw
      · exact not_cont_of_ge (by omega)

theorem allGood_charIndicesFrom (src suf : List Nat) : ∀ pre : List Nat, src = pre ++ suf → wfUtf8 suf = true →
    AllGood (isCharBoundary src · = true) (charIndicesFrom pre.length suf) := by
  -- the character `chr` read first starts on a boundary (its lead byte) and ends where the rest,
  -- again well-formed, starts
  have step : ∀ (pre chr r : List Nat) (b c : Nat), src = pre ++ (b :: chr ++ r) → isCont b = false →
      wfUtf8 r = true → utf8Len c = (b :: chr).length →
      AllGood (isCharBoundary src · = true) (charIndicesFrom (pre ++ b :: chr).length r) →
      AllGood (isCharBoundary src · = true)
        ((pre.length, c) :: charIndicesFrom (pre.length + (b :: chr).length) r) := by
    intro pre chr r b c hs hb hr hc ih x hx
    rcases List.mem_cons.mp hx with rfl | hx
    · refine ⟨boundary_lead pre b _ hs hb, ?_⟩
      have := boundary_wfUtf8 (src := src) (pre ++ b :: chr) r (by rw [hs, List.append_assoc]) hr
      rwa [List.length_append, ← hc] at this
    · rw [← List.length_append] at hx
      exact ih x hx
  fun_induction wfUtf8 suf with
  | case1 => intro _ _ _; nofun
  | case3 | case5 | case7 | case9 | case10 => intro _ _ h; cases h
  | case2 b0 rest h ih =>
    intro pre hs hw
    rw [charIndicesFrom_ascii _ _ _ h]
    exact step pre [] rest b0 b0 hs (not_cont_of_lt h) hw (utf8Len_1 h) (ih _ (by rw [hs, List.append_assoc]; rfl) hw)
  | case4 b0 h1 h2 h3 b1 r ih =>
    intro pre hs hw
    simp only [Bool.and_eq_true, decide_eq_true_eq] at hw
    rw [charIndicesFrom_2 _ _ _ _ h1 h3]
    exact step pre [b1] r b0 _ hs (not_cont_of_ge (Nat.le_of_not_lt h2)) hw.2 (utf8Len_2 hw.1.2 (digits_lt_2 (Nat.mod_lt b0 (by decide)) (Nat.mod_lt b1 (by decide))))
      (ih _ (by rw [hs, List.append_assoc]; rfl) hw.2)
  | case6 b0 h1 h2 h3 h4 b1 b2 r ih =>
    intro pre hs hw
    simp only [Bool.and_eq_true, decide_eq_true_eq] at hw
    rw [charIndicesFrom_3 _ _ _ _ _ h3 h4]
    exact step pre [b1, b2] r b0 _ hs (not_cont_of_ge (Nat.le_of_not_lt h2)) hw.2 (utf8Len_3 hw.1.2
        (digits_lt_3 (Nat.mod_lt b0 (by decide)) (Nat.mod_lt b1 (by decide)) (Nat.mod_lt b2 (by decide))))
      (ih _ (by rw [hs, List.append_assoc]; rfl) hw.2)
  | case8 b0 h1 h2 h3 h4 h5 b1 b2 b3 r ih =>
    intro pre hs hw
    simp only [Bool.and_eq_true, decide_eq_true_eq] at hw
    rw [charIndicesFrom_4 _ _ _ _ _ _ h4]
    exact step pre [b1, b2, b3] r b0 _ hs (not_cont_of_ge (Nat.le_of_not_lt h2)) hw.2 (utf8Len_4 hw.1.2)
      (ih _ (by rw [hs, List.append_assoc]; rfl) hw.2)

/-- strict, unlike `WF`: a label is never empty -/
def GoodSpan (G : Nat → Prop) (len : Nat) (s : Span) : Prop :=
  s.start < s.stop ∧ s.stop ≤ len ∧ G s.start ∧ G s.stop

/-- invariant of the scanner state: a pending backslash at `bs` is a one-byte character between
    good offsets and lies before the unread characters (which start at `lo` or later) -/
def Pending (G : Nat → Prop) (lo : Nat) : StrSt → Prop
  | .normal => True
  | .esc bs => bs < lo ∧ G bs ∧ G (bs + 1)
  | .uni bs => bs < lo ∧ G bs ∧ G (bs + 1)
  | .hex bs _ _ => bs < lo ∧ G bs ∧ G (bs + 1)

/-- "unterminated string" is left out: its label depends on where the caller says the literal started.
    With `G` trivial this is the range statement for any source; with `G` = "is a character boundary"
    (`allGood_charIndicesFrom`) it is well-formedness: the invalid-escape label covers the whole character. -/
theorem scanString_label (G : Nat → Prop) (len start : Nat) (hlen : G len) :
    ∀ (cs : List (Nat × Nat)) (st : StrSt) (lo : Nat) (e : LexErr),
    PosOK len lo cs → AllGood G cs → lo ≤ len → Pending G lo st →
    scanString len start st cs = .error e →
    e = .stringLiteral start ∨ GoodSpan G len e.label := by
  intro cs st
  -- what a character `(p, c)` in front of `rest` provides: the hypotheses for scanning `rest`, and the
  -- labels of the character itself and of a `\u{…}` that ends where `rest` starts
  have setup : ∀ {p c rest lo}, PosOK len lo ((p, c) :: rest) → AllGood G ((p, c) :: rest) →
      (lo ≤ p ∧ G p ∧ G (p + utf8Len c)) ∧ (PosOK len (p + 1) rest ∧ AllGood G rest ∧ p + 1 ≤ len) ∧
      GoodSpan G len (LexErr.escapeChar p (some c)).label ∧
      ∀ bs, bs < lo → G bs → GoodSpan G len (LexErr.unicodeEscape bs (nextIndex len rest)).label := by
    intro p c rest lo ⟨h1, h2u, h3⟩ hg
    obtain ⟨gp, gpc⟩ := hg (p, c) List.mem_cons_self
    have hg' : AllGood G rest := fun x hx => hg x (List.mem_cons_of_mem _ hx)
    have h2 : p + 1 ≤ len := Nat.le_trans (Nat.add_le_add_left (utf8Len_pos c) p) h2u
    have hn := nextIndex_bounds h3 h2
    exact ⟨⟨h1, gp, gpc⟩, ⟨h3, hg', h2⟩,
      ⟨by have := utf8Len_pos c; simp only [LexErr.label]; omega, h2u, gp, gpc⟩,
      fun bs hb gb => ⟨by simp only [LexErr.label]; omega, hn.2, gb, hg'.nextIndex hlen⟩⟩
  fun_induction scanString len start st cs <;> intro lo e hp hg hl hst h
  -- `normal`: end of input (unterminated string); closing quote (no error)
  case case1 => cases h; exact .inl rfl
  case case2 => cases h
  -- end of input in `esc` / `uni` / `hex`: the label is the pending backslash
  case case5 | case9 | case12 => cases h; exact .inr ⟨Nat.lt_succ_self _, Nat.le_trans hst.1 hl, hst.2⟩
  -- `normal`, `\` read at `p`: on in `esc p`
  case case3 p rest _ ih =>
    obtain ⟨⟨_, gp, gpc⟩, ⟨hp', hg', hl'⟩, _⟩ := setup hp hg
    exact ih _ _ hp' hg' hl' ⟨Nat.lt_succ_self _, gp, gpc⟩ h
  -- back to `normal`: an ordinary char; a simple escape; `\u{…}` closed with a valid scalar
  case case4 ih | case6 ih | case14 ih =>
    obtain ⟨_, ⟨hp', hg', hl'⟩, _⟩ := setup hp hg
    exact ih _ _ hp' hg' hl' trivial h
  -- the escape goes on: `u` after `\`; `{` after `\u`; a hex digit
  case case7 ih | case10 ih | case16 ih =>
    obtain ⟨⟨hlo, _⟩, ⟨hp', hg', hl'⟩, _⟩ := setup hp hg
    exact ih _ _ hp' hg' hl' ⟨Nat.lt_succ_of_lt (Nat.lt_of_lt_of_le hst.1 hlo), hst.2⟩ h
  -- a char that cannot follow `\`, `\u` or stand in `\u{…`: the label is that char
  case case8 | case11 | case17 =>
    obtain ⟨_, _, hesc, _⟩ := setup hp hg
    cases h; exact .inr hesc
  -- `\u{…}` closed with no digit; with a value that is no scalar: the label runs from the backslash to behind `}`
  case case13 | case15 =>
    obtain ⟨_, _, _, huni⟩ := setup hp hg
    cases h; exact .inr (huni _ hst.1 hst.2.1)

theorem scanQuoted_error (len start : Nat) : ∀ (cs : List (Nat × Nat)) (b : Bool) (e : LexErr),
    scanQuoted len start b cs = .error e → e = .literal start := by
  intro cs b
  fun_induction scanQuoted len start b cs <;> intro e h
  case case1 => cases h; rfl
  case case3 => cases h
  case case2 ih | case4 ih | case5 ih => exact ih e h

theorem offsetBy_label (e : LexErr) (o : Nat) :
    (e.offsetBy o).label = ⟨e.label.start + o, e.label.stop + o⟩ := by
  cases e with
  | escapeChar s ch => cases ch <;> simp [LexErr.offsetBy, LexErr.label] <;> omega
  | _ => simp [LexErr.offsetBy, LexErr.label] <;> omega

theorem wf_shift (pre sub : List Nat) (hu : wfUtf8 sub = true) (s : Span) (h : WF sub s) :
    WF (pre ++ sub) ⟨s.start + pre.length, s.stop + pre.length⟩ := by
  -- offset 0 of `sub` is a boundary of the whole text because `sub` is well-formed
  have shift : ∀ i, isCharBoundary sub i = true → isCharBoundary (pre ++ sub) (i + pre.length) = true := by
    intro i hi
    cases i with
    | zero => rw [Nat.zero_add]; exact boundary_wfUtf8 pre sub rfl hu
    | succ n => rw [Nat.add_comm, isCharBoundary_append pre sub _ (Nat.succ_pos n)]; exact hi
  obtain ⟨h1, h2, h3, h4⟩ := h
  exact ⟨Nat.add_le_add_right h1 _, by rw [List.length_append, Nat.add_comm pre.length]; exact Nat.add_le_add_right h2 _,
    shift _ h3, shift _ h4⟩

end Spans
