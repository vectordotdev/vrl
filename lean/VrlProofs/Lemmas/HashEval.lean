/-
  Evaluators for SHA-1, SHA-2, SHA-3 and the CRC model that the kernel runs quickly, each proved
  equal to the specification `VrlModel/Hash/{SHA,SHA3,CRC}.lean` for all inputs; the test vectors of
  `Props/C27Vectors.lean` are evaluated through them.

  Evaluating the specifications themselves is slow for reasons that have nothing to do with the
  arithmetic, which the kernel does natively on `Nat` literals. Every `^^^`, `+`, `%` is first
  unfolded through its notation class; every word of a message schedule is found by four
  `List.getD` walks into a growing list; every block is cut out of the message by `length`, `take`
  and `drop` and then cut into words the same way; and every step of such a walk unfolds a recursor.
  Here the arithmetic is written with `Nat.xor`, `Nat.add`, … directly, sixteen schedule words come
  from one pattern match (FIPS 180-4 §6.1.2/§6.2.2 step 1, unrolled), the working variables are
  the fields of a structure instead of a list taken apart in every round, and the sixteen words of a
  block are read off the byte list in one pass.

  An evaluator that needs its argument to have some shape (a window of sixteen words, a state of
  eight) falls back on the specification otherwise, so that the equalities hold unconditionally.
-/
import VrlModel.Hash.Vrl

namespace HashEval
open Hash Hash.SHA

theorem chunksAux_fuel {α : Type} {n : Nat} (hn : 0 < n) (f1 : Nat) : ∀ (f2 : Nat) (l : List α),
    l.length ≤ f1 → l.length ≤ f2 → chunksAux n f1 l = chunksAux n f2 l := by
  induction f1 with
  | zero =>
    intro f2 l h1 h2
    obtain rfl := List.eq_nil_of_length_eq_zero (Nat.le_zero.mp h1)
    cases f2 <;> rfl
  | succ f1 ih =>
    intro f2 l h1 h2
    match f2, l with
    | f2, [] => cases f2 <;> rfl
    | f2 + 1, b :: t =>
      simp only [chunksAux, List.length_cons] at *
      rw [ih f2] <;> simp <;> omega

theorem chunks_cons {α : Type} {n : Nat} (hn : 0 < n) (b : α) (t : List α) :
    chunks n (b :: t) = (b :: t).take n :: chunks n ((b :: t).drop n) := by
  simp only [chunks, List.length_cons, chunksAux]
  rw [chunksAux_fuel hn _ _ _ _ (Nat.le_refl _)]
  simp; omega

def readBE : Nat → Nat → Bytes → Nat × Bytes
  | k + 1, acc, b :: l => readBE k (Nat.add (Nat.mul acc 256) b) l
  | _, acc, l => (acc, l)

theorem readBE_eq : ∀ k acc l,
    readBE k acc l = ((l.take k).foldl (fun a b => a * 256 + b) acc, l.drop k)
  | 0, _, _ => by simp [readBE]
  | k + 1, _, [] => by simp [readBE]
  | k + 1, _, b :: l => by simp [readBE, readBE_eq k]

def readWords (wb : Nat) : Nat → Bytes → List Nat × Bytes
  | j + 1, b :: l =>
    let p := readBE wb 0 (b :: l)
    let q := readWords wb j p.2
    (p.1 :: q.1, q.2)
  | _, l => ([], l)

theorem readWords_eq {wb : Nat} (hwb : 0 < wb) : ∀ j l,
    readWords wb j l = ((chunks wb (l.take (j * wb))).map beNat, l.drop (j * wb))
  | 0, l => by simp [readWords, chunks, chunksAux]
  | j + 1, [] => by simp [readWords, chunks, chunksAux]
  | j + 1, b :: t => by
    rw [readWords, readBE_eq, readWords_eq hwb j]
    have h : (j + 1) * wb = (j * wb + (wb - 1)) + 1 := by rw [Nat.succ_mul]; omega
    rw [h, List.take_succ_cons, chunks_cons hwb, ← List.take_succ_cons, ← h]
    simp [List.take_take, List.drop_take, beNat, Nat.succ_mul]
    omega

/-- The blocks are of sixteen words of `wb` bytes (SHA-1, SHA-2); `fuel` as in `chunksAux`. -/
def foldBlocks (wb : Nat) (f : List Nat → List Nat → List Nat) : Nat → Bytes → List Nat → List Nat
  | fuel + 1, b :: l, h =>
    let p := readWords wb 16 (b :: l)
    foldBlocks wb f fuel p.2 (f h p.1)
  | _, _, h => h

theorem foldBlocks_eq {wb : Nat} (hwb : 0 < wb) (f : List Nat → List Nat → List Nat) : ∀ fuel l h,
    foldBlocks wb f fuel l h =
      (chunksAux (16 * wb) fuel l).foldl (fun h blk => f h ((chunks wb blk).map beNat)) h
  | 0, _, _ | _ + 1, [], _ => by simp [foldBlocks, chunksAux]
  | fuel + 1, b :: l, h => by
    simp [foldBlocks, chunksAux, readWords_eq hwb, foldBlocks_eq hwb f fuel]

def fold2 {σ : Type} (f : Nat → Nat → σ → σ) : List Nat → List Nat → σ → σ
  | k :: ks, w :: ws, s => fold2 f ks ws (f k w s)
  | _, _, s => s

theorem fold2_eq {σ : Type} {f : Nat → Nat → σ → σ} {g : List Nat → Nat × Nat → List Nat} (toList : σ → List Nat)
    (h : ∀ k w s, toList (f k w s) = g (toList s) (k, w)) :
    ∀ ks ws s, toList (fold2 f ks ws s) = (ks.zip ws).foldl g (toList s)
  | [], _, _ | _ :: _, [], _ => by simp [fold2]
  | k :: ks, w :: ws, s => by simp [fold2, fold2_eq toList h ks ws, h]

/-- Sixteen more words of a message schedule per step, each by `g` from the words 2, 3, 7, 8, 14,
    15 and 16 places before it (`ws` is the schedule so far, latest word first); `S` is the
    specification, followed where the window is short. -/
def sched16 (g : Nat → Nat → Nat → Nat → Nat → Nat → Nat → Nat) (S : Nat → List Nat → List Nat) :
    Nat → List Nat → List Nat
  | j + 1, ws@(w15 :: w14 :: w13 :: w12 :: w11 :: w10 :: w9 :: w8 :: w7 :: w6 :: w5 :: w4 :: w3 :: w2 :: w1 :: w0 :: _) =>
    let w16 := g w14 w13 w9 w8 w2 w1 w0
    let w17 := g w15 w14 w10 w9 w3 w2 w1
    let w18 := g w16 w15 w11 w10 w4 w3 w2
    let w19 := g w17 w16 w12 w11 w5 w4 w3
    let w20 := g w18 w17 w13 w12 w6 w5 w4
    let w21 := g w19 w18 w14 w13 w7 w6 w5
    let w22 := g w20 w19 w15 w14 w8 w7 w6
    let w23 := g w21 w20 w16 w15 w9 w8 w7
    let w24 := g w22 w21 w17 w16 w10 w9 w8
    let w25 := g w23 w22 w18 w17 w11 w10 w9
    let w26 := g w24 w23 w19 w18 w12 w11 w10
    let w27 := g w25 w24 w20 w19 w13 w12 w11
    let w28 := g w26 w25 w21 w20 w14 w13 w12
    let w29 := g w27 w26 w22 w21 w15 w14 w13
    let w30 := g w28 w27 w23 w22 w16 w15 w14
    let w31 := g w29 w28 w24 w23 w17 w16 w15
    sched16 g S j (w31 :: w30 :: w29 :: w28 :: w27 :: w26 :: w25 :: w24 :: w23 :: w22 :: w21 :: w20 :: w19 :: w18 :: w17 :: w16 :: ws)
  | j, ws => S (16 * j) ws

theorem sched16_eq {g : Nat → Nat → Nat → Nat → Nat → Nat → Nat → Nat} {S : Nat → List Nat → List Nat}
    (hS : ∀ m a0 a1 a2 a3 a4 a5 a6 a7 a8 a9 a10 a11 a12 a13 a14 a15 rest,
      S (m + 1) (a0 :: a1 :: a2 :: a3 :: a4 :: a5 :: a6 :: a7 :: a8 :: a9 :: a10 :: a11 :: a12 :: a13 :: a14 :: a15 :: rest) =
        S m (g a1 a2 a6 a7 a13 a14 a15 :: a0 :: a1 :: a2 :: a3 :: a4 :: a5 :: a6 :: a7 :: a8 :: a9 :: a10 :: a11 :: a12 :: a13 :: a14 :: a15 :: rest))
    (j : Nat) : ∀ ws, sched16 g S j ws = S (16 * j) ws := by
  induction j with
  | zero => intro ws; unfold sched16; rfl
  | succ j ih =>
    intro ws
    unfold sched16
    split
    · rename_i h
      cases h
      simp only [ih, Nat.mul_succ, hS]
    · rfl

/-! ### SHA-2 (FIPS 180-4 §6.2, §6.4) on `n`-bit words -/

def rotr (n x r : Nat) : Nat :=
  Nat.mod (Nat.lor (Nat.shiftRight x r) (Nat.shiftLeft x (Nat.sub n r))) (Nat.pow 2 n)

def add (n x y : Nat) : Nat := Nat.mod (Nat.add x y) (Nat.pow 2 n)

def bigSigma (n : Nat) (r : Nat × Nat × Nat) (x : Nat) : Nat :=
  Nat.xor (Nat.xor (rotr n x r.1) (rotr n x r.2.1)) (rotr n x r.2.2)

def smallSigma (n : Nat) (r : Nat × Nat × Nat) (x : Nat) : Nat :=
  Nat.xor (Nat.xor (rotr n x r.1) (rotr n x r.2.1)) (Nat.shiftRight x r.2.2)

def ch (n x y z : Nat) : Nat :=
  Nat.xor (Nat.land x y) (Nat.land (Nat.xor x (Nat.sub (Nat.pow 2 n) 1)) z)

def maj (x y z : Nat) : Nat := Nat.xor (Nat.xor (Nat.land x y) (Nat.land x z)) (Nat.land y z)

/-- words of `n` bits; `16 * j` schedule words beyond the sixteen of the block. -/
structure Fits (c : Core) (n j : Nat) : Prop where
  rotr : c.rotr = rotr n
  modulus : c.modulus = Nat.pow 2 n
  compl : c.compl = fun x => Nat.xor x (Nat.sub (Nat.pow 2 n) 1)
  rounds : c.K.length - 16 = 16 * j
  wordBytes : 0 < c.wordBytes

structure St where (a b c d e f g h : Nat)

def St.toList (s : St) : List Nat := [s.a, s.b, s.c, s.d, s.e, s.f, s.g, s.h]

variable (c : Core) (n : Nat)

def rnd (k w : Nat) (s : St) : St :=
  let t1 := add n (Nat.add (Nat.add (Nat.add s.h (bigSigma n c.S1 s.e)) (ch n s.e s.f s.g)) k) w
  let t2 := add n (bigSigma n c.S0 s.a) (maj s.a s.b s.c)
  ⟨add n t1 t2, s.a, s.b, s.c, add n s.d t1, s.e, s.f, s.g⟩

def nw (a b cc d : Nat) : Nat :=
  add n (Nat.add (Nat.add (smallSigma n c.s1 a) b) (smallSigma n c.s0 cc)) d

def compress (j : Nat) (h ws : List Nat) : List Nat :=
  let w := (sched16 (fun a2 _ a7 _ _ a15 a16 => nw c n a2 a7 a15 a16) c.schedule j ws.reverse).reverse
  List.zipWith (add n) h <| match h with
    | [a, b, cc, d, e, f, g, hh] => (fold2 (rnd c n) c.K w ⟨a, b, cc, d, e, f, g, hh⟩).toList
    | _ => (c.K.zip w).foldl c.round h

def hashWords (j : Nat) (iv : List Nat) (m : Bytes) : List Nat :=
  let l := pad (16 * c.wordBytes) c.lenBytes m
  foldBlocks c.wordBytes (compress c n j) l.length l iv

def digest (j : Nat) (iv : List Nat) (outBytes : Nat) (m : Bytes) : Bytes :=
  ((hashWords c n j iv m).flatMap (toBE c.wordBytes)).take outBytes

variable {c n} {j : Nat} (fits : Fits c n j)
include fits

theorem rnd_eq (k w : Nat) (s : St) : (rnd c n k w s).toList = c.round s.toList (k, w) := by
  simp only [Core.round, St.toList, Core.bigSigma, Core.ch, fits.rotr, fits.modulus, fits.compl]
  rfl

theorem schedule_succ (m a0 a1 a2 a3 a4 a5 a6 a7 a8 a9 a10 a11 a12 a13 a14 a15 : Nat) (rest : List Nat) :
    c.schedule (m + 1) (a0 :: a1 :: a2 :: a3 :: a4 :: a5 :: a6 :: a7 :: a8 :: a9 :: a10 :: a11 :: a12 :: a13 :: a14 :: a15 :: rest) =
      c.schedule m (nw c n a1 a6 a14 a15 :: a0 :: a1 :: a2 :: a3 :: a4 :: a5 :: a6 :: a7 :: a8 :: a9 :: a10 :: a11 :: a12 :: a13 :: a14 :: a15 :: rest) := by
  simp only [Core.schedule, List.getD_cons_succ, List.getD_cons_zero, Core.smallSigma, fits.rotr,
    fits.modulus]
  rfl

theorem block_eq : c.block = fun h blk => compress c n j h ((chunks c.wordBytes blk).map beNat) := by
  funext h blk
  unfold compress
  split
  · simp only [Core.block, fold2_eq St.toList (rnd_eq fits), sched16_eq (schedule_succ fits), fits.rounds, fits.modulus]
    rfl
  · simp only [Core.block, sched16_eq (schedule_succ fits), fits.rounds, fits.modulus]
    rfl

theorem hashWords_eq : c.hashWords = hashWords c n j := by
  funext iv m
  simp only [Core.hashWords, hashWords, block_eq fits, foldBlocks_eq fits.wordBytes, chunks]

theorem digest_eq : c.digest = digest c n j := by
  funext iv out m
  rw [Core.digest, hashWords_eq fits, digest]

omit fits

theorem fits32 : Fits core32 32 3 := ⟨rfl, rfl, rfl, rfl, by decide⟩
theorem fits64 : Fits core64 64 4 := ⟨rfl, rfl, rfl, rfl, by decide⟩

theorem sha224_eq : sha224 = digest core32 32 3 iv224 28 := digest_eq fits32 ▸ rfl
theorem sha256_eq : sha256 = digest core32 32 3 iv256 32 := digest_eq fits32 ▸ rfl
theorem sha384_eq : sha384 = digest core64 64 4 iv384 48 := digest_eq fits64 ▸ rfl
theorem sha512_eq : sha512 = digest core64 64 4 iv512 64 := digest_eq fits64 ▸ rfl
theorem sha512_224_eq : sha512_224 = digest core64 64 4 iv512_224 28 := digest_eq fits64 ▸ rfl
theorem sha512_256_eq : sha512_256 = digest core64 64 4 iv512_256 32 := digest_eq fits64 ▸ rfl

/-! ### SHA-1 (FIPS 180-4 §6.1) -/

def rotl (n x r : Nat) : Nat :=
  Nat.mod (Nat.lor (Nat.shiftLeft x r) (Nat.shiftRight x (Nat.sub n r))) (Nat.pow 2 n)

def f1 (t b c d : Nat) : Nat :=
  if t < 20 then ch 32 b c d
  else if t < 40 then Nat.xor (Nat.xor b c) d
  else if t < 60 then maj b c d
  else Nat.xor (Nat.xor b c) d

structure St1 where (a b c d e : Nat)

def St1.toList (s : St1) : List Nat := [s.a, s.b, s.c, s.d, s.e]

def rnd1 (t w : Nat) (s : St1) : St1 :=
  ⟨add 32 (Nat.add (Nat.add (Nat.add (rotl 32 s.a 5) (f1 t s.b s.c s.d)) s.e) (SHA1.K t)) w,
    s.a, rotl 32 s.b 30, s.c, s.d⟩

def nw1 (a b c d : Nat) : Nat := rotl 32 (Nat.xor (Nat.xor (Nat.xor a b) c) d) 1

def compress1 (h ws : List Nat) : List Nat :=
  let w := (sched16 (fun _ a3 _ a8 a14 _ a16 => nw1 a3 a8 a14 a16) SHA1.schedule 4 ws.reverse).reverse
  List.zipWith (add 32) h <| match h with
    | [a, b, c, d, e] => (fold2 rnd1 (List.range 80) w ⟨a, b, c, d, e⟩).toList
    | _ => ((List.range 80).zip w).foldl SHA1.round h

def sha1 (m : Bytes) : Bytes :=
  let l := pad 64 8 m
  (foldBlocks 4 compress1 l.length l SHA1.init).flatMap (toBE 4)

theorem sched1_eq (j : Nat) (ws : List Nat) :
    sched16 (fun _ a3 _ a8 a14 _ a16 => nw1 a3 a8 a14 a16) SHA1.schedule j ws = SHA1.schedule (16 * j) ws :=
  sched16_eq (fun _ _ _ _ _ _ _ _ _ _ _ _ _ _ _ _ _ _ => rfl) j ws

theorem rnd1_eq (t w : Nat) (s : St1) : (rnd1 t w s).toList = SHA1.round s.toList (t, w) := rfl

theorem sha1_eq : SHA1.digest = sha1 := by
  have block_eq : SHA1.block = fun h blk => compress1 h ((chunks 4 blk).map beNat) := by
    funext h blk
    unfold compress1
    split
    · simp only [SHA1.block, fold2_eq St1.toList rnd1_eq, sched1_eq]
      rfl
    · simp only [SHA1.block, sched1_eq]
      rfl
  funext m
  simp only [SHA1.digest, sha1, block_eq, foldBlocks_eq (by decide : 0 < 4), chunks]

/-! ### KECCAK-p[1600, 24] (FIPS 202 §3): the step mappings of `SHA3` with the 25 lanes written out -/

namespace Keccak

def lane (s x y : Nat) : Nat :=
  Nat.mod (Nat.shiftRight s (Nat.mul 64 (Nat.add (Nat.mod x 5) (Nat.mul 5 (Nat.mod y 5))))) (Nat.pow 2 64)

def put (f : Nat → Nat → Nat) (acc x y : Nat) : Nat :=
  Nat.lor acc (Nat.shiftLeft (f x y) (Nat.mul 64 (Nat.add x (Nat.mul 5 y))))

def row (f : Nat → Nat → Nat) (y acc : Nat) : Nat :=
  put f (put f (put f (put f (put f acc 0 y) 1 y) 2 y) 3 y) 4 y

/-- `SHA3.build`, in the order of `SHA3.positions`. -/
def build (f : Nat → Nat → Nat) : Nat := row f 4 (row f 3 (row f 2 (row f 1 (row f 0 0))))

def column (s x : Nat) : Nat :=
  Nat.xor (Nat.xor (Nat.xor (Nat.xor (lane s x 0) (lane s x 1)) (lane s x 2)) (lane s x 3)) (lane s x 4)

def theta (s : Nat) : Nat :=
  build fun x y => Nat.xor (lane s x y)
    (Nat.xor (column s (Nat.mod (Nat.add x 4) 5)) (rotl 64 (column s (Nat.mod (Nat.add x 1) 5)) 1))

def rho (s : Nat) : Nat :=
  build fun x y => rotl 64 (lane s x y) (SHA3.RHO.getD (Nat.add x (Nat.mul 5 y)) 0)

def pi (s : Nat) : Nat := build fun x y => lane s (Nat.add x (Nat.mul 3 y)) x

def chi (s : Nat) : Nat :=
  build fun x y => Nat.xor (lane s x y)
    (Nat.land (Nat.xor (lane s (Nat.add x 1) y) (Nat.sub (Nat.pow 2 64) 1)) (lane s (Nat.add x 2) y))

def round (s rc : Nat) : Nat := Nat.xor (chi (pi (rho (theta s)))) rc

def sha3 (out : Nat) (m : Bytes) : Bytes :=
  let rate := 200 - 2 * out
  toLE out ((chunks rate (SHA3.pad rate m)).foldl
    (fun s blk => SHA3.RC.foldl round (Nat.xor s (leNat blk))) 0)

/- Both sides unfold to the same 25 lane expressions: `SHA3.build` folds over the closed list
   `SHA3.positions`, after which every coordinate is a numeral. -/
theorem theta_eq : SHA3.theta = theta := rfl
theorem rho_eq : SHA3.rho = rho := rfl
theorem pi_eq : SHA3.pi = pi := rfl
theorem chi_eq : SHA3.chi = chi := rfl

theorem round_eq : SHA3.round = round := by
  funext s rc
  rw [SHA3.round, theta_eq, rho_eq, pi_eq, chi_eq]
  rfl

theorem sha3_eq : SHA3.sha3 = sha3 := by
  have : SHA3.absorb = fun s blk => SHA3.RC.foldl round (Nat.xor s (leNat blk)) := by
    funext s blk
    rw [SHA3.absorb, SHA3.keccakF, round_eq]
    rfl
  funext out m
  rw [SHA3.sha3, this]
  rfl

end Keccak

/-! ### the Rocksoft CRC model, the eight bits of a byte written out -/

def crcBit (w poly reg bit : Nat) : Nat :=
  let r := Nat.mod (Nat.shiftLeft reg 1) (Nat.pow 2 w)
  if Nat.xor (Nat.mod (Nat.shiftRight reg (Nat.sub w 1)) 2) bit = 1 then Nat.xor r poly else r

def crcByte (p : CRC.Params) (reg byte : Nat) : Nat :=
  let b := if p.refin then CRC.reflect 8 byte else byte
  let f (r i : Nat) : Nat := crcBit p.width p.poly r (Nat.mod (Nat.shiftRight b i) 2)
  f (f (f (f (f (f (f (f reg 7) 6) 5) 4) 3) 2) 1) 0

def crc (p : CRC.Params) (m : Bytes) : Nat :=
  let reg := m.foldl (crcByte p) p.init
  Nat.xor (if p.refout then CRC.reflect p.width reg else reg) p.xorout

theorem crc_eq : CRC.crc = crc := rfl

end HashEval
