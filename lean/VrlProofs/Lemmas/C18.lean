/-
  Lemmas behind C18, in two layers. `VList`: an `isize` index against the length of an array
  (`getIdx`, `insertIdx`, `insertIdxPrev`), by the sign of the index. `Value`: one segment of
  `crud::get` / `crud::insert` (`child`, `put`), the frame law at the segment where two paths part,
  and what a sorted location hands down (`optSorted`).
-/
import VrlModel.C18
import VrlProofs.Lemmas.Sorted

namespace VList

/-! The index is given as a natural number (`i = n`, counted from the front) or as a negated positive
    one (`i = -k`, counted from the back, in range down to `-length`). -/

theorem int_cases (i : Int) : (∃ n : Nat, i = n) ∨ (∃ k : Nat, 0 < k ∧ i = -(k : Int)) := by
  by_cases h : 0 ≤ i
  · exact .inl (Int.eq_ofNat_of_zero_le h)
  · obtain ⟨k, rfl⟩ := Int.exists_eq_neg_ofNat (Int.le_of_lt (Int.not_le.1 h))
    exact .inr ⟨k, Nat.pos_of_ne_zero fun e => h (by subst e; decide), rfl⟩

theorem neg_not_nonneg {k : Nat} (hk : 0 < k) : ¬ -(k : Int) ≥ 0 := by omega

theorem toNat_add_neg {len k : Nat} (h : k ≤ len) : ((len : Int) + -(k : Int)).toNat = len - k := by
  rw [← Int.sub_eq_add_neg, ← Int.ofNat_sub h, Int.toNat_natCast]

theorem getIdx_nil (i : Int) : VList.nil.getIdx i = none := by
  unfold getIdx
  cases VList.nil.arrayIndex i <;> rfl

theorem arrayIndex_ofNat (a : VList) (n : Nat) : a.arrayIndex (n : Int) = some n := by
  simp [arrayIndex]

theorem arrayIndex_neg_in (a : VList) (k : Nat) (hk : 0 < k) (hle : k ≤ a.length) :
    a.arrayIndex (-(k : Int)) = some (a.length - k) := by
  unfold arrayIndex
  have h0 : (a.length : Int) + -(k : Int) ≥ 0 := Int.sub_nonneg_of_le (Int.ofNat_le.2 hle)
  rw [if_neg (neg_not_nonneg hk), if_pos h0, toNat_add_neg hle]

theorem arrayIndex_neg_out (a : VList) (k : Nat) (hgt : a.length < k) :
    a.arrayIndex (-(k : Int)) = none := by
  unfold arrayIndex
  rw [if_neg (neg_not_nonneg (Nat.zero_lt_of_lt hgt)), if_neg (by omega)]

theorem getIdx_ofNat (a : VList) (n : Nat) : a.getIdx (n : Int) = a.getN n := by
  rw [getIdx, arrayIndex_ofNat]

theorem getIdx_neg_in (a : VList) (k : Nat) (hk : 0 < k) (hle : k ≤ a.length) :
    a.getIdx (-(k : Int)) = a.getN (a.length - k) := by
  rw [getIdx, arrayIndex_neg_in a k hk hle]

theorem getIdx_neg_out (a : VList) (k : Nat) (hgt : a.length < k) :
    a.getIdx (-(k : Int)) = none := by
  rw [getIdx, arrayIndex_neg_out a k hgt]

theorem insertIdx_ofNat_ge (a : VList) (n : Nat) (x : Value) (h : a.length ≤ n) :
    a.insertIdx (n : Int) x = (a.append (nulls (n - a.length))).append (.cons x .nil) := by
  simp [insertIdx, h]

theorem insertIdx_ofNat_lt (a : VList) (n : Nat) (x : Value) (h : n < a.length) :
    a.insertIdx (n : Int) x = a.setN n x := by
  simp [insertIdx, Nat.not_le.2 h]

theorem length_insertIdx_ofNat (a : VList) (n : Nat) (y : Value) :
    (a.insertIdx (n : Int) y).length = max a.length (n + 1) := by
  by_cases h : a.length ≤ n
  · rw [insertIdx_ofNat_ge a n y h, length_append, length_append, length_nulls, Nat.add_sub_cancel' h,
      Nat.max_eq_right (Nat.le_succ_of_le h)]
    rfl
  · rw [insertIdx_ofNat_lt a n y (Nat.lt_of_not_le h), length_setN, Nat.max_eq_left (Nat.lt_of_not_le h)]

theorem getN_insertIdx_ofNat (a : VList) (n : Nat) (y : Value) (j : Nat) :
    (a.insertIdx (n : Int) y).getN j =
      if j = n then some y else if j < a.length then a.getN j
      else if j < n then some .null else none := by
  by_cases h : a.length ≤ n
  · have hl : (a.append (nulls (n - a.length))).length = n := by
      rw [length_append, length_nulls, Nat.add_sub_cancel' h]
    rw [insertIdx_ofNat_ge a n y h, getN_append, hl, getN_append]
    by_cases hjn : j < n
    · rw [if_pos hjn, if_neg (Nat.ne_of_lt hjn), if_pos hjn]
      split
      · rfl
      · next hja => exact getN_nulls _ _ (Nat.sub_lt_sub_right (Nat.le_of_not_lt hja) hjn)
    · rw [if_neg hjn, if_neg hjn, if_neg (by omega : ¬ j < a.length)]
      by_cases e : j = n
      · rw [if_pos e, e, Nat.sub_self]; rfl
      · rw [if_neg e]
        exact getN_none_of_le _ _ (show 1 ≤ j - n by omega)
  · have h := Nat.lt_of_not_le h
    rw [insertIdx_ofNat_lt a n y h]
    by_cases e : j = n
    · rw [if_pos e, e]; exact getN_setN_same a n y h
    · rw [if_neg e, getN_setN_other a n j y (Ne.symm e)]
      split
      · rfl
      · next hja =>
        rw [if_neg fun hj => hja (Nat.lt_trans hj h)]
        exact getN_none_of_le a j (Nat.le_of_not_lt hja)

theorem insertIdx_neg_gt (a : VList) (k : Nat) (x : Value) (hk : 0 < k) (h : a.length < k) :
    a.insertIdx (-(k : Int)) x = .cons x ((nulls (k - 1 - a.length)).append a) := by
  unfold insertIdx
  rw [if_neg (neg_not_nonneg hk), Int.neg_neg, Int.toNat_natCast, if_pos h]

theorem insertIdx_neg_le (a : VList) (k : Nat) (x : Value) (hk : 0 < k) (h : k ≤ a.length) :
    a.insertIdx (-(k : Int)) x = a.setN (a.length - k) x := by
  unfold insertIdx
  rw [if_neg (neg_not_nonneg hk), Int.neg_neg, Int.toNat_natCast, if_neg (Nat.not_lt.2 h),
    toNat_add_neg h]

/-- `insert_value` hands back what `get_value` finds (both `none` outside the array). -/
theorem insertIdxPrev_eq_getIdx (a : VList) (i : Int) : a.insertIdxPrev i = a.getIdx i := by
  unfold insertIdxPrev
  rcases int_cases i with ⟨n, rfl⟩ | ⟨k, hk, rfl⟩
  · rw [getIdx_ofNat, if_pos (Int.natCast_nonneg n), Int.toNat_natCast]
    split
    · exact (getN_none_of_le a n ‹_›).symm
    · rfl
  · rw [if_neg (neg_not_nonneg hk), Int.neg_neg, Int.toNat_natCast]
    split
    · exact (getIdx_neg_out a k ‹_›).symm
    · next h => rw [getIdx_neg_in a k hk (Nat.le_of_not_lt h), toNat_add_neg (Nat.le_of_not_lt h)]

theorem getIdx_insertIdx_same (a : VList) (i : Int) (y : Value) :
    (a.insertIdx i y).getIdx i = some y := by
  rcases int_cases i with ⟨n, rfl⟩ | ⟨k, hk, rfl⟩
  · rw [getIdx_ofNat, getN_insertIdx_ofNat, if_pos rfl]
  · by_cases h : a.length < k
    · have hl : (VList.cons y ((nulls (k - 1 - a.length)).append a)).length = k := by
        rw [length_cons, length_append, length_nulls]; omega
      rw [insertIdx_neg_gt a k y hk h, getIdx_neg_in _ k hk (Nat.le_of_eq hl.symm), hl, Nat.sub_self]
      rfl
    · have hle := Nat.le_of_not_lt h
      rw [insertIdx_neg_le a k y hk hle,
        getIdx_neg_in _ k hk (by rw [length_setN]; exact hle), length_setN]
      exact getN_setN_same a _ y (Nat.sub_lt (Nat.lt_of_lt_of_le hk hle) hk)

/-- negative indices count from the back. -/
theorem getIdx_neg_append (b a : VList) (j : Nat) (hj : 0 < j) (hjl : j ≤ a.length) :
    (b.append a).getIdx (-(j : Int)) = a.getIdx (-(j : Int)) := by
  rw [getIdx_neg_in _ j hj (by rw [length_append]; exact Nat.le_trans hjl (Nat.le_add_left _ _)),
    getIdx_neg_in a j hj hjl,
    getN_append_right _ _ _ (by
      rw [length_append]; exact Nat.le_sub_of_add_le (Nat.add_le_add_left hjl _))]
  congr 1
  rw [length_append]
  omega

theorem getIdx_insertIdx_other (a : VList) (i j : Int) (y : Value)
    (hok : C18.idxOK a.length i = true) (hne : i ≠ j) (hs : (decide (0 ≤ i)) = (decide (0 ≤ j))) :
    (a.insertIdx i y).getIdx j = a.getIdx j := by
  simp only [C18.idxOK, Bool.or_eq_true, Bool.and_eq_true, decide_eq_true_eq] at hok
  rw [decide_eq_decide] at hs
  rcases int_cases i with ⟨n, rfl⟩ | ⟨k, hk, rfl⟩
  · obtain ⟨m, rfl⟩ := Int.eq_ofNat_of_zero_le (hs.1 (Int.natCast_nonneg n))
    -- `n ≤ a.length`: there is no gap, so a position other than `n` holds what it held
    rw [getIdx_ofNat, getIdx_ofNat, getN_insertIdx_ofNat, if_neg fun e => hne (congrArg _ e.symm)]
    split
    · rfl
    · next hm =>
      have hn : n ≤ a.length := by omega
      rw [if_neg fun h => hm (Nat.lt_of_lt_of_le h hn)]
      exact (getN_none_of_le a m (Nat.le_of_not_lt hm)).symm
  · rcases int_cases j with ⟨m, rfl⟩ | ⟨l, hl, rfl⟩
    · exact absurd (hs.2 (Int.natCast_nonneg m)) (neg_not_nonneg hk)
    by_cases h : k ≤ a.length
    · rw [insertIdx_neg_le a k y hk h]
      by_cases hin : l ≤ a.length
      · rw [getIdx_neg_in _ l hl (by rw [length_setN]; exact hin), getIdx_neg_in a l hl hin,
          length_setN]
        exact getN_setN_other a _ _ y (by omega)
      · rw [getIdx_neg_out a l (Nat.lt_of_not_le hin)]
        exact getIdx_neg_out _ l (by rw [length_setN]; exact Nat.lt_of_not_le hin)
    · -- `k = a.length + 1`: `y` is prepended
      rw [insertIdx_neg_gt a k y hk (Nat.lt_of_not_le h)]
      by_cases hin : l ≤ a.length
      · exact getIdx_neg_append (.cons y _) a l hl hin
      · rw [getIdx_neg_out a l (Nat.lt_of_not_le hin)]
        exact getIdx_neg_out _ l (by rw [length_cons, length_append, length_nulls]; omega)

end VList

theorem C18.getOpt_none (q : Path) : Value.getOpt none q = none := by
  cases q with
  | nil => rfl
  | cons s _ => cases s <;> rfl

namespace Value

/-! One segment of `crud::get` and of `crud::insert`: `child c s` is what the segment reads from the
    location `c`, `put c s y` what the location holds once `y` has been written below `s`. The
    get-after-insert, frame and sortedness laws for whole paths are inductions over `getOpt_cons` /
    `insertOpt_cons` that never look at the kind of segment (`crud::remove` is not put in this form:
    its laws follow the branches of `removeOpt`). -/

def child : Option Value → Seg → Option Value
  | c, .field f => (asMap c).get f
  | c, .index i => (asList c).getIdx i

/-- the container is coerced to the kind the segment expects. -/
def put : Option Value → Seg → Value → Value
  | c, .field f, y => .obj ((asMap c).insert f y)
  | c, .index i, y => .arr ((asList c).insertIdx i y)

theorem getOpt_cons (c : Option Value) (s : Seg) (q : Path) :
    getOpt c (s :: q) = getOpt (child c s) q := by
  cases s with
  | field f =>
    cases c with
    | none => exact (C18.getOpt_none q).symm
    | some v =>
      cases v with
      | obj m => rfl
      | _ => exact (C18.getOpt_none q).symm
  | index i =>
    have hnil : none = getOpt (VList.nil.getIdx i) q := by rw [VList.getIdx_nil, C18.getOpt_none]
    cases c with
    | none => exact hnil
    | some v =>
      cases v with
      | arr a => rfl
      | _ => exact hnil

theorem getOpt_append (p : Path) : ∀ (c : Option Value) (q : Path),
    getOpt c (p ++ q) = getOpt (getOpt c p) q := by
  induction p with
  | nil => intro c q; rfl
  | cons t rest ih => intro c q; rw [List.cons_append, getOpt_cons, getOpt_cons]; exact ih _ q

theorem insertOpt_cons (c : Option Value) (s : Seg) (rest : Path) (x : Value) :
    insertOpt c (s :: rest) x = put c s (insertOpt (child c s) rest x) := by
  cases s <;> rfl

theorem insert_ok {v : Value} {p : Path} {x v' : Value} {prev : Option Value}
    (h : v.insert p x = .ok (v', prev)) :
    v' = insertOpt (some v) p x ∧ prev = insertPrev (some v) p := by
  unfold Value.insert at h
  split at h
  · cases h
  · cases h; exact ⟨rfl, rfl⟩

theorem child_put_same (c : Option Value) (s : Seg) (y : Value) :
    child (some (put c s y)) s = some y := by
  cases s with
  | field f => exact VMap.get_insert_same _ f y
  | index i => exact VList.getIdx_insertIdx_same _ i y

/-- writing below `s` at the location `c` leaves the child `t ≠ s` alone: two fields always; a field
    and an index when `c` was not already the other kind of container (else the write replaces it);
    two indices when they have the same sign and `s` neither pads nor shifts. -/
def stepOK (c : Option Value) : Seg → Seg → Bool
  | .field _, .field _ => true
  | .field _, .index _ => decide (asList c = .nil)
  | .index _, .field _ => decide (asMap c = .nil)
  | .index i, .index j => C18.idxOK (asList c).length i && (decide (0 ≤ i) == decide (0 ≤ j))

theorem child_put_other (c : Option Value) {s t : Seg} (y : Value) (hne : s ≠ t)
    (hok : stepOK c s t = true) : child (some (put c s y)) t = child c t := by
  cases s with
  | field f =>
    cases t with
    | field g => exact VMap.get_insert_other _ f g y (fun e => hne (congrArg _ e))
    | index j =>
      show VList.nil.getIdx j = (asList c).getIdx j
      rw [of_decide_eq_true hok]
  | index i =>
    cases t with
    | field g =>
      show VMap.nil.get g = (asMap c).get g
      rw [of_decide_eq_true hok]
    | index j =>
      have ⟨h1, h2⟩ := Bool.and_eq_true_iff.mp hok
      exact VList.getIdx_insertIdx_other _ i j y h1 (fun e => hne (congrArg _ e)) (eq_of_beq h2)

/-- the frame condition where it matters: at the segment where `q` leaves `p`. -/
def divergeOK : Option Value → Path → Path → Bool
  | c, s :: p, t :: q => if s = t then divergeOK (child c s) p q else stepOK c s t
  | _, _, _ => false

/-- the frame law: only the step where `q` leaves the path of the insert matters. -/
theorem getOpt_insertOpt_of_divergeOK (p : Path) : ∀ (c : Option Value) (q : Path) (x : Value),
    divergeOK c p q = true → getOpt (some (insertOpt c p x)) q = getOpt c q := by
  induction p with
  | nil => intro c q x h; cases h
  | cons s rest ih =>
    intro c q x h
    cases q with
    | nil => cases h
    | cons t q' =>
      rw [insertOpt_cons, getOpt_cons, getOpt_cons c]
      unfold divergeOK at h
      split at h
      · next he => cases he; rw [child_put_same]; exact ih _ q' x h
      · next hne => rw [child_put_other c _ hne h]

def optSorted : Option Value → Bool
  | some v => v.Sorted
  | none => true

theorem asMap_sorted {c : Option Value} (h : optSorted c = true) : (asMap c).Sorted = true := by
  cases c with
  | none => rfl
  | some v =>
    cases v with
    | obj m => exact h
    | _ => rfl

theorem asList_sorted {c : Option Value} (h : optSorted c = true) : (asList c).Sorted = true := by
  cases c with
  | none => rfl
  | some v =>
    cases v with
    | arr a => exact h
    | _ => rfl

theorem child_sorted {c : Option Value} (s : Seg) (h : optSorted c = true) :
    optSorted (child c s) = true := by
  cases s with
  | field f =>
    show optSorted ((asMap c).get f) = true
    cases hg : (asMap c).get f with
    | none => rfl
    | some v => exact VMap.sorted_get _ f v (asMap_sorted h) hg
  | index i =>
    show optSorted ((asList c).getIdx i) = true
    cases hg : (asList c).getIdx i with
    | none => rfl
    | some v => exact VList.sorted_getIdx _ i v (asList_sorted h) hg

theorem put_sorted {c : Option Value} (s : Seg) {y : Value} (h : optSorted c = true)
    (hy : y.Sorted = true) : (put c s y).Sorted = true := by
  cases s with
  | field f => exact VMap.sorted_insert _ f y (asMap_sorted h) hy
  | index i => exact VList.sorted_insertIdx _ i y (asList_sorted h) hy

end Value

namespace C18
open Value

theorem frameOK_cons {c : Option Value} {s : Seg} {rest : Path} (h : frameOK c (s :: rest) = true) :
    (∀ t, noAlias s t = true → stepOK c s t = true) ∧ frameOK (child c s) rest = true := by
  cases s with
  | field f =>
    have hc : asList c = .nil ∧ frameOK ((asMap c).get f) rest = true := by
      cases c with
      | none => exact ⟨rfl, h⟩
      | some v =>
        cases v with
        | arr a => cases h
        | _ => exact ⟨rfl, h⟩
    refine ⟨fun t _ => ?_, hc.2⟩
    cases t with
    | field g => rfl
    | index j => exact decide_eq_true hc.1
  | index i =>
    have hnil : (idxOK 0 i && frameOK none rest) = true →
        (idxOK VList.nil.length i && frameOK (VList.nil.getIdx i) rest) = true := fun h => by
      rw [VList.getIdx_nil]; exact h
    have hc : asMap c = .nil ∧
        (idxOK (asList c).length i && frameOK ((asList c).getIdx i) rest) = true := by
      cases c with
      | none => exact ⟨rfl, hnil h⟩
      | some v =>
        cases v with
        | arr a => exact ⟨rfl, h⟩
        | obj m => cases h
        | _ => exact ⟨rfl, hnil h⟩
    have ⟨h1, h2⟩ := Bool.and_eq_true_iff.mp hc.2
    refine ⟨fun t ht => ?_, h2⟩
    cases t with
    | field g => exact decide_eq_true hc.1
    | index j => exact Bool.and_eq_true_iff.mpr ⟨h1, ht⟩

theorem divergeOK_of_frameOK (p : Path) : ∀ (c : Option Value) (q : Path),
    diverge p q = true → frameOK c p = true → divergeOK c p q = true := by
  induction p with
  | nil => intro c q hd; cases hd
  | cons s rest ih =>
    intro c q hd hok
    cases q with
    | nil => cases hd
    | cons t q' =>
      have ⟨h1, h2⟩ := frameOK_cons hok
      unfold diverge at hd
      unfold divergeOK
      split at hd
      · next he => rw [if_pos he]; exact ih _ q' hd h2
      · next hne => rw [if_neg hne]; exact h1 t hd

end C18
