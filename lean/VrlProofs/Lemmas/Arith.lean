import VrlModel.Arith
import VrlModel.C10
import VrlModel.C11
import VrlProofs.Lemmas.F64

/-! Lemmas about the value arithmetic (`Arith`) behind the C10/C11 property theorems: the conversions
    and `float_result`; `veq` as structural equality; the shape of an arithmetic result. -/

namespace Arith

theorem inI64_iff (x : Int) :
    inI64 x = true ↔ (-9223372036854775808 ≤ x ∧ x ≤ 9223372036854775807) := by
  rw [inI64, Bool.and_eq_true, decide_eq_true_eq, decide_eq_true_eq]
  rfl

theorem inI64_natAbs (x : Int) (h : inI64 x = true) : x.natAbs < F64.p64 := by
  rw [inI64_iff] at h; unfold F64.p64; omega

/-- `Int.tmod` is `i64::wrapping_rem` -/
theorem tmod_bounds (a b : Int) (hb : b ≠ 0) :
    (Int.tmod a b).natAbs < b.natAbs ∧ (0 ≤ a → 0 ≤ Int.tmod a b) ∧ (a ≤ 0 → Int.tmod a b ≤ 0) := by
  have h1 : (Int.tmod a b).natAbs < b.natAbs := by
    rw [Int.natAbs_tmod]
    exact Nat.mod_lt _ (Int.natAbs_pos.2 hb)
  have h2 : 0 ≤ a → 0 ≤ Int.tmod a b := Int.tmod_nonneg b
  have h3 : a ≤ 0 → Int.tmod a b ≤ 0 := fun h => by
    have := Int.tmod_nonneg (a := -a) b (by omega)
    rw [Int.neg_tmod] at this
    omega
  exact ⟨h1, h2, h3⟩

theorem concatN_eq (b : List Nat) (k : Nat) : concatN b k = (List.replicate k b).flatten := by
  induction k with
  | zero => rfl
  | succ n ih => simp [concatN, List.replicate_succ, ih]

theorem floatResult_cases (o : Option Nat) :
    floatResult o = .err .nanFloat ∨
      ∃ r, o = some r ∧ F64.isNaN r = false ∧ floatResult o = .ok (.float r) := by
  unfold floatResult
  split
  · exact .inl rfl
  · split
    · exact .inl rfl
    · exact .inr ⟨_, rfl, eq_false_of_ne_true ‹_›, rfl⟩

theorem floatResult_eq_ok {o : Option Nat} {v : Value} (h : floatResult o = .ok v) :
    ∃ r, o = some r ∧ F64.isNaN r = false ∧ v = .float r := by
  obtain e | ⟨r, ho, hr, e⟩ := floatResult_cases o <;> rw [e] at h <;> cases h
  exact ⟨r, ho, hr, rfl⟩

theorem floatResult_eq_err {o : Option Nat} {e : Err} (h : floatResult o = .err e) : e = .nanFloat := by
  obtain e | ⟨_, _, _, e⟩ := floatResult_cases o <;> rw [e] at h <;> cases h
  rfl

theorem floatResult_some (r : Nat) (h : F64.isNaN r = false) : floatResult (some r) = .ok (.float r) := by
  simp [floatResult, h]

end Arith

namespace C10
open Arith

theorem lt_of_floatsOK {x : Nat} (h : floatsOK (.float x) = true) : x < F64.p64 :=
  of_decide_eq_true (Bool.and_eq_true_iff.1 h).1

theorem notNaN_of_floatsOK {x : Nat} (h : floatsOK (.float x) = true) : F64.isNaN x = false := by
  simpa using (Bool.and_eq_true_iff.1 h).2

theorem norm_float_eq (x y : Nat) (hx : floatsOK (.float x) = true) (hy : floatsOK (.float y) = true) :
    F64.eq x y = true ↔ norm (.float x) = norm (.float y) := by
  rw [F64.eq_true_iff x y (notNaN_of_floatsOK hx) (notNaN_of_floatsOK hy) (lt_of_floatsOK hx) (lt_of_floatsOK hy)]
  simp only [norm]
  cases h1 : F64.isZero x <;> cases h2 : F64.isZero y <;> simp
  -- left: exactly one of the two is a zero; they are neither equal nor both normalised to `0`
  · constructor
    · intro h; subst h; simp [h1] at h2
    · intro h; subst h; simp [F64.isZero, F64.mag] at h1
  · constructor
    · intro h; subst h; simp [h1] at h2
    · intro h; subst h; simp [F64.isZero, F64.mag] at h2

theorem veq_ctor (a b : Value) (h : veq a b = true) : a.ctorIdx = b.ctorIdx := by
  revert h
  fun_cases veq a b <;> first | exact fun _ => rfl | exact nofun

theorem norm_ctor (a : Value) : (norm a).ctorIdx = a.ctorIdx := by
  cases a <;> first | rfl | (unfold norm; split <;> rfl)

theorem veq_iff_off (a b : Value) (h : (a.ctorIdx == b.ctorIdx) = false) :
    veq a b = true ↔ norm a = norm b :=
  iff_of_false (fun e => ne_of_beq_false h (veq_ctor a b e))
    (fun e => ne_of_beq_false h (by rw [← norm_ctor a, ← norm_ctor b, e]))

mutual
  theorem veq_iff : (a b : Value) → floatsOK a = true → floatsOK b = true →
      (veq a b = true ↔ norm a = norm b)
    | .null, b, _, _ | .bool _, b, _, _ | .int _, b, _, _ | .bytes _, b, _, _ | .ts _, b, _, _
    | .regex _, b, _, _ => by
      cases b <;> first | exact veq_iff_off _ _ rfl | simp [veq, norm]
    | .float x, b, ha, hb => by
      cases b
      case float y =>
        exact norm_float_eq x y ha hb
      all_goals exact veq_iff_off _ _ rfl
    | .arr xs, b, ha, hb => by
      cases b
      case arr ys =>
        simp only [veq, norm, Value.arr.injEq]
        exact veqList_iff xs ys ha hb
      all_goals exact veq_iff_off _ _ rfl
    | .obj m, b, ha, hb => by
      cases b
      case obj n =>
        simp only [veq, norm, Value.obj.injEq]
        exact veqMap_iff m n ha hb
      all_goals exact veq_iff_off _ _ rfl
  theorem veqList_iff : (a b : VList) → floatsOKList a = true → floatsOKList b = true →
      (veqList a b = true ↔ normList a = normList b)
    | .nil, .nil, _, _ => by simp [veqList, normList]
    | .nil, .cons _ _, _, _ => by simp [veqList, normList]
    | .cons _ _, .nil, _, _ => by simp [veqList, normList]
    | .cons x xs, .cons y ys, ha, hb => by
      simp only [floatsOKList, Bool.and_eq_true] at ha hb
      simp only [veqList, normList, Bool.and_eq_true, VList.cons.injEq]
      rw [veq_iff x y ha.1 hb.1, veqList_iff xs ys ha.2 hb.2]
  theorem veqMap_iff : (a b : VMap) → floatsOKMap a = true → floatsOKMap b = true →
      (veqMap a b = true ↔ normMap a = normMap b)
    | .nil, .nil, _, _ => by simp [veqMap, normMap]
    | .nil, .cons _ _ _, _, _ => by simp [veqMap, normMap]
    | .cons _ _ _, .nil, _, _ => by simp [veqMap, normMap]
    | .cons k x xs, .cons l y ys, ha, hb => by
      simp only [floatsOKMap, Bool.and_eq_true] at ha hb
      simp only [veqMap, normMap, Bool.and_eq_true, VMap.cons.injEq, beq_iff_eq]
      rw [veq_iff x y ha.1 hb.1, veqMap_iff xs ys ha.2 hb.2]
      exact and_assoc
end

end C10

namespace C11
open Arith

theorem repeatBytes_spec (s : List Nat) (n : Int) :
    repeatBytes s n = if D_capacity s n then .panic else .ok (.bytes (replicateBytes s n)) := by
  unfold repeatBytes D_capacity replicateBytes i64Max
  by_cases hn : n < 0
  · have hm : max n 0 = 0 := by omega
    simp [hn, hm]
  · have hm : max n 0 = (n.toNat : Int) := by omega
    simp only [hn, if_false, hm, Int.toNat_natCast]
    by_cases hk : n.toNat = 0
    · simp [hk]
    · by_cases hs : s.isEmpty = true
      · have : s = [] := by simpa using hs
        subst this; simp
      · simp only [hk, hs, decide_false, Bool.or_self, Bool.false_eq_true, if_false, Int.natCast_mul,
          decide_eq_true_eq, concatN_eq]

/-- What an arithmetic operator can answer: a float that is not NaN, an integer (not `/`), a string (only
    `+` and `*`), an error, or — only for a repetition in the class `D_capacity` — the panic of
    `[u8]::repeat`. -/
inductive Shape (op : Op5) (a b : Value) : Res Value → Prop
  | float (r : Nat) : F64.isNaN r = false → Shape op a b (.ok (.float r))
  | int (i : Int) : op ≠ .div → Shape op a b (.ok (.int i))
  | bytes (s : List Nat) : op = .add ∨ op = .mul → Shape op a b (.ok (.bytes s))
  | err (e : Err) : Shape op a b (.err e)
  | panic : op = .mul → D_capacityV a b = true → Shape op a b .panic

theorem floatResult_shape (op : Op5) (a b : Value) (o : Option Nat) : Shape op a b (floatResult o) := by
  obtain e | ⟨r, _, hr, e⟩ := floatResult_cases o <;> rw [e]
  · exact .err _
  · exact .float r hr

/-- a repetition `n * s` or `s * n`: `h` holds by `rfl` for either order of the operands -/
theorem repeat_shape (s : List Nat) (n : Int) (a b : Value) (h : D_capacityV a b = D_capacity s n) :
    Shape .mul a b (repeatBytes s n) := by
  rw [repeatBytes_spec]
  split
  · exact .panic rfl (h.trans ‹_›)
  · exact .bytes _ (.inr rfl)

theorem div_float_or_err (a b : Value) :
    (∃ o, tryDiv a b = floatResult o) ∨ ∃ e, tryDiv a b = .err e := by
  fun_cases tryDiv a b <;> first | exact .inl ⟨_, rfl⟩ | exact .inr ⟨_, rfl⟩

theorem model_shape (op : Op5) (a b : Value) : Shape op a b (model op a b) := by
  cases op
  · show Shape _ _ _ (tryAdd a b)
    fun_cases tryAdd a b
    · exact .int _ nofun             -- int + int
    · exact floatResult_shape ..     -- int + float
    · exact floatResult_shape ..     -- float + int
    · exact floatResult_shape ..     -- float + float
    · exact .bytes _ (.inl rfl)      -- bytes + null
    · exact .bytes _ (.inl rfl)      -- bytes + bytes
    · exact .bytes _ (.inl rfl)      -- null + bytes
    · exact .err _                   -- any other pair: `Add`
  · show Shape _ _ _ (trySub a b)
    fun_cases trySub a b
    · exact .int _ nofun             -- int - int
    · exact floatResult_shape ..     -- int - float
    · exact floatResult_shape ..     -- float - int
    · exact floatResult_shape ..     -- float - float
    · exact .err _                   -- any other pair: `Sub`
  · show Shape _ _ _ (tryMul a b)
    fun_cases tryMul a b
    · exact repeat_shape _ _ _ _ rfl -- int * bytes
    · exact floatResult_shape ..     -- int * float
    · exact .int _ nofun             -- int * int
    · exact floatResult_shape ..     -- float * int
    · exact floatResult_shape ..     -- float * float
    · exact repeat_shape _ _ _ _ rfl -- bytes * int
    · exact .err _                   -- any other pair: `Mul`
  · show Shape _ _ _ (tryDiv a b)
    obtain ⟨o, e⟩ | ⟨_, e⟩ := div_float_or_err a b <;> rw [e]
    · exact floatResult_shape ..
    · exact .err _
  · show Shape _ _ _ (tryRem a b)
    fun_cases tryRem a b
    · exact .err _                   -- integer divisor 0: `DivideByZero`
    · exact .int _ nofun             -- int mod int
    · exact floatResult_shape ..     -- float mod int
    · exact .err _                   -- any other dividend: `Rem`
    · exact .err _                   -- float divisor ±0.0: `DivideByZero`
    · exact floatResult_shape ..     -- int mod float
    · exact floatResult_shape ..     -- float mod float
    · exact .err _                   -- any other dividend: `Rem`
    · exact .err _                   -- any other divisor: `Rem`

theorem ok_shape (op : Op5) (a b x : Value) (h : model op a b = .ok x) :
    (∃ i, x = .int i) ∨ (∃ r, x = .float r) ∨ ∃ s, x = .bytes s ∧ (op = .add ∨ op = .mul) := by
  cases h ▸ model_shape op a b with
  | float r _ => exact .inr (.inl ⟨r, rfl⟩)
  | int i _ => exact .inl ⟨i, rfl⟩
  | bytes s hs => exact .inr (.inr ⟨s, rfl, hs⟩)

end C11
