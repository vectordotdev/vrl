/-
  flatten / unflatten (C25): whatever `do_unflatten_entries` returns on a permutation of what
  `flatten` yields for an object is that object; induction on the depth bound. That it returns is
  `unflattenEntries_isSome`.
-/
import VrlProofs.Lemmas.C25Flat

namespace Conv.Flat
open C25

theorem mem_dedup : (l : List Key) → (a : Key) → (a ∈ dedup l ↔ a ∈ l)
  | [], _ => by simp [dedup]
  | b :: l, a => by
    simp only [dedup]
    split
    · rename_i hc
      rw [mem_dedup l a]
      simp only [List.contains_iff_mem] at hc
      constructor
      · intro h; exact List.mem_cons_of_mem _ h
      · intro h
        rcases List.mem_cons.mp h with h | h
        · subst h; exact hc
        · exact h
    · simp only [List.mem_cons, mem_dedup l a]

theorem nodup_dedup : (l : List Key) → (dedup l).Nodup
  | [] => by simp [dedup]
  | b :: l => by
    simp only [dedup]
    split
    · exact nodup_dedup l
    · rename_i hc
      simp only [List.contains_iff_mem] at hc
      simp only [List.nodup_cons]
      exact ⟨fun h => hc ((mem_dedup l b).mp h), nodup_dedup l⟩

theorem mapM_eq_map {α β : Type} (f : α → Option β) (g : α → β) : (l : List α) → (L : List β) →
    (∀ x ∈ l, ∀ y, f x = some y → y = g x) → l.mapM f = some L → L = l.map g
  | [], L, _, h => by cases h; rfl
  | a :: l, L, hf, h => by
    simp only [List.mapM_cons, Option.bind_eq_bind, Option.bind_eq_some_iff, Option.pure_def,
      Option.some.injEq] at h
    obtain ⟨y, hy, ys, hys, rfl⟩ := h
    rw [hf a (by simp) y hy, mapM_eq_map f g l ys (fun x hx => hf x (by simp [hx])) hys]
    rfl

theorem leafWith_leaf (recur : Entries → Option VMap) (r : Bool) (v : Value) (hv : isObj v = false) :
    leafWith recur r v = some v := by
  cases r <;> cases v <;> simp_all [leafWith, isObj]

theorem groupValueWith_many (recur : Entries → Option VMap) (sep : Key) (r : Bool) :
    ∀ grp : List Triple, 2 ≤ grp.length →
      groupValueWith recur sep r grp = (recur (grp.filterMap φ)).map .obj
  | [], h => by simp at h
  | [_], h => by simp at h
  | _ :: _ :: _, _ => by simp only [groupValueWith]; rfl

theorem filterMap_phi_rest (h : Key) (l : Entries) :
    (l.map fun e => ((h, some e.1, e.2) : Triple)).filterMap φ = l := by
  induction l with
  | nil => rfl
  | cons a l ih => simp [φ, ih]

/-- whatever `recur` returns on the entries of a nested object is that object -/
abbrev Sound (sep : Key) (recur : Entries → Option VMap) : Prop :=
  ∀ m' es' M, flatOKM sep m' = true → es'.Perm (F sep m') → recur es' = some M → M = m'

/-- the group of a nested object `m'` (its flattened entries, under the head `h`) rebuilds `m'`:
    a single entry by `do_unflatten_entry`, several by unflattening the rests again -/
theorem groupValue_obj (sep : Key) (hne : sep ≠ []) (r : Bool) (recur : Entries → Option VMap)
    (hrec : Sound sep recur) (h : Key) (m' : VMap) (hm'ne : m'.isEmpty = false)
    (hm'ok : flatOKM sep m' = true) (grp : List Triple)
    (hT : grp.Perm ((F sep m').map fun e => (h, some e.1, e.2))) (V : Value)
    (hV : groupValueWith recur sep r grp = some V) : V = .obj m' := by
  have hFne := F_ne_nil sep m' hm'ne hm'ok
  cases hF : F sep m' with
  | nil => exact absurd hF hFne
  | cons e l =>
    cases l with
    | nil =>
      rw [hF] at hT
      rw [List.perm_singleton.mp hT] at hV
      simp only [groupValueWith, leafWith_leaf recur r e.2 (F_leaf sep m' e (by simp [hF])),
        Option.map_some, chain_map sep hne m' hm'ok e hF, Option.some.injEq] at hV
      exact hV.symm
    | cons e2 l =>
      have hperm : (grp.filterMap φ).Perm (F sep m') := by
        have := hT.filterMap φ
        rwa [filterMap_phi_rest] at this
      rw [groupValueWith_many recur sep r grp (by rw [hT.length_eq, hF]; simp)] at hV
      obtain ⟨M, hM, rfl⟩ := Option.map_eq_some_iff.mp hV
      rw [hrec m' _ M hm'ok hperm hM]

theorem groupValue_sound (sep : Key) (hne : sep ≠ []) (r : Bool) (recur : Entries → Option VMap)
    (hrec : Sound sep recur) (m : VMap) (es : Entries) (hok : flatOKM sep m = true)
    (hp : es.Perm (F sep m)) (h : Key) (v : Value) (hv : m.get h = some v) (V : Value)
    (hV : groupValueWith recur sep r ((triplesOf sep es).filter fun t => t.1 == h) = some V) :
    V = v := by
  obtain ⟨hvok, hk⟩ := get_flatOK sep m h v hok hv
  have hT : ((triplesOf sep es).filter fun t => t.1 == h).Perm
      (triplesOf sep (fieldEntries sep h v)) := by
    have h1 : (triplesOf sep es).Perm (triplesOf sep (F sep m)) := hp.map _
    have h2 := h1.filter (fun t => t.1 == h)
    rwa [filter_head sep hne m hok h, hv] at h2
  by_cases hobj : isObj v = false
  · rw [triplesOf_field_leaf sep h v hne hk hobj] at hT
    rw [List.perm_singleton.mp hT] at hV
    simp only [groupValueWith, leafWith_leaf recur r v hobj, Option.some.injEq] at hV
    exact hV.symm
  · cases v with
    | obj m' =>
      simp only [flatOKV, Bool.and_eq_true, Bool.not_eq_true'] at hvok
      rw [triplesOf_field_obj sep h m' hk] at hT
      exact groupValue_obj sep hne r recur hrec h m' hvok.1 hvok.2 _ hT V hV
    | _ => simp [isObj] at hobj

theorem unflattenStep_sound (sep : Key) (hne : sep ≠ []) (r : Bool) (recur : Entries → Option VMap)
    (hrec : Sound sep recur) : Sound sep (unflattenStep recur sep r) := by
  intro m es M hok hp hM
  unfold unflattenStep at hM
  simp only [] at hM
  have hheads : ∀ h, h ∈ (triplesOf sep es).map (·.1) ↔ ∃ v, m.get h = some v := by
    intro h
    have h1 : ((triplesOf sep es).map (·.1)).Perm ((triplesOf sep (F sep m)).map (·.1)) :=
      (hp.map _).map _
    rw [h1.mem_iff]
    exact head_mem_iff sep hne m hok h
  -- the value every head must get; total only so that it can be mapped, heads are keys of `m`
  let val : Key → Value := fun h => (m.get h).getD .null
  obtain ⟨L, hL, rfl⟩ := Option.map_eq_some_iff.mp hM
  have hgv : ∀ h ∈ dedup ((triplesOf sep es).map (·.1)), ∀ y,
      (groupValueWith recur sep r ((triplesOf sep es).filter fun t => t.1 == h)).map
        (fun v => (h, v)) = some y → y = (h, val h) := by
    intro h hh y hy
    obtain ⟨V, hV, rfl⟩ := Option.map_eq_some_iff.mp hy
    obtain ⟨v, hv⟩ := (hheads h).mp ((mem_dedup _ h).mp hh)
    rw [groupValue_sound sep hne r recur hrec m es hok hp h v hv V hV]
    simp [val, hv]
  -- so the groups built are `(h, val h)` for the heads, and that map has the entries of `m`
  rw [mapM_eq_map _ (fun h => (h, val h)) _ L hgv hL]
  apply VMap.ext_of_sortedKeys _ _ (sortedKeys_ofList _) (sortedKeys_of_flatOKM sep m hok)
  intro k
  have hkeys : ((dedup ((triplesOf sep es).map (·.1))).map fun h => (h, val h)).map (·.1)
      = dedup ((triplesOf sep es).map (·.1)) := by
    simp [List.map_map, Function.comp_def]
  cases hk : m.get k with
  | some v =>
    have hmem : k ∈ dedup ((triplesOf sep es).map (·.1)) :=
      (mem_dedup _ k).mpr ((hheads k).mpr ⟨v, hk⟩)
    have := get_ofList_in ((dedup ((triplesOf sep es).map (·.1))).map fun h => (h, val h)) k (val k)
      (by rw [hkeys]; exact nodup_dedup _) (List.mem_map.mpr ⟨k, hmem, rfl⟩)
    rw [this]
    simp [val, hk]
  | none =>
    apply get_ofList_notin
    rw [hkeys]
    intro hmem
    obtain ⟨v, hv⟩ := (hheads k).mp ((mem_dedup _ k).mp hmem)
    rw [hk] at hv
    cases hv

theorem unflattenEntries_sound (sep : Key) (hne : sep ≠ []) (r : Bool) :
    ∀ fuel, Sound sep (unflattenEntries fuel sep r)
  | 0 => fun _ _ _ _ _ h => by cases h
  | fuel + 1 => unflattenStep_sound sep hne r _ (unflattenEntries_sound sep hne r fuel)

end Conv.Flat
