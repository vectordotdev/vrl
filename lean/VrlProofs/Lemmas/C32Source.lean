/-
  Helper lemmas for C32 (ii): the regex source and the fields built for a flat rule; (iv): the
  captures applied in the order of the generated names, the range of the `integer` filter.
-/
import VrlProofs.Lemmas.C32

namespace C32
open Grok

variable {aliases : List (Str × Str)} {self : Str → Ctx → Out Ctx}

/-- the field map holds the keys `0 … n-1` in order. -/
def Numbered (fs : List (Nat × Field)) : Prop := fs.map Prod.fst = List.range fs.length

theorem insertField_fresh (fs : List (Nat × Field)) (n : Nat) (f : Field)
    (h : ∀ kv ∈ fs, kv.1 ≠ n) : insertField fs n f = fs ++ [(n, f)] := by
  induction fs with
  | nil => rfl
  | cons kv rest ih =>
    obtain ⟨m, g⟩ := kv
    have hm : m ≠ n := h (m, g) (by simp)
    simp only [insertField, hm, ↓reduceIte, List.cons_append]
    rw [ih (fun kv hkv => h kv (List.mem_cons_of_mem _ hkv))]

theorem numbered_keys_lt {fs : List (Nat × Field)} (h : Numbered fs) : ∀ kv ∈ fs, kv.1 < fs.length := by
  intro kv hkv
  have : kv.1 ∈ fs.map Prod.fst := List.mem_map_of_mem hkv
  rwa [h, List.mem_range] at this

theorem numbered_nodup {fs : List (Nat × Field)} (h : Numbered fs) : (fs.map Prod.fst).Nodup := by
  rw [h]; exact List.nodup_range

theorem numbered_snoc {fs : List (Nat × Field)} (h : Numbered fs) (f : Field) :
    Numbered (fs ++ [(fs.length, f)]) := by
  unfold Numbered at *
  simp [List.range_succ, h]

theorem insertField_numbered {fs : List (Nat × Field)} (h : Numbered fs) (f : Field) :
    insertField fs fs.length f = fs ++ [(fs.length, f)] :=
  insertField_fresh fs fs.length f fun kv hkv => Nat.ne_of_lt (numbered_keys_lt h kv hkv)

theorem parseRuleF_plain (P : Prims) (aliases : List (Str × Str)) (n : Nat) (d : Str) (c : Ctx)
    (h : seg d = [.text d]) : parseRuleF P aliases (n + 1) d c = .ok (c.append d) := by
  simp [parseRuleF, h, resolvePieces]

/-- `self` inlines a placeholder-free alias definition as it is. -/
def ExpandsPlain (aliases : List (Str × Str)) (self : Str → Ctx → Out Ctx) : Prop :=
  ∀ a d c, lookupAlias aliases a = some d → seg d = [.text d] → self d c = .ok (c.append d)

theorem expandsPlain_parseRuleF (P : Prims) (aliases : List (Str × Str)) :
    ExpandsPlain aliases (parseRuleF P aliases aliases.length) := by
  intro a d c hd hseg
  -- an alias is defined, so there is fuel for one level
  cases aliases with
  | nil => simp [lookupAlias] at hd
  | cons kv rest => exact parseRuleF_plain P _ rest.length d c hseg

theorem parseAlias_plain (hself : ExpandsPlain aliases self) (name d : Str) (c : Ctx)
    (hd : lookupAlias aliases name = some d) (h : seg d = [.text d]) (hs : name ∉ c.stack) :
    parseAlias self name d c = .ok (c.append d) := by
  simp [parseAlias_eq, hs, hself name d _ hd h, Ctx.append]

theorem resolvePat_ref (hself : ExpandsPlain aliases self) (fn : Fn) (d : Str) (c : Ctx)
    (hd : lookupAlias aliases fn.name = some d) (hseg : seg d = [.text d]) (hs : fn.name ∉ c.stack) :
    resolvePat aliases self ⟨fn, none⟩ c = .ok (c.append d) := by
  rw [resolvePat_eq, hd]
  simp [registerDest, enterGroup, leaveGroup, parseAlias_plain hself fn.name d c hd hseg hs]

theorem resolvePat_cap (hself : ExpandsPlain aliases self) (fn : Fn) (d : Str) (c : Ctx)
    (path : List Str) {fo : Option Fn} (fl : List Filter)
    (hreg : registerDest ⟨fn, some ⟨path, fo⟩⟩ c
      = .ok { c with fields := insertField c.fields c.fields.length ⟨path, fl⟩ })
    (hd : lookupAlias aliases fn.name = some d) (hseg : seg d = [.text d]) (hs : fn.name ∉ c.stack)
    (hnum : Numbered c.fields) :
    resolvePat aliases self ⟨fn, some ⟨path, fo⟩⟩ c
      = .ok ⟨c.regex ++ (cs!"(?<" ++ grokName c.fields.length ++ cs!">" ++ d ++ cs!")"),
             c.fields ++ [(c.fields.length, ⟨path, fl⟩)], c.stack⟩ := by
  rw [resolvePat_eq, hreg, hd]
  simp only [bind_ok, Option.map_some, enterGroup, leaveGroup]
  rw [parseAlias_plain hself fn.name d _ hd hseg (by exact hs)]
  simp [openGroup, Ctx.append, insertField_numbered hnum, List.append_assoc]

theorem resolvePieces_flat (P : Prims) (hself : ExpandsPlain aliases self)
    (ps : List Piece) (items : List SItem) (h : ReadsAll P aliases ps items) :
    ∀ c : Ctx, c.stack = [] → Numbered c.fields →
      resolvePieces P aliases self ps c
        = .ok ⟨c.regex ++ (specFrom c.fields.length items).1,
               c.fields ++ (specFrom c.fields.length items).2, []⟩ := by
  induction h with
  | nil =>
    intro c hs _
    obtain ⟨r, f, st⟩ := c
    simp at hs; subst hs
    simp [resolvePieces, specFrom]
  | @cons pc it ps its hr _ ih =>
    intro c hs hnum
    cases hr with
    | text t =>
      simp only [resolvePieces]
      rw [ih (c.append t) (by simpa [Ctx.append] using hs) (by simpa [Ctx.append] using hnum)]
      simp [Ctx.append, specFrom, List.append_assoc]
    | @ref s fn d hp hd hseg =>
      simp only [resolvePieces, hp, resolvePat_ref hself fn d c hd hseg (by simp [hs])]
      rw [ih (c.append d) (by simpa [Ctx.append] using hs) (by simpa [Ctx.append] using hnum)]
      simp [Ctx.append, specFrom, List.append_assoc]
    | @cap s fn d path hp hd hseg =>
      have hreg : registerDest ⟨fn, some ⟨path, none⟩⟩ c
          = .ok { c with fields := insertField c.fields c.fields.length ⟨path, []⟩ } := by
        simp [registerDest]
      simp only [resolvePieces, hp, resolvePat_cap hself fn d c path [] hreg hd hseg (by simp [hs]) hnum, hs]
      rw [ih _ rfl (numbered_snoc hnum _)]
      simp [specFrom, List.append_assoc]
    | @capF s fn f d path flt hp hf hd hseg =>
      have hreg : registerDest ⟨fn, some ⟨path, some f⟩⟩ c
          = .ok { c with fields := insertField c.fields c.fields.length ⟨path, [flt]⟩ } := by
        simp [registerDest, hf]
      simp only [resolvePieces, hp, resolvePat_cap hself fn d c path [flt] hreg hd hseg (by simp [hs]) hnum, hs]
      rw [ih _ rfl (numbered_snoc hnum _)]
      simp [specFrom, List.append_assoc]

/-- the text the engine captured for group `grok<i>` (empty when the group did not participate). -/
def textOf (caps : List (Str × Option Str)) (i : Nat) : Str := capText caps (grokName i)

theorem lookupField_of_nodup (fs : List (Nat × Field)) (h : (fs.map Prod.fst).Nodup) :
    ∀ kv ∈ fs, lookupField fs kv.1 = some kv.2 := by
  induction fs with
  | nil => intro kv hkv; cases hkv
  | cons x rest ih =>
    obtain ⟨m, g⟩ := x
    simp only [List.map_cons, List.nodup_cons] at h
    intro kv hkv
    rcases List.mem_cons.mp hkv with rfl | hkv'
    · simp [lookupField]
    · have hne : m ≠ kv.1 := by
        intro e; subst e
        exact h.1 (List.mem_map_of_mem hkv')
      simp only [lookupField, hne, ↓reduceIte]
      exact ih h.2 kv hkv'

/-- true of every `i`; checked as far as the names are in order (`grokNames_increasing`). -/
theorem grokIndex_grokName_small : ∀ i, i < 10 → grokIndex (grokName i) = some i := by decide +kernel

/-- `strLt` is the lexicographic order of lists; its order properties are the library's. -/
theorem strLt_iff : (a b : Str) → (strLt a b = true ↔ a < b)
  | [], [] => by simp [strLt]
  | [], _ :: _ => by simp [strLt]
  | _ :: _, [] => by simp [strLt]
  | x :: xs, y :: ys => by
    rw [List.cons_lt_cons_iff, ← strLt_iff xs ys, strLt]
    by_cases h1 : x < y
    · simp [h1]
    · by_cases h2 : x = y <;> simp [h1, h2]

theorem insertSorted_append (k v : Str) : ∀ (l : List (Str × Str)),
    (∀ e ∈ l, e.1 < k) → insertSorted l k v = l ++ [(k, v)] := by
  intro l
  induction l with
  | nil => intro _; rfl
  | cons e l ih =>
    intro h
    have he := h e (by simp)
    have h1 : strLt k e.1 = false :=
      Bool.eq_false_iff.mpr fun h' => List.lt_asymm he ((strLt_iff _ _).mp h')
    have h2 : e.1 ≠ k := fun e' => List.lt_irrefl k (e' ▸ he)
    simp [insertSorted, h1, h2, ih fun x hx => h x (by simp [hx])]

theorem patternNames_sorted (names : List Str) (h : names.Pairwise (· < ·)) :
    patternNames [] names = names.map fun n => (n, n) := by
  suffices ∀ (acc : List Str), (acc ++ names).Pairwise (· < ·) →
      names.foldl (fun acc cap => insertSorted acc cap cap) (acc.map fun n => (n, n))
        = (acc ++ names).map fun n => (n, n) by
    simpa [patternNames] using this [] h
  clear h
  induction names with
  | nil => intro acc _; simp
  | cons n ns ih =>
    intro acc hp
    have := ih (acc ++ [n]) (by simpa using hp)
    rw [List.foldl_cons, insertSorted_append]
    · simpa using this
    · intro e he
      obtain ⟨a, ha, rfl⟩ := List.mem_map.mp he
      exact (List.pairwise_append.mp hp).2.2 a ha n (by simp)

/-- `grok0 < … < grok9`; the next name, `grok10`, sorts before `grok2`. -/
theorem grokNames_increasing : ((List.range 10).map grokName).Pairwise (· < ·) := by decide +kernel

theorem patternNames_small (k : Nat) (hk : k ≤ 10) :
    patternNames [] ((List.range k).map grokName) = (List.range k).map (fun i => (grokName i, grokName i)) := by
  rw [patternNames_sorted _ (grokNames_increasing.sublist ((List.range_sublist.mpr hk).map _)),
    List.map_map]
  rfl

theorem applyCaptures_eq_expectedFrom (P : Prims) (fields : List (Nat × Field))
    (caps : List (Str × Option Str)) (rest : List (Nat × Field))
    (hrest : ∀ kv ∈ rest, grokIndex (grokName kv.1) = some kv.1 ∧ lookupField fields kv.1 = some kv.2) :
    ∀ (parsed : Value) (n : Nat),
      applyCaptures P fields caps (rest.map fun kv => (grokName kv.1, grokName kv.1)) parsed n
        = expectedFrom P (capsOf rest (textOf caps)) parsed n := by
  induction rest with
  | nil => intro parsed n; rfl
  | cons kv rest ih =>
    intro parsed n
    obtain ⟨hidx, hlook⟩ := hrest kv (by simp)
    have ih' := ih (fun kv' h' => hrest kv' (List.mem_cons_of_mem _ h'))
    simp only [List.map_cons, applyCaptures, capsOf, expectedFrom]
    have htext : capText caps (grokName kv.1) = textOf caps kv.1 := rfl
    simp only [htext, hidx, Option.bind_some, hlook]
    by_cases he : (textOf caps kv.1).isEmpty = true
    · simp only [he, ↓reduceIte]; exact ih' parsed n
    · simp only [he, Bool.false_eq_true, ↓reduceIte]
      cases hf : applyFilters P kv.2.filters (some (SV.str (textOf caps kv.1))) n with
      | ok r => obtain ⟨_ | v, n'⟩ := r <;> exact ih' _ _
      | _ => rfl

theorem parseI64_range {s : Str} {i : Int} (h : parseI64 s = some i) : i64Min ≤ i ∧ i ≤ i64Max := by
  unfold parseI64 at h
  split at h
  simp only [Option.ite_none_right_eq_some, Option.some.injEq, Bool.and_eq_true, decide_eq_true_eq] at h
  exact h.2.2 ▸ h.2.1

end C32
