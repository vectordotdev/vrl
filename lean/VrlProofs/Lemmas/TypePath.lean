import VrlProofs.Lemmas.TypeKind
import VrlProofs.Props.C18

/-! Path operations under the side conditions of `Lang.checks`: reading (`at_path`) and inserting,
    on result values (`memR`); array / object literals. -/

namespace Spec
open Lang
open Value (optSorted)

theorem optSorted_getOpt : (p : Path) → (c : Option Value) → optSorted c = true →
    optSorted (Value.getOpt c p) = true
  | [], c, h => by cases c <;> simpa [Value.getOpt] using h
  | s :: rest, c, h => by
    rw [Value.getOpt_cons]
    exact optSorted_getOpt rest _ (Value.child_sorted s h)

theorem atPath_sound_ok (p : Path) (c : Option Value) (K : Kind) (hs : optSorted c = true)
    (hm : memOpt c K = true) (ok : atOk K p = true) : memOpt (Value.getOpt c p) (K.atPath p) = true := by
  simp only [atOk, Bool.and_eq_true, decide_eq_true_eq] at ok
  obtain ⟨h1, h2⟩ := C19.atClass_none ok.1 ok.2
  exact atPath_sound_gen p c K hs hm h1 h2

theorem memR_atPath {v : Value} {K : Kind} {p : Path} (h : memR v K = true) (hs : v.Sorted = true)
    (ok : atOk K p = true) :
    memR ((v.get p).getD .null) (K.atPath p) = true ∧ ((v.get p).getD .null).Sorted = true := by
  have hopt := memOpt_asOpt h
  have hso : optSorted (asOpt v K) = true := by
    unfold asOpt; split
    · exact hs
    · rfl
  have hsound := atPath_sound_ok p (asOpt v K) K hso hopt ok
  have hsorted := optSorted_getOpt p (asOpt v K) hso
  have heq : (v.get p).getD .null = (Value.getOpt (asOpt v K) p).getD .null := by
    unfold asOpt
    cases hm : mem v K with
    | true => rfl
    | false =>
      rcases (memR_iff v K).mp h with h1 | ⟨h1, _⟩
      · rw [hm] at h1; cases h1
      · subst h1
        cases p with
        | nil => simp [Value.get, Value.getOpt]
        | cons s rest => simp [Value.get, Value.getOpt, C18.getOpt_none]
  rw [heq]
  cases hg : Value.getOpt (asOpt v K) p with
  | none =>
    rw [hg] at hsound
    simp only [memOpt] at hsound
    exact ⟨(memR_iff _ _).mpr (Or.inr ⟨rfl, hsound⟩), rfl⟩
  | some w =>
    rw [hg] at hsound hsorted
    exact ⟨memR_of_mem hsound, hsorted⟩

theorem mem_insert {v x v' : Value} {prev : Option Value} {K X : Kind} {p : Path}
    (hv : mem v K = true) (hvs : v.Sorted = true) (hx : memR x X = true) (hxs : x.Sorted = true)
    (ok : insertOk K p = true) (hi : v.insert p x = .ok (v', prev)) :
    mem v' (K.insert p X) = true ∧ v'.Sorted = true := by
  refine ⟨?_, C18.insert_sorted v p x v' prev hvs hxs hi⟩
  simp only [insertOk, insertClassOk, Bool.and_eq_true, Bool.not_eq_true'] at ok
  have := insertRec_sound p (some v) K x X.upgradeUndefined hvs hv (mem_upgrade_of_memR hx) ok.1 ok.2.1 ok.2.2
  exact (Value.insert_ok hi).1 ▸ this

/-- the elements of a run-time array against the element types collected by `Array::type_info` -/
def ListMem : VList → List TypeDef → Prop
  | .nil, [] => True
  | .cons v vs, t :: ts => mem v t.kind = true ∧ v.Sorted = true ∧ ListMem vs ts
  | _, _ => False

theorem ListMem.length : (vs : VList) → (ts : List TypeDef) → ListMem vs ts → vs.length = ts.length
  | .nil, [], _ => rfl
  | .cons _ vs, _ :: ts, h => by simp [VList.length, ListMem.length vs ts h.2.2]
  | .nil, _ :: _, h => by cases h
  | .cons _ _, [], h => by cases h

theorem ListMem.getN : (vs : VList) → (ts : List TypeDef) → ListMem vs ts → ∀ j x, vs.getN j = some x →
    ∃ t, ts[j]? = some t ∧ mem x t.kind = true
  | .nil, [], _, j, x, hx => by simp [VList.getN] at hx
  | .cons v vs, t :: ts, h, 0, x, hx => by
    simp only [VList.getN, Option.some.injEq] at hx; subst hx; exact ⟨t, rfl, h.1⟩
  | .cons v vs, t :: ts, h, j + 1, x, hx => by
    simp only [VList.getN] at hx
    obtain ⟨t', h1, h2⟩ := ListMem.getN vs ts h.2.2 j x hx
    exact ⟨t', by simpa using h1, h2⟩
  | .nil, _ :: _, h, _, _, _ => by cases h
  | .cons _ _, [], h, _, _, _ => by cases h

theorem ListMem.sorted : (vs : VList) → (ts : List TypeDef) → ListMem vs ts → vs.Sorted = true
  | .nil, [], _ => rfl
  | .cons v vs, t :: ts, h => by simp [VList.Sorted, h.2.1, ListMem.sorted vs ts h.2.2]
  | .nil, _ :: _, h => by cases h
  | .cons _ _, [], h => by cases h

theorem ListMem.snoc : (vs : VList) → (ts : List TypeDef) → (v : Value) → (t : TypeDef) → ListMem vs ts →
    mem v t.kind = true → v.Sorted = true → ListMem (vs.append (.cons v .nil)) (ts ++ [t])
  | .nil, [], v, t, _, hv, hs => ⟨hv, hs, trivial⟩
  | .cons a vs, b :: ts, v, t, h, hv, hs => ⟨h.1, h.2.1, ListMem.snoc vs ts v t h.2.2 hv hs⟩
  | .nil, _ :: _, _, _, h, _, _ => by cases h
  | .cons _ _, [], _, _, h, _, _ => by cases h

theorem kindsFromIdx_get : (ts : List TypeDef) → (i j : Nat) →
    (kindsFromIdx ts i).get (Key.ofIdx (i + j)) = (ts[j]?).map (·.kind)
  | [], i, j => by simp [kindsFromIdx, KList.get]
  | t :: ts, i, 0 => by simp [kindsFromIdx, KList.get]
  | t :: ts, i, j + 1 => by
    have hne : Key.ofIdx i ≠ Key.ofIdx (i + (j + 1)) := by
      simp only [Key.ofIdx, ne_eq, List.cons.injEq, and_true]; omega
    rw [kindsFromIdx, KList.get, if_neg hne]
    have := kindsFromIdx_get ts (i + 1) j
    rw [show i + 1 + j = i + (j + 1) by omega] at this
    rw [this]; simp

theorem kindsFromIdx_get_some : (ts : List TypeDef) → (i : Nat) → (k : Key) → (K : Kind) →
    (kindsFromIdx ts i).get k = some K → ∃ j, j < ts.length ∧ k = Key.ofIdx (i + j)
  | [], _, _, _, h => by simp [kindsFromIdx, KList.get] at h
  | t :: ts, i, k, K, h => by
    rw [kindsFromIdx, KList.get] at h
    split at h
    · rename_i hk; exact ⟨0, by simp, by simpa using hk.symm⟩
    · obtain ⟨j, hj, hk⟩ := kindsFromIdx_get_some ts (i + 1) k K h
      exact ⟨j + 1, by simp; omega, by rw [hk]; congr 1; omega⟩

theorem ofKnown_unknown_undefined (kl : KList) : (Col.ofKnown kl).unknown = Unknown.ofKind Kind.undefined := rfl

theorem mem_arr_of_listMem (vs : VList) (ts : List TypeDef) (h : ListMem vs ts) :
    mem (.arr vs) (Kind.ofArray (Col.ofKnown (kindsFromIdx ts 0))) = true := by
  rw [mem_arr_iff]
  refine ⟨Col.ofKnown (kindsFromIdx ts 0), rfl, ?_, ?_⟩
  · intro j x hx
    obtain ⟨t, ht, hm⟩ := ListMem.getN vs ts h j x hx
    have := kindsFromIdx_get ts 0 j
    rw [Nat.zero_add, ht] at this
    simp only [slotKind, Col.ofKnown, Col.known, this, Option.map_some]
    exact hm
  · intro k K' hk hl
    exfalso
    obtain ⟨j, hj, hkj⟩ := kindsFromIdx_get_some ts 0 k K' hk
    subst hkj
    rw [ListMem.length vs ts h] at hl
    simp [Key.ofIdx, Key.idx] at hl
    omega

/-- a run-time object has exactly the keys of the literal, in the same order -/
def KeysEq : VMap → KExprs → Prop
  | .nil, .nil => True
  | .cons k _ m, .cons k' _ kes => k = k' ∧ KeysEq m kes
  | _, _ => False

def keyOf : KExprs → List Key
  | .nil => []
  | .cons k _ kes => k :: keyOf kes

theorem keysSorted_tail_gt : (k : Key) → (e : Expr) → (kes : KExprs) → keysSorted (.cons k e kes) = true →
    (∀ q ∈ keyOf kes, Key.lt k q = true) ∧ keysSorted kes = true
  | _, _, .nil, _ => ⟨by simp [keyOf], rfl⟩
  | k, e, .cons k' e' kes, h => by
    simp only [keysSorted, Bool.and_eq_true] at h
    obtain ⟨h1, h2⟩ := h
    obtain ⟨ih, _⟩ := keysSorted_tail_gt k' e' kes h2
    refine ⟨?_, h2⟩
    intro q hq
    simp only [keyOf, List.mem_cons] at hq
    rcases hq with rfl | hq
    · exact h1
    · exact Key.lt_trans _ _ _ h1 (ih q hq)

theorem KeysEq.allGt : (m : VMap) → (kes : KExprs) → KeysEq m kes → (k : Key) →
    (∀ q ∈ keyOf kes, Key.lt k q = true) → VMap.allGt k m = true
  | .nil, .nil, _, _, _ => rfl
  | .cons a v m, .cons a' e kes, h, k, hk => by
    obtain ⟨rfl, h2⟩ := h
    rw [VMap.allGt_cons]
    exact ⟨hk a (by simp [keyOf]), KeysEq.allGt m kes h2 k (fun q hq => hk q (by simp [keyOf, hq]))⟩
  | .nil, .cons _ _ _, h, _, _ => by cases h
  | .cons _ _ _, .nil, h, _, _ => by cases h

end Spec
