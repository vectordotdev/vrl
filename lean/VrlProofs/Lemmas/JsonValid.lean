/-
  The printer of `VrlModel.Json` emits UTF-8 that does not start with a byte-order mark, so the
  lossy conversion and the BOM stripping of `parse_json` leave it alone; facts about `mapFloats`,
  `approx` and `AllFloats`.
-/
import VrlProofs.Lemmas.JsonRoundTrip

namespace Json

theorem nl_ascii (pretty : Bool) (lvl : Nat) : ∀ c ∈ nl pretty lvl, c < 128 := by
  intro c hc
  cases pretty
  · simp [nl] at hc
  · simp only [nl, ↓reduceIte, List.mem_cons, List.mem_replicate] at hc
    rcases hc with rfl | ⟨_, rfl⟩ <;> omega

theorem colon_ascii (pretty : Bool) : ∀ c ∈ colon pretty, c < 128 := by
  cases pretty <;> decide

/- Each case strips the pieces of the printed text from the front: ASCII ones by
   `validUtf8_ascii_append`, quoted strings and sub-values by `validUtf8_append`. -/
mutual
  theorem valid_pv (P : Prims) (pretty : Bool) : (v : Value) → (lvl : Nat) →
      jsonRepr v = true → AllFloats (FloatTextOK P) v → validUtf8 (pv P pretty lvl v) = true
    | .null, _, _, _ => by rw [pv]; decide
    | .bool true, _, _, _ => by rw [pv]; decide
    | .bool false, _, _, _ => by rw [pv]; decide
    | .int i, _, _, _ => by
      rw [pv, showInt]; exact validUtf8_of_ascii _ (render_ascii _ (intTok_wf i))
    | .float b, _, hr, hf => by
      simp only [jsonRepr, Bool.and_eq_true] at hr
      obtain ⟨t, hw, _, hshow, _⟩ := hf
      rw [pv, showFloat, if_pos hr.2, hshow]
      exact validUtf8_of_ascii _ (render_ascii t hw)
    | .bytes b, _, hr, _ => by
      rw [pv, utf8Lossy_valid b hr]; exact validUtf8_quote b hr
    | .ts _, _, hr, _ => by simp [jsonRepr] at hr
    | .regex _, _, hr, _ => by simp [jsonRepr] at hr
    | .arr xs, lvl, hr, hf => by
      rw [pv, validUtf8_1 _ _ (by omega)]; exact valid_pl0 P pretty xs lvl hr hf
    | .obj m, lvl, hr, hf => by
      rw [pv, validUtf8_1 _ _ (by omega)]; exact valid_pm0 P pretty m lvl hr hf
  theorem valid_pl0 (P : Prims) (pretty : Bool) : (xs : VList) → (lvl : Nat) →
      jsonReprL xs = true → AllFloatsL (FloatTextOK P) xs → validUtf8 (pl0 P pretty lvl xs) = true
    | .nil, _, _, _ => by rw [pl0]; decide
    | .cons x xs, lvl, hr, hf => by
      simp only [jsonReprL, Bool.and_eq_true] at hr
      rw [pl0, validUtf8_ascii_append _ _ (nl_ascii _ _),
        validUtf8_append _ _ (valid_pv P pretty x (lvl + 1) hr.1 hf.1)]
      exact valid_pl P pretty xs lvl hr.2 hf.2
  theorem valid_pl (P : Prims) (pretty : Bool) : (xs : VList) → (lvl : Nat) →
      jsonReprL xs = true → AllFloatsL (FloatTextOK P) xs → validUtf8 (pl P pretty lvl xs) = true
    | .nil, _, _, _ => by rw [pl, validUtf8_ascii_append _ _ (nl_ascii _ _)]; decide
    | .cons x xs, lvl, hr, hf => by
      simp only [jsonReprL, Bool.and_eq_true] at hr
      rw [pl, validUtf8_1 _ _ (by omega), validUtf8_ascii_append _ _ (nl_ascii _ _),
        validUtf8_append _ _ (valid_pv P pretty x (lvl + 1) hr.1 hf.1)]
      exact valid_pl P pretty xs lvl hr.2 hf.2
  theorem valid_pm0 (P : Prims) (pretty : Bool) : (m : VMap) → (lvl : Nat) →
      jsonReprM m = true → AllFloatsM (FloatTextOK P) m → validUtf8 (pm0 P pretty lvl m) = true
    | .nil, _, _, _ => by rw [pm0]; decide
    | .cons k x m, lvl, hr, hf => by
      simp only [jsonReprM, Bool.and_eq_true] at hr
      rw [pm0, validUtf8_ascii_append _ _ (nl_ascii _ _), validUtf8_append _ _ (validUtf8_quote k hr.1.1.1),
        validUtf8_ascii_append _ _ (colon_ascii _),
        validUtf8_append _ _ (valid_pv P pretty x (lvl + 1) hr.1.1.2 hf.1)]
      exact valid_pm P pretty m lvl hr.2 hf.2
  theorem valid_pm (P : Prims) (pretty : Bool) : (m : VMap) → (lvl : Nat) →
      jsonReprM m = true → AllFloatsM (FloatTextOK P) m → validUtf8 (pm P pretty lvl m) = true
    | .nil, _, _, _ => by rw [pm, validUtf8_ascii_append _ _ (nl_ascii _ _)]; decide
    | .cons k x m, lvl, hr, hf => by
      simp only [jsonReprM, Bool.and_eq_true] at hr
      rw [pm, validUtf8_1 _ _ (by omega), validUtf8_ascii_append _ _ (nl_ascii _ _),
        validUtf8_append _ _ (validUtf8_quote k hr.1.1.1), validUtf8_ascii_append _ _ (colon_ascii _),
        validUtf8_append _ _ (valid_pv P pretty x (lvl + 1) hr.1.1.2 hf.1)]
      exact valid_pm P pretty m lvl hr.2 hf.2
end

theorem stripBomStr_start (s : List Nat) (h : headIn valueStart s = true) : stripBomStr s = s := by
  match s with
  | [] => rfl
  | [_] => rfl
  | [_, _] => rfl
  | c :: a :: b :: r => rw [stripBomStr, if_neg fun e => ne_of_test valueStart h rfl e.1]

theorem stripBomBytes_start (s : List Nat) (h : headIn valueStart s = true) : stripBomBytes s = s := by
  match s with
  | [] => rfl
  | [_] => rfl
  | [_, _] => rfl
  | c :: a :: b :: r => rw [stripBomBytes, if_neg fun e => ne_of_test valueStart h rfl e.1]

mutual
  theorem allFloats_of_floatFree (Q : Nat → Prop) : (v : Value) → floatFree v = true → AllFloats Q v
    | .null, _ => trivial
    | .bool _, _ => trivial
    | .int _, _ => trivial
    | .float _, h => by simp [floatFree] at h
    | .bytes _, _ => trivial
    | .ts _, _ => trivial
    | .regex _, _ => trivial
    | .arr xs, h => allFloatsL_of_floatFree Q xs h
    | .obj m, h => allFloatsM_of_floatFree Q m h
  theorem allFloatsL_of_floatFree (Q : Nat → Prop) : (xs : VList) → floatFreeL xs = true → AllFloatsL Q xs
    | .nil, _ => trivial
    | .cons x xs, h => by
      simp only [floatFreeL, Bool.and_eq_true] at h
      exact ⟨allFloats_of_floatFree Q x h.1, allFloatsL_of_floatFree Q xs h.2⟩
  theorem allFloatsM_of_floatFree (Q : Nat → Prop) : (m : VMap) → floatFreeM m = true → AllFloatsM Q m
    | .nil, _ => trivial
    | .cons _ x m, h => by
      simp only [floatFreeM, Bool.and_eq_true] at h
      exact ⟨allFloats_of_floatFree Q x h.1, allFloatsM_of_floatFree Q m h.2⟩
end

mutual
  theorem allFloats_of_repr (Q : Nat → Prop) (hQ : ∀ x, x < F64.p64 → F64.isFinite x = true → Q x) :
      (v : Value) → jsonRepr v = true → AllFloats Q v
    | .null, _ => trivial
    | .bool _, _ => trivial
    | .int _, _ => trivial
    | .float b, h => by
      simp only [jsonRepr, Bool.and_eq_true, decide_eq_true_eq] at h
      exact hQ b h.1 h.2
    | .bytes _, _ => trivial
    | .ts _, _ => trivial
    | .regex _, _ => trivial
    | .arr xs, h => allFloatsL_of_repr Q hQ xs h
    | .obj m, h => allFloatsM_of_repr Q hQ m h
  theorem allFloatsL_of_repr (Q : Nat → Prop) (hQ : ∀ x, x < F64.p64 → F64.isFinite x = true → Q x) :
      (xs : VList) → jsonReprL xs = true → AllFloatsL Q xs
    | .nil, _ => trivial
    | .cons x xs, h => by
      simp only [jsonReprL, Bool.and_eq_true] at h
      exact ⟨allFloats_of_repr Q hQ x h.1, allFloatsL_of_repr Q hQ xs h.2⟩
  theorem allFloatsM_of_repr (Q : Nat → Prop) (hQ : ∀ x, x < F64.p64 → F64.isFinite x = true → Q x) :
      (m : VMap) → jsonReprM m = true → AllFloatsM Q m
    | .nil, _ => trivial
    | .cons _ x m, h => by
      simp only [jsonReprM, Bool.and_eq_true] at h
      exact ⟨allFloats_of_repr Q hQ x h.1.1.2, allFloatsM_of_repr Q hQ m h.2⟩
end

mutual
  theorem mapFloats_id (g : Nat → Nat) : (v : Value) → AllFloats (fun x => g x = x) v → mapFloats g v = v
    | .null, _ => by rw [mapFloats]
    | .bool _, _ => by rw [mapFloats]
    | .int _, _ => by rw [mapFloats]
    | .float b, h => by rw [mapFloats, show g b = b from h]
    | .bytes _, _ => by rw [mapFloats]
    | .ts _, _ => by rw [mapFloats]
    | .regex _, _ => by rw [mapFloats]
    | .arr xs, h => by rw [mapFloats, mapFloatsL_id g xs h]
    | .obj m, h => by rw [mapFloats, mapFloatsM_id g m h]
  theorem mapFloatsL_id (g : Nat → Nat) : (xs : VList) → AllFloatsL (fun x => g x = x) xs → mapFloatsL g xs = xs
    | .nil, _ => by rw [mapFloatsL]
    | .cons x xs, h => by rw [mapFloatsL, mapFloats_id g x h.1, mapFloatsL_id g xs h.2]
  theorem mapFloatsM_id (g : Nat → Nat) : (m : VMap) → AllFloatsM (fun x => g x = x) m → mapFloatsM g m = m
    | .nil, _ => by rw [mapFloatsM]
    | .cons k x m, h => by rw [mapFloatsM, mapFloats_id g x h.1, mapFloatsM_id g m h.2]
end

mutual
  theorem approx_mapFloats (k : Nat) (g : Nat → Nat) : (v : Value) →
      AllFloats (fun x => ulpDist x (g x) ≤ k) v → approx k v (mapFloats g v) = true
    | .null, _ => by rw [mapFloats, approx]; simp
    | .bool _, _ => by rw [mapFloats, approx]; simp
    | .int _, _ => by rw [mapFloats, approx]; simp
    | .float b, h => by rw [mapFloats, approx]; exact decide_eq_true h
    | .bytes _, _ => by rw [mapFloats, approx]; simp
    | .ts _, _ => by rw [mapFloats, approx]; simp
    | .regex _, _ => by rw [mapFloats, approx]; simp
    | .arr xs, h => by rw [mapFloats, approx]; exact approxL_mapFloats k g xs h
    | .obj m, h => by rw [mapFloats, approx]; exact approxM_mapFloats k g m h
  theorem approxL_mapFloats (k : Nat) (g : Nat → Nat) : (xs : VList) →
      AllFloatsL (fun x => ulpDist x (g x) ≤ k) xs → approxL k xs (mapFloatsL g xs) = true
    | .nil, _ => by rw [mapFloatsL, approxL]
    | .cons x xs, h => by
      rw [mapFloatsL, approxL]
      simp [approx_mapFloats k g x h.1, approxL_mapFloats k g xs h.2]
  theorem approxM_mapFloats (k : Nat) (g : Nat → Nat) : (m : VMap) →
      AllFloatsM (fun x => ulpDist x (g x) ≤ k) m → approxM k m (mapFloatsM g m) = true
    | .nil, _ => by rw [mapFloatsM, approxM]
    | .cons key x m, h => by
      rw [mapFloatsM, approxM]
      simp [approx_mapFloats k g x h.1, approxM_mapFloats k g m h.2]
end

end Json
