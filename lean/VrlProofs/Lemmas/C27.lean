/-
  Helper lemmas for C27: lengths and injectivity of the encodings (`toLE`/`toBE`, lower-case hex,
  decimal text, `u64 as i64`), look-up in a table with distinct keys, length invariants of the hash
  states, padding lengths, and bounds on the CRC register and the XXH3 results.
-/
import VrlModel.Hash.Vrl
import VrlProofs.Lemmas.Digits

namespace C27
open Hash

theorem toLE_length : ∀ (k n : Nat), (toLE k n).length = k
  | 0, _ => rfl
  | k + 1, n => by simp [toLE, toLE_length k]

theorem toBE_length (k n : Nat) : (toBE k n).length = k := by
  simp [toBE, toLE_length]

theorem toLE_lt : ∀ (k n : Nat), ∀ x ∈ toLE k n, x < 256
  | 0, _ => by simp [toLE]
  | k + 1, n => by
    intro x hx
    simp only [toLE, List.mem_cons] at hx
    rcases hx with h | h
    · omega
    · exact toLE_lt k _ x h

theorem toBE_lt (k n : Nat) : ∀ x ∈ toBE k n, x < 256 := by
  intro x hx
  exact toLE_lt k n x (by simpa [toBE] using hx)

theorem asciiUpper_of_no_lower (s : String) (h : ∀ c ∈ s.toList, ¬('a' ≤ c ∧ c ≤ 'z')) :
    asciiUpper s = s := by
  unfold asciiUpper
  rw [List.map_congr_left fun c hc => if_neg (h c hc), List.map_id', String.ofList_toList]

/-- The kernel gets the bytes of a `String` literal far more quickly than its characters:
    `String.toList` decodes what the literal first has to encode. -/
def utf8Bytes (s : String) : List Nat := s.toByteArray.data.toList.map UInt8.toNat

/-- a lower-case ASCII letter of `s` is one of its bytes. -/
theorem asciiUpper_of_no_lower_byte (s : String) (h : ∀ b ∈ utf8Bytes s, ¬(97 ≤ b ∧ b ≤ 122)) :
    asciiUpper s = s := by
  refine asciiUpper_of_no_lower s fun c hc hl => h c.toNat ?_ hl
  have hs : s.toByteArray = s.toList.utf8Encode := by
    rw [← String.toByteArray_ofList, String.ofList_toList]
  simp only [utf8Bytes, hs, List.utf8Encode, List.mem_map]
  refine ⟨UInt8.ofNat c.toNat, ?_, ?_⟩
  · rw [List.data_toByteArray, List.toList_toArray, List.mem_flatMap]
    exact ⟨c, hc, by simp [String.utf8EncodeChar, show c.toNat ≤ 127 from Nat.le_trans hl.2 (by decide)]⟩
  · rw [UInt8.toNat_ofNat']
    have : c.toNat ≤ 122 := hl.2
    omega

/-- `g` is any function of the key: distinctness may be checked on what is cheapest to compare. -/
theorem find?_of_nodup_key {α β γ : Type} [DecidableEq β] (f : α → β) (g : β → γ) :
    ∀ {l : List α}, (l.map fun a => g (f a)).Nodup → ∀ p ∈ l, l.find? (fun q => f q == f p) = some p
  | [], _, _, hp => by cases hp
  | a :: l, hn, p, hp => by
    rw [List.map_cons, List.nodup_cons] at hn
    rw [List.find?_cons]
    rcases List.mem_cons.1 hp with rfl | hp'
    · rw [beq_self_eq_true]
    · have h : f a ≠ f p := fun h => hn.1 (h ▸ List.mem_map_of_mem (f := fun a => g (f a)) hp')
      rw [beq_false_of_ne h]
      exact find?_of_nodup_key f g hn.2 p hp'

/-! ### lower-case hex (`hex::encode`) -/

theorem hexChars_length : ∀ bs : Bytes, (hexChars bs).length = 2 * bs.length
  | [] => rfl
  | _ :: bs => by simp [hexChars, hexChars_length bs]; omega

theorem hexAscii_length (bs : Bytes) : (hexAscii bs).length = 2 * bs.length := by
  simp [hexAscii, hexChars_length]

theorem hexDigit_inj : ∀ a, a < 16 → ∀ b, b < 16 → hexDigit a = hexDigit b → a = b := by
  decide

theorem hexDigit_lower : ∀ a, a < 16 → hexDigit a ∈ "0123456789abcdef".toList := by
  decide

theorem hexChars_inj : ∀ a b : Bytes, (∀ x ∈ a, x < 256) → (∀ x ∈ b, x < 256) →
    hexChars a = hexChars b → a = b
  | [], [], _, _, _ => rfl
  | [], _ :: _, _, _, h => by simp [hexChars] at h
  | _ :: _, [], _, _, h => by simp [hexChars] at h
  | x :: a, y :: b, ha, hb, h => by
    simp only [hexChars, List.cons.injEq] at h
    have hx : x < 256 := ha x (by simp)
    have hy : y < 256 := hb y (by simp)
    have h1 := hexDigit_inj (x / 16) (by omega) (y / 16) (by omega) h.1
    have h2 := hexDigit_inj (x % 16) (by omega) (y % 16) (by omega) h.2.1
    have hxy : x = y := by omega
    have := hexChars_inj a b (fun z hz => ha z (by simp [hz])) (fun z hz => hb z (by simp [hz])) h.2.2
    rw [hxy, this]

theorem hexChars_lower : ∀ bs : Bytes, (∀ x ∈ bs, x < 256) →
    ∀ c ∈ hexChars bs, c ∈ "0123456789abcdef".toList
  | [], _, c, hc => by simp [hexChars] at hc
  | x :: bs, h, c, hc => by
    have hx : x < 256 := h x (by simp)
    simp only [hexChars, List.mem_cons] at hc
    rcases hc with hc | hc | hc
    · rw [hc]; exact hexDigit_lower _ (by omega)
    · rw [hc]; exact hexDigit_lower _ (by omega)
    · exact hexChars_lower bs (fun z hz => h z (by simp [hz])) c hc

/-! ### `u64 as i64` -/

theorem asI64_range (n : Nat) (h : n < 2 ^ 64) : -(2 ^ 63 : Int) ≤ asI64 n ∧ asI64 n < 2 ^ 63 := by
  unfold asI64; split <;> omega

theorem asI64_inj (a b : Nat) (ha : a < 2 ^ 64) (hb : b < 2 ^ 64) (h : asI64 a = asI64 b) : a = b := by
  unfold asI64 at h; split at h <;> split at h <;> omega

theorem asI64_mod (n : Nat) (h : n < 2 ^ 64) : asI64 n % (2 ^ 64 : Int) = n := by
  unfold asI64; split <;> omega

/-! ### decimal text (`to_string()` of an unsigned integer) -/

/-- value of a string of ASCII decimal digits. -/
def decValue (ds : List Nat) : Nat := ds.foldl (fun a d => a * 10 + (d - 48)) 0

theorem foldl_dec (ds : List Nat) : ∀ a : Nat,
    ds.foldl (fun a d => a * 10 + (d - 48)) a = a * 10 ^ ds.length + decValue ds := by
  induction ds with
  | nil => intro a; simp [decValue]
  | cons d ds ih =>
    intro a
    simp only [List.foldl_cons, List.length_cons, decValue]
    rw [ih, ih (0 * 10 + (d - 48))]
    rw [Nat.pow_succ, Nat.add_mul]; simp [Nat.mul_assoc, Nat.mul_comm, Nat.add_assoc]

theorem decValue_cons (d : Nat) (ds : List Nat) :
    decValue (d :: ds) = (d - 48) * 10 ^ ds.length + decValue ds := by
  show List.foldl (fun a d => a * 10 + (d - 48)) (0 * 10 + (d - 48)) ds = _
  rw [foldl_dec]; simp

theorem decDigitsAux_eq : ∀ (fuel n : Nat) (acc : List Nat), 0 < fuel → n < 10 ^ fuel →
    decDigitsAux fuel n acc = (Digits.toDigits 10 n).map (48 + ·) ++ acc
  | fuel + 1, n, acc, _, h => by
    rw [decDigitsAux]
    split
    · rename_i hn; rw [Digits.toDigits_lt hn]; rfl
    · have hlt : n / 10 < 10 ^ fuel := Nat.div_lt_of_lt_mul (by rw [Nat.pow_succ] at h; omega)
      have hf : 0 < fuel := Nat.pos_of_ne_zero fun e => by subst e; omega
      rw [decDigitsAux_eq fuel _ _ hf hlt, Digits.toDigits_ge (n := n) (by decide) (by omega),
        List.map_append, List.append_assoc]; rfl

/-- `10^64` covers all CRC widths up to 82 bits and the 128-bit XXH3 result. -/
theorem decValue_decAscii (n : Nat) (h : n < 10 ^ 64) : decValue (decAscii n) = n := by
  rw [decAscii, decDigitsAux_eq 64 n [] (by decide) h, List.append_nil, decValue, ← List.foldl_map]
  exact Digits.ofDigits_map_toDigits (by decide) (48 + ·) (· - 48) (fun _ _ => Nat.add_sub_cancel_left 48 _) n

theorem decAscii_inj (a b : Nat) (ha : a < 10 ^ 64) (hb : b < 10 ^ 64)
    (h : decAscii a = decAscii b) : a = b := by
  rw [← decValue_decAscii a ha, ← decValue_decAscii b hb, h]

/-! ### digest lengths -/

theorem foldl_length_inv {α β : Type} (f : List α → β → List α)
    (h : ∀ s x, (f s x).length = s.length) (l : List β) (s : List α) :
    (l.foldl f s).length = s.length :=
  List.foldlRecOn (motive := fun t => t.length = s.length) l f rfl fun t ht x _ => (h t x).trans ht

theorem flatMap_length_const {α β : Type} (f : α → List β) (k : Nat) (h : ∀ x, (f x).length = k) :
    ∀ l : List α, (l.flatMap f).length = k * l.length := by
  intro l
  induction l with
  | nil => simp
  | cons x l ih => simp [List.flatMap_cons, h, ih, Nat.mul_succ, Nat.add_comm]

theorem md5_length (m : Bytes) : (MD5.digest m).length = 16 := by
  simp [MD5.digest, toLE_length]

theorem sha1_round_length (st : List Nat) (tw : Nat × Nat) :
    (SHA.SHA1.round st tw).length = st.length := by
  unfold SHA.SHA1.round; split <;> simp

theorem sha1_block_length (h : List Nat) (blk : Bytes) : (SHA.SHA1.block h blk).length = h.length := by
  simp [SHA.SHA1.block, List.length_zipWith, foldl_length_inv _ sha1_round_length]

theorem sha1_length (m : Bytes) : (SHA.SHA1.digest m).length = 20 := by
  unfold SHA.SHA1.digest
  rw [flatMap_length_const (toBE 4) 4 (toBE_length 4), foldl_length_inv _ sha1_block_length]
  rfl

theorem sha2_round_length (c : SHA.Core) (st : List Nat) (kw : Nat × Nat) :
    (c.round st kw).length = st.length := by
  unfold SHA.Core.round; split <;> simp

theorem sha2_block_length (c : SHA.Core) (h : List Nat) (blk : Bytes) :
    (c.block h blk).length = h.length := by
  simp [SHA.Core.block, List.length_zipWith, foldl_length_inv _ (sha2_round_length c)]

theorem sha2_hashWords_length (c : SHA.Core) (iv : List Nat) (m : Bytes) :
    (c.hashWords iv m).length = iv.length := by
  unfold SHA.Core.hashWords
  exact foldl_length_inv _ (sha2_block_length c) _ _

theorem sha2_digest_length (c : SHA.Core) (iv : List Nat) (out : Nat) (m : Bytes) :
    (c.digest iv out m).length = min out (c.wordBytes * iv.length) := by
  unfold SHA.Core.digest
  rw [List.length_take, flatMap_length_const (toBE c.wordBytes) c.wordBytes (toBE_length _),
    sha2_hashWords_length]

theorem sha3_length (out : Nat) (m : Bytes) : (SHA3.sha3 out m).length = out := by
  simp [SHA3.sha3, toLE_length]

/-! ### padding lengths -/

/-- A message of `l` bytes, the byte 0x80, `(2 * blk - 1 - lb - l % blk) % blk` zero bytes and a
    length field of `lb` bytes fill whole blocks of `blk` bytes. -/
theorem padLen_mod {blk lb : Nat} (hblk : 0 < blk) (hlb : lb ≤ blk) (l : Nat) :
    (l + 1 + (2 * blk - 1 - lb - l % blk) % blk + lb) % blk = 0 := by
  have hr := Nat.mod_lt l hblk
  have hl := Nat.div_add_mod l blk
  have hx := Nat.div_add_mod (2 * blk - 1 - lb - l % blk) blk
  have key : l + 1 + (2 * blk - 1 - lb - l % blk) % blk + lb + blk * ((2 * blk - 1 - lb - l % blk) / blk) =
      blk * (l / blk + 2) := by
    rw [Nat.mul_add]; omega
  rw [← Nat.add_mul_mod_self_left _ blk ((2 * blk - 1 - lb - l % blk) / blk), key, Nat.mul_mod_right]

theorem pad_length_mod {blk lb : Nat} (hblk : 0 < blk) (hlb : lb ≤ blk) (m t : Bytes) (ht : t.length = lb) :
    (m ++ 0x80 :: List.replicate ((2 * blk - 1 - lb - m.length % blk) % blk) 0 ++ t).length % blk = 0 := by
  rw [List.length_append, List.length_append, List.length_cons, List.length_replicate, ht, ← Nat.add_assoc,
    Nat.add_right_comm _ _ 1]
  exact padLen_mod hblk hlb _

theorem md5_pad_length (m : Bytes) : (MD5.pad m).length % 64 = 0 :=
  pad_length_mod (blk := 64) (lb := 8) (by decide) (by decide) m _ (toLE_length 8 _)

theorem sha_pad64_length (m : Bytes) : (SHA.pad 64 8 m).length % 64 = 0 :=
  pad_length_mod (by decide) (by decide) m _ (toBE_length 8 _)

theorem sha_pad128_length (m : Bytes) : (SHA.pad 128 16 m).length % 128 = 0 :=
  pad_length_mod (by decide) (by decide) m _ (toBE_length 16 _)

theorem sha3_pad_length (rate : Nat) (hr : 2 ≤ rate) (m : Bytes) :
    (SHA3.pad rate m).length % rate = 0 ∧ m.length < (SHA3.pad rate m).length := by
  have hlt := Nat.mod_lt m.length (show 0 < rate by omega)
  have hdm := Nat.div_add_mod m.length rate
  unfold SHA3.pad
  simp only
  split
  · rename_i hq
    simp only [List.length_append, List.length_cons, List.length_nil]
    refine ⟨?_, by omega⟩
    have : m.length + 1 = rate * (m.length / rate + 1) := by rw [Nat.mul_add]; omega
    simp [this]
  · rename_i hq
    simp only [List.length_append, List.length_cons, List.length_replicate, List.length_nil]
    refine ⟨?_, by omega⟩
    have : m.length + (rate - m.length % rate - 2 + 1) + 1 = rate * (m.length / rate + 1) := by
      rw [Nat.mul_add]; omega
    simp [this]

/-! ### word bounds (the results fit the Rust integer types) -/

theorem reflect_lt : ∀ (w v : Nat), CRC.reflect w v < 2 ^ w
  | 0, _ => by simp [CRC.reflect]
  | w + 1, v => by
    have ih := reflect_lt w (v / 2)
    have h2 : v % 2 = 0 ∨ v % 2 = 1 := by omega
    simp only [CRC.reflect, Nat.pow_succ]
    rcases h2 with h | h <;> rw [h] <;> omega

theorem feedBit_lt (p : CRC.Params) (hp : p.poly < 2 ^ p.width) (reg bit : Nat) :
    CRC.feedBit p reg bit < 2 ^ p.width := by
  have hpos : 0 < 2 ^ p.width := Nat.pow_pos (by omega)
  unfold CRC.feedBit
  simp only
  split
  · exact Nat.xor_lt_two_pow (Nat.mod_lt _ hpos) hp
  · exact Nat.mod_lt _ hpos

theorem feedByte_lt (p : CRC.Params) (hp : p.poly < 2 ^ p.width) (reg byte : Nat)
    (hr : reg < 2 ^ p.width) : CRC.feedByte p reg byte < 2 ^ p.width :=
  List.foldlRecOn (motive := (· < 2 ^ p.width)) _ _ hr fun r _ _ _ => feedBit_lt p hp r _

theorem xorshift_lt (x s n : Nat) (h : x < 2 ^ n) : x ^^^ (x >>> s) < 2 ^ n := by
  apply Nat.xor_lt_two_pow h
  exact Nat.lt_of_le_of_lt (by rw [Nat.shiftRight_eq_div_pow]; exact Nat.div_le_self _ _) h

theorem xxh3_avalanche_lt (h : Nat) : XXH3.avalanche h < 2 ^ 64 := by
  unfold XXH3.avalanche XXH3.xorshift
  exact xorshift_lt _ 32 64 (Nat.mod_lt _ (by decide))

theorem xxh_avalanche64_lt (h : Nat) : XXH.avalanche64 h < 2 ^ 64 := by
  unfold XXH.avalanche64
  exact xorshift_lt _ 32 64 (Nat.mod_lt _ (by decide))

theorem xxh3_rrmxmx_lt (h len : Nat) : XXH3.rrmxmx h len < 2 ^ 64 := by
  unfold XXH3.rrmxmx XXH3.xorshift
  exact xorshift_lt _ 28 64 (Nat.mod_lt _ (by decide))

theorem xxh3_mergeAccs_lt (acc : List Nat) (soff start : Nat) : XXH3.mergeAccs acc soff start < 2 ^ 64 := by
  unfold XXH3.mergeAccs
  split
  · exact xxh3_avalanche_lt _
  · decide

theorem ite_lt {c : Prop} [Decidable c] {a b n : Nat} (ha : a < n) (hb : b < n) :
    (if c then a else b) < n := by split <;> assumption

/-- every arm of the dispatch on the input length ends in an avalanche or in `mergeAccs`. -/
theorem xxh3_64_lt (m : Bytes) : XXH3.xxh3_64 m < 2 ^ 64 :=
  ite_lt (xxh_avalanche64_lt _) <| ite_lt (xxh_avalanche64_lt _) <| ite_lt (xxh3_rrmxmx_lt _ _) <|
  ite_lt (xxh3_avalanche_lt _) <| ite_lt (xxh3_avalanche_lt _) <| ite_lt (xxh3_avalanche_lt _)
    (xxh3_mergeAccs_lt _ _ _)

theorem pack128_lt (hi lo : Nat) (h1 : hi < 2 ^ 64) (h2 : lo < 2 ^ 64) : hi * M64 + lo < 2 ^ 128 := by
  have : M64 = 2 ^ 64 := by decide
  rw [this]
  have : hi * 2 ^ 64 ≤ (2 ^ 64 - 1) * 2 ^ 64 := Nat.mul_le_mul_right _ (by omega)
  have e : (2:Nat) ^ 128 = (2 ^ 64 - 1) * 2 ^ 64 + 2 ^ 64 := by decide
  omega

theorem xxh3_finish128_lt (acc : Nat × Nat) (len : Nat) : XXH3.finish128 acc len < 2 ^ 128 := by
  unfold XXH3.finish128 XXH3.sub64
  exact pack128_lt _ _ (Nat.mod_lt _ (by decide)) (xxh3_avalanche_lt _)

theorem xxh3_128_lt (m : Bytes) : XXH3.xxh3_128 m < 2 ^ 128 :=
  ite_lt (pack128_lt _ _ (xxh_avalanche64_lt _) (xxh_avalanche64_lt _)) <|
  ite_lt (pack128_lt _ _ (xxh_avalanche64_lt _) (xxh_avalanche64_lt _)) <|
  ite_lt (pack128_lt _ _ (xxh3_avalanche_lt _) (xorshift_lt _ 28 64 (Nat.mod_lt _ (by decide)))) <|
  ite_lt (pack128_lt _ _ (xxh3_avalanche_lt _) (xxh3_avalanche_lt _)) <|
  ite_lt (xxh3_finish128_lt _ _) <| ite_lt (xxh3_finish128_lt _ _)
    (pack128_lt _ _ (xxh3_mergeAccs_lt _ _ _) (xxh3_mergeAccs_lt _ _ _))

end C27
