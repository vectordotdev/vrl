import VrlProofs.Lemmas.TypeKind
import VrlProofs.Lemmas.Sorted
import VrlProofs.Lemmas.Arith

/-! Value-level soundness of `Op::type_info` for the operators that evaluate both operands first,
    one family at a time against its operation in `Arith` (`cmp_sound`, `arith_sound`, `div_sound`,
    `merge_sound`): the result belongs to the reported kind; an error of an operation typed
    infallible is the NaN error of float arithmetic. -/

namespace Lang
open Spec

@[simp] theorem TypeDef.withKind_kind (t : TypeDef) (k : Kind) : (t.withKind k).kind = k := rfl
@[simp] theorem TypeDef.withKind_fallible (t : TypeDef) (k : Kind) : (t.withKind k).fallible = t.fallible := rfl
@[simp] theorem TypeDef.withKind_returns (t : TypeDef) (k : Kind) : (t.withKind k).returns = t.returns := rfl
@[simp] theorem TypeDef.setFallible_fallible (t : TypeDef) : t.setFallible.fallible = true := rfl
@[simp] theorem TypeDef.setFallible_kind (t : TypeDef) : t.setFallible.kind = t.kind := rfl
@[simp] theorem TypeDef.setFallible_returns (t : TypeDef) : t.setFallible.returns = t.returns := rfl
@[simp] theorem TypeDef.union_fallible (a b : TypeDef) : (a.union b).fallible = (a.fallible || b.fallible) := rfl
@[simp] theorem TypeDef.union_kind (a b : TypeDef) : (a.union b).kind = a.kind.union b.kind := rfl
@[simp] theorem TypeDef.union_returns (a b : TypeDef) : (a.union b).returns = a.returns.union b.returns := rfl

theorem TypeDef.fallibleUnless_kind (t : TypeDef) (k : Kind) : (t.fallibleUnless k).kind = t.kind := by
  unfold TypeDef.fallibleUnless; split <;> rfl

theorem TypeDef.fallibleUnless_returns (t : TypeDef) (k : Kind) : (t.fallibleUnless k).returns = t.returns := by
  unfold TypeDef.fallibleUnless; split <;> rfl

theorem TypeDef.fallibleUnless_fallible (t : TypeDef) (k : Kind) :
    (t.fallibleUnless k).fallible = (t.fallible || !k.isSuperset t.kind) := by
  unfold TypeDef.fallibleUnless; split <;> simp [*]

theorem TypeDef.fallibleUnless_sound {v : Value} {t : TypeDef} {k : Kind}
    (hk : k.anyUnknown Unknown.exactIsAny = false) (hv : memR v t.kind = true) :
    (t.fallibleUnless k).fallible = true ∨ memR v k = true := by
  rw [TypeDef.fallibleUnless_fallible]
  cases hs : k.isSuperset t.kind
  · simp
  · exact Or.inr (memR_of_isSuperset hk hs hv)

theorem sorted_of_scalar {x : Value} (h : ∀ a, x ≠ .arr a) (h' : ∀ m, x ≠ .obj m) : x.Sorted = true := by
  cases x <;> first | rfl | exact absurd rfl (h _) | exact absurd rfl (h' _)

theorem ofArith_ok {r : Arith.Res Value} {x : Value} (h : ofArith r = .ok x) : r = .ok x := by
  cases r <;> simp_all [ofArith]

theorem ofArith_err {r : Arith.Res Value} (h : ofArith r = .err) : ∃ e, r = .err e := by
  cases r <;> simp_all [ofArith]

/-- the type `Op::type_info` gives `>` `>=` `<` `<=`: the arm of `opDef` for these four (by `rfl`) -/
def cmpDef (l r : TypeDef) : TypeDef :=
  if (l.kind.isBytes && r.kind.isBytes) || (l.kind.isTimestamp && r.kind.isTimestamp) then
    (l.union r).withKind Kind.boolean
  else ((l.fallibleUnless numKind).union (r.fallibleUnless numKind)).withKind Kind.boolean

theorem cmp_sound (c : Arith.Cmp) (v w : Value) (l r : TypeDef)
    (hv : memR v l.kind = true) (hw : memR w r.kind = true) :
    (∀ x, Arith.tryCmp c v w = .ok x → ∃ b, x = .bool b) ∧
    (∀ e, Arith.tryCmp c v w = .err e → (cmpDef l r).fallible = true) := by
  constructor
  · intro x
    fun_cases Arith.tryCmp c v w <;> intro hx <;> cases hx <;> exact ⟨_, rfl⟩
  · intro e he
    unfold cmpDef
    split
    · rename_i hc
      exfalso
      simp only [Bool.or_eq_true, Bool.and_eq_true] at hc
      rcases hc with ⟨h1, h2⟩ | ⟨h1, h2⟩
      · obtain ⟨a, rfl⟩ := memR_isBytes h1 hv
        obtain ⟨b, rfl⟩ := memR_isBytes h2 hw
        cases he
      · obtain ⟨a, rfl⟩ := memR_isTimestamp h1 hv
        obtain ⟨b, rfl⟩ := memR_isTimestamp h2 hw
        cases he
    · rcases TypeDef.fallibleUnless_sound numKind_noExactAny hv with h1 | m1
      · simp [h1]
      rcases TypeDef.fallibleUnless_sound numKind_noExactAny hw with h2 | m2
      · simp [h2]
      rcases memR_numKind m1 with ⟨a, rfl⟩ | ⟨a, rfl⟩ <;> rcases memR_numKind m2 with ⟨b, rfl⟩ | ⟨b, rfl⟩ <;>
        cases he

theorem floatResult_ok {o : Option Nat} {x : Value} (h : Arith.floatResult o = .ok x) : ∃ b, x = .float b :=
  let ⟨r, _, _, e⟩ := Arith.floatResult_eq_ok h
  ⟨r, e⟩

theorem repeatBytes_ok {b : List Nat} {n : Int} {x : Value} (h : Arith.repeatBytes b n = .ok x) :
    ∃ c, x = .bytes c := by
  rw [C11.repeatBytes_spec] at h
  split at h <;> cases h
  exact ⟨_, rfl⟩

theorem repeatBytes_not_err {b : List Nat} {n : Int} {e : Arith.Err} (h : Arith.repeatBytes b n = .err e) :
    False := by
  rw [C11.repeatBytes_spec] at h
  split at h <;> cases h

theorem arithDef_returns (o : Opcode) (l r : TypeDef) (nf : Bool) :
    (arithDef o l r nf).returns = l.returns.union r.returns := by
  simp only [arithDef, apply_ite TypeDef.returns, TypeDef.withKind_returns, TypeDef.setFallible_returns,
    TypeDef.union_returns, TypeDef.fallibleUnless_returns, ite_self]

theorem arithDef_fallible (o : Opcode) (l r : TypeDef) (nf : Bool) (h : l.fallible = true ∨ r.fallible = true) :
    (arithDef o l r nf).fallible = true := by
  rcases h with h | h <;>
    simp only [arithDef, apply_ite TypeDef.fallible, TypeDef.withKind_fallible, TypeDef.setFallible_fallible,
      TypeDef.union_fallible, TypeDef.fallibleUnless_fallible, h, Bool.true_or, Bool.or_true, ite_self]

theorem arithDef_kind_nf (o : Opcode) (l r : TypeDef) (nf : Bool) :
    (arithDef o l r nf).kind = (arithDef o l r false).kind := by
  simp only [arithDef, apply_ite TypeDef.kind, TypeDef.withKind_kind, TypeDef.setFallible_kind, ite_self]

/-- the value-level operation of `+` `-` `*`: `binop o v w = ofArith (arithFn o v w)` for these three,
    as `opDef o l lv r rv = arithDef o l r (constNaN o lv rv)` (both by `rfl`) -/
def arithFn : Opcode → Value → Value → Arith.Res Value
  | .add => Arith.tryAdd
  | .sub => Arith.trySub
  | _ => Arith.tryMul

theorem arithFn_ok_shape (o : Opcode) (ho : o = .add ∨ o = .sub ∨ o = .mul) (v w x : Value)
    (h : arithFn o v w = .ok x) : (∃ i, x = .int i) ∨ (∃ b, x = .float b) ∨ (∃ b, x = .bytes b ∧ o ≠ .sub) := by
  rcases ho with rfl | rfl | rfl
  · exact (C11.ok_shape .add v w x h).imp_right (.imp_right fun ⟨b, e, _⟩ => ⟨b, e, nofun⟩)
  · exact (C11.ok_shape .sub v w x h).imp_right (.imp_right fun ⟨_, _, hs⟩ => by simp at hs)
  · exact (C11.ok_shape .mul v w x h).imp_right (.imp_right fun ⟨b, e, _⟩ => ⟨b, e, nofun⟩)

theorem arithFn_float (o : Opcode) (ho : o = .add ∨ o = .sub ∨ o = .mul) (a : Nat) (u : Value) (w : Arith.Res Value)
    (hw : arithFn o (.float a) u = w ∨ arithFn o u (.float a) = w) :
    (∃ fo, w = Arith.floatResult fo) ∨ ((∃ e, w = .err e) ∧ isNumber u = false) := by
  rcases hw with rfl | rfl <;> rcases ho with rfl | rfl | rfl <;> cases u <;>
    first | exact Or.inr ⟨⟨_, rfl⟩, rfl⟩ | exact Or.inl ⟨_, rfl⟩

theorem tryAdd_bytes (a : List Nat) (u : Value) (w : Arith.Res Value)
    (hw : Arith.tryAdd (.bytes a) u = w ∨ Arith.tryAdd u (.bytes a) = w) :
    (∃ b, w = .ok (.bytes b)) ∨ ((∃ e, w = .err e) ∧ u ≠ .null ∧ ∀ b, u ≠ .bytes b) := by
  rcases hw with rfl | rfl <;> cases u <;>
    first | exact Or.inr ⟨⟨_, rfl⟩, nofun, fun _ => nofun⟩ | exact Or.inl ⟨_, rfl⟩

theorem arith_sound (o : Opcode) (ho : o = .add ∨ o = .sub ∨ o = .mul) (v w : Value) (l r : TypeDef)
    (nf : Bool) (hv : memR v l.kind = true) (hw : memR w r.kind = true) :
    (∀ x, arithFn o v w = .ok x → memR x (arithDef o l r nf).kind = true ∧ x.Sorted = true) ∧
    (∀ e, arithFn o v w = .err e →
      (arithDef o l r nf).fallible = true ∨ (e = .nanFloat ∧ (arithDef o l r nf).kind.prim.float = true)) := by
  generalize hd : arithDef o l r nf = d
  unfold arithDef at hd
  by_cases c : (o == .add && (l.kind.isBytes || r.kind.isBytes)) = true
  · -- string concatenation: one operand is a string
    rw [if_pos c] at hd; subst hd
    simp only [Bool.and_eq_true, beq_iff_eq, Bool.or_eq_true] at c
    obtain ⟨rfl, c⟩ := c
    -- whichever operand is the string `a`: `u` is the other one, typed `tu`; `tryAdd_bytes` takes both orders
    obtain ⟨a, u, tu, hu, htu, hfn⟩ : ∃ a u, ∃ tu : TypeDef, memR u tu.kind = true ∧
        ((tu.fallibleUnless bytesNull).fallible = true →
          ((l.fallibleUnless bytesNull).union (r.fallibleUnless bytesNull)).fallible = true) ∧
        (Arith.tryAdd (.bytes a) u = arithFn .add v w ∨ Arith.tryAdd u (.bytes a) = arithFn .add v w) := by
      rcases c with hb | hb
      · obtain ⟨a, rfl⟩ := memR_isBytes hb hv; exact ⟨a, w, r, hw, fun h => by simp [h], Or.inl rfl⟩
      · obtain ⟨a, rfl⟩ := memR_isBytes hb hw; exact ⟨a, v, l, hv, fun h => by simp [h], Or.inr rfl⟩
    rcases tryAdd_bytes a u _ hfn with ⟨b, hb⟩ | ⟨⟨e', he'⟩, hn, hb⟩
    · rw [hb]
      exact ⟨fun x hx => (by cases hx; exact ⟨memR_bytes _ rfl, rfl⟩), fun _ => nofun⟩
    · rw [he']
      refine ⟨fun _ => nofun, fun e _ => Or.inl (htu ?_)⟩
      rcases TypeDef.fallibleUnless_sound bytesNull_noExactAny hu with h | m
      · exact h
      · rcases memR_bytesNull m with h | ⟨b, h⟩
        · exact absurd h hn
        · exact absurd h (hb b)
  rw [if_neg c] at hd; clear c
  by_cases c : (l.kind.isFloat || r.kind.isFloat) = true
  · -- float arithmetic: one operand is a float
    rw [if_pos c] at hd; subst hd
    simp only [Bool.or_eq_true] at c
    have hk : ∀ t : TypeDef, (if nf = true then (t.withKind Kind.float).setFallible else t.withKind Kind.float).kind
        = Kind.float := by intro t; cases nf <;> rfl
    obtain ⟨a, u, tu, hu, htu, hfn⟩ : ∃ a u, ∃ tu : TypeDef, memR u tu.kind = true ∧
        ((tu.fallibleUnless numKind).fallible = true →
          ((l.fallibleUnless numKind).union (r.fallibleUnless numKind)).fallible = true) ∧
        (arithFn o (.float a) u = arithFn o v w ∨ arithFn o u (.float a) = arithFn o v w) := by
      rcases c with hb | hb
      · obtain ⟨a, rfl⟩ := memR_isFloat hb hv; exact ⟨a, w, r, hw, fun h => by simp [h], Or.inl rfl⟩
      · obtain ⟨a, rfl⟩ := memR_isFloat hb hw; exact ⟨a, v, l, hv, fun h => by simp [h], Or.inr rfl⟩
    rw [hk]
    rcases arithFn_float o ho a u _ hfn with ⟨fo, hfo⟩ | ⟨⟨e', he'⟩, hn⟩
    · rw [hfo]
      refine ⟨fun x hx => ?_, fun e he => Or.inr ⟨Arith.floatResult_eq_err he, rfl⟩⟩
      obtain ⟨b, rfl⟩ := floatResult_ok hx
      exact ⟨memR_float b rfl, rfl⟩
    · rw [he']
      refine ⟨fun _ => nofun, fun e _ => Or.inl ?_⟩
      have : ((l.fallibleUnless numKind).union (r.fallibleUnless numKind)).fallible = true := by
        apply htu
        rcases TypeDef.fallibleUnless_sound numKind_noExactAny hu with h | m
        · exact h
        · rcases memR_numKind m with ⟨i, rfl⟩ | ⟨b, rfl⟩ <;> cases hn
      cases nf
      · exact this
      · rfl
  rw [if_neg c] at hd; clear c
  by_cases c : (l.kind.isInteger && r.kind.isInteger) = true
  · -- integers
    rw [if_pos c] at hd; subst hd
    simp only [Bool.and_eq_true] at c
    obtain ⟨a, rfl⟩ := memR_isInteger c.1 hv
    obtain ⟨b, rfl⟩ := memR_isInteger c.2 hw
    rcases ho with rfl | rfl | rfl <;>
      exact ⟨fun x hx => (by cases hx; exact ⟨memR_int _ rfl, rfl⟩), fun _ => nofun⟩
  rw [if_neg c] at hd; clear c
  by_cases c : (o == .mul && l.kind.isBytes && r.kind.isInteger) = true
  · -- string * integer
    rw [if_pos c] at hd; subst hd
    simp only [Bool.and_eq_true, beq_iff_eq] at c
    obtain ⟨⟨rfl, h1⟩, h2⟩ := c
    obtain ⟨a, rfl⟩ := memR_isBytes h1 hv
    obtain ⟨b, rfl⟩ := memR_isInteger h2 hw
    refine ⟨fun x hx => ?_, fun e he => (repeatBytes_not_err he).elim⟩
    obtain ⟨c, rfl⟩ := repeatBytes_ok hx
    exact ⟨memR_bytes _ rfl, rfl⟩
  rw [if_neg c] at hd; clear c
  by_cases c : (o == .mul && l.kind.isInteger && r.kind.isBytes) = true
  · rw [if_pos c] at hd; subst hd
    simp only [Bool.and_eq_true, beq_iff_eq] at c
    obtain ⟨⟨rfl, h1⟩, h2⟩ := c
    obtain ⟨a, rfl⟩ := memR_isInteger h1 hv
    obtain ⟨b, rfl⟩ := memR_isBytes h2 hw
    refine ⟨fun x hx => ?_, fun e he => (repeatBytes_not_err he).elim⟩
    obtain ⟨c, rfl⟩ := repeatBytes_ok hx
    exact ⟨memR_bytes _ rfl, rfl⟩
  -- the catch-all rules: fallible, and every possible result is in the kind
  rw [if_neg c] at hd; subst hd
  refine ⟨fun x hx => ?_, fun e _ => Or.inl (by split <;> rfl)⟩
  rcases arithFn_ok_shape o ho v w x hx with ⟨i, rfl⟩ | ⟨b, rfl⟩ | ⟨b, rfl, hne⟩
  · split <;> exact ⟨memR_int i rfl, rfl⟩
  · split <;> exact ⟨memR_float b rfl, rfl⟩
  · rw [if_neg (by simpa using hne)]
    exact ⟨memR_bytes b rfl, rfl⟩

theorem div_sound (v w : Value) (l : TypeDef) (rv : Option Value) (hv : memR v l.kind = true)
    (hrv : ∀ c, rv = some c → w = c) :
    (∀ x, Arith.tryDiv v w = .ok x → ∃ b, x = .float b) ∧
    (∀ e, Arith.tryDiv v w = .err e → divInfallible l rv = true → e = .nanFloat) := by
  constructor
  · intro x hx
    obtain ⟨o, e⟩ | ⟨_, e⟩ := C11.div_float_or_err v w <;> rw [e] at hx
    · exact floatResult_ok hx
    · cases hx
  · intro e he hd
    unfold divInfallible at hd
    simp only [Bool.and_eq_true, Bool.or_eq_true] at hd
    obtain ⟨hl, hr⟩ := hd
    have hvn : (∃ i, v = .int i) ∨ ∃ b, v = .float b := by
      rcases hl with hl | hl
      · exact Or.inr (memR_isFloat hl hv)
      · exact Or.inl (memR_isInteger hl hv)
    cases rv with
    | none => simp at hr
    | some c =>
      have hw := hrv c rfl
      subst hw
      cases w <;> simp at hr
      · rename_i i
        simp only [Arith.tryDiv, hr, if_false] at he
        rcases hvn with ⟨a, rfl⟩ | ⟨a, rfl⟩ <;> exact Arith.floatResult_eq_err he
      · rename_i b
        simp only [Arith.tryDiv, F64.isNormal_ne_zero b hr, Bool.false_eq_true, if_false] at he
        rcases hvn with ⟨a, rfl⟩ | ⟨a, rfl⟩ <;> exact Arith.floatResult_eq_err he

theorem mergeMaps_eq_mergeInto : (b a : VMap) → Arith.mergeMaps a b = VMap.mergeInto a b
  | .nil, _ => rfl
  | .cons k v m, a => by rw [Arith.mergeMaps, VMap.mergeInto]; exact mergeMaps_eq_mergeInto m _

theorem mergeInto_sorted : (b a : VMap) → a.Sorted = true → b.Sorted = true →
    (VMap.mergeInto a b).Sorted = true
  | .nil, _, ha, _ => ha
  | .cons k v m, a, ha, hb => by
    rw [VMap.sorted_cons] at hb
    rw [VMap.mergeInto]
    exact mergeInto_sorted m _ (VMap.sorted_insert a k v ha hb.1) hb.2.2

theorem merge_sound (v w : Value) (l r : Kind) (hv : memR v l = true) (hw : memR w r = true)
    (hvs : v.Sorted = true) (hws : w.Sorted = true)
    (hobj : (l.isObject && r.isObject) = true) (hok : mergeOk l r = true) :
    ∃ a b, v = .obj a ∧ w = .obj b ∧
      mem (.obj (Arith.mergeMaps a b)) (l.merge r .overwrite) = true ∧
      (Value.obj (Arith.mergeMaps a b)).Sorted = true := by
  simp only [Bool.and_eq_true] at hobj
  obtain ⟨a, rfl⟩ := memR_isObject hobj.1 hv
  obtain ⟨b, rfl⟩ := memR_isObject hobj.2 hw
  refine ⟨a, b, rfl, rfl, ?_, ?_⟩
  · have hv' : mem (.obj a) l = true := by
      rcases (memR_iff _ _).mp hv with h | ⟨h, _⟩
      · exact h
      · cases h
    have hw' : mem (.obj b) r = true := by
      rcases (memR_iff _ _).mp hw with h | ⟨h, _⟩
      · exact h
      · cases h
    simp only [mergeOk, Bool.and_eq_true, decide_eq_true_eq] at hok
    have := C19.merge_sound_partial (.obj a) (.obj b) l r hvs hws hok.1.1 hok.1.2 hok.2
    simp only [C19.mergeLawM, C19.mergeLaw, hv', hw', Bool.and_self, Bool.not_true, Bool.false_or] at this
    rw [mergeMaps_eq_mergeInto]
    exact this
  · rw [mergeMaps_eq_mergeInto]
    simp only [Value.Sorted] at hvs hws ⊢
    exact mergeInto_sorted b a hvs hws

end Lang
