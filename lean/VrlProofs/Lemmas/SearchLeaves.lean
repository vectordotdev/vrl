/-
  C30: every leaf in normal form other than a wildcard is `LeafGood` — its printed text is read back
  by `clause` (and, in first position, by `multiterm`/`clause`) as the same leaf.

  The printed text of a leaf is `attrPrefix a ++ body`.  `leafGood_attr` reduces `LeafGood` to three facts
  about the body: `value` reads it back, the visitor turns the token into the leaf, and — when there is
  no attribute in front — nothing of the query syntax applies before the value (`ValueStart`).
-/
import VrlProofs.Lemmas.SearchSkeleton
import VrlProofs.Lemmas.SearchTokens

namespace Search
open Grammar

theorem alt_none {α : Type} (b : Option α) : alt none b = b := rfl
theorem alt_some {α : Type} (x : α) (b : Option α) : alt (some x) b = some x := rfl

theorem starValue_ne (c : Char) (r : Str) (h : c ≠ '*') : starValue (c :: r) = none := by
  simp [starValue, h]

theorem phrase_ne (c : Char) (r : Str) (h : c ≠ '"') : phrase (c :: r) = none := by
  simp [phrase, h]

theorem operator_ne (c : Char) (r : Str) (h1 : c ≠ '>') (h2 : c ≠ '<') : operator (c :: r) = none := by
  simp [operator, h1, h2]

theorem comparison_ne (c : Char) (r : Str) (h1 : c ≠ '>') (h2 : c ≠ '<') : comparison (c :: r) = none := by
  simp [comparison, operator_ne c r h1 h2]

theorem range_ne (c : Char) (r : Str) (h1 : c ≠ '[') (h2 : c ≠ '{') : range (c :: r) = none := by
  simp [range, h1, h2]

theorem value_of_globStart (c : Char) (r : Str) (h : isTermStart c = true ∨ isGlobChar c = true) :
    value (c :: r) =
      alt (starValue (c :: r)) (alt (prefixValue (c :: r)) (alt (termValue (c :: r)) (globValue (c :: r)))) := by
  have ne : ∀ d, isInvalidStartChar d = true → d ≠ '\\' → isGlobChar d = false → c ≠ d := by
    intro d h1 h2 h3 e
    subst e
    simp [isTermStart, h1, h2, h3] at h
  simp only [value, phraseValue, phrase_ne c r (ne '"' rfl (by decide) rfl), Option.map_none, alt_none,
    comparison_ne c r (ne '>' rfl (by decide) rfl) (ne '<' rfl (by decide) rfl),
    range_ne c r (ne '[' rfl (by decide) rfl) (ne '{' rfl (by decide) rfl)]

theorem termPrefix_none_of_scan (s t rest : Str) (hs : termScan s = some (t, rest))
    (hr : ∀ r', rest ≠ '*' :: r') : termPrefix s = none := by
  unfold termPrefix
  rw [hs]
  cases rest with
  | nil => rfl
  | cons c r' =>
    have : c ≠ '*' := by intro e; subst e; exact hr r' rfl
    simp [this]

theorem termPrefix_of_scan (s t rest : Str) (hs : termScan s = some (t, '*' :: rest))
    (he : atTermEnd rest = true) : termPrefix s = some (t ++ ['*'], rest) := by
  unfold termPrefix
  rw [hs]
  simp [he]

theorem ItemEnd.termStop {rest : Str} (h : ItemEnd rest) : termStop rest = true :=
  termStop_of_atTermEnd h.atTermEnd

theorem ItemEnd.numStop {rest : Str} (h : ItemEnd rest) : numStop rest = true := by
  rcases h with h | ⟨r, h⟩ | ⟨r, h⟩ | ⟨r, h⟩ <;> subst h <;> rfl

theorem isTermStart_cons {c : Char} {t : Str} (h : termText (c :: t) = true) : isTermStart c = true := by
  simp only [termText, Bool.and_eq_true] at h
  exact h.1

theorem value_term (t rest : Str) (ht : termText t = true) (hk : kwStart t = false) (hr : ItemEnd rest) :
    value (t ++ rest) = some (.term t, rest) := by
  have hs := termScan_text t rest ht hr.termStop
  have htm := term_text t rest ht hk hr.termStop
  cases t with
  | nil => simp [termText] at ht
  | cons c t =>
    have hc := isTermStart_cons ht
    rw [List.cons_append] at hs htm ⊢
    simp only [value_of_globStart c _ (Or.inl hc), starValue_ne c _ (isTermStart_ne hc '*' rfl (by decide)),
      alt_none, prefixValue, termPrefix_none_of_scan _ _ rest hs hr.not_star, Option.map_none, termValue, htm,
      hr.atTermEnd, if_true, alt_some]

theorem value_pfx (t rest : Str) (ht : termText t = true) (hr : ItemEnd rest) :
    value (t ++ '*' :: rest) = some (.pfx (t ++ ['*']), rest) := by
  have hs := termScan_text t ('*' :: rest) ht (termStop_star rest)
  cases t with
  | nil => simp [termText] at ht
  | cons c t =>
    have hc := isTermStart_cons ht
    rw [List.cons_append] at hs ⊢
    simp only [value_of_globStart c _ (Or.inl hc), starValue_ne c _ (isTermStart_ne hc '*' rfl (by decide)),
      alt_none, prefixValue, termPrefix_of_scan _ _ rest hs hr.atTermEnd, Option.map_some, alt_some]

/-- the text starts with a character that is no white space -/
def Solid (s : Str) : Prop := ∃ c t, s = c :: t ∧ isWs c = false

theorem Solid.skipWs {s : Str} (h : Solid s) (x : Str) : skipWs (s ++ x) = s ++ x := by
  obtain ⟨c, t, rfl, hc⟩ := h
  exact skipWs_head c _ hc

theorem Solid.ne_nil {s : Str} (h : Solid s) : s ≠ [] := by
  obtain ⟨c, t, rfl, _⟩ := h
  simp

theorem Solid.append {s : Str} (h : Solid s) (x : Str) : Solid (s ++ x) := by
  obtain ⟨c, t, rfl, hc⟩ := h
  exact ⟨c, t ++ x, rfl, hc⟩

theorem matchall_ne (c : Char) (r : Str) (h : c ≠ '*') : matchall (c :: r) = none := by
  simp [matchall, stripPrefix, Ne.symm h]

theorem matchall_star_ne (d : Char) (r : Str) (h : d ≠ ':') : matchall ('*' :: d :: r) = none := by
  simp [matchall, stripPrefix, Ne.symm h]

theorem modifiers_none_of (c : Char) (r : Str) (hp : c ≠ '+') (hm : c ≠ '-')
    (hn : startsWith ['N', 'O', 'T'] (c :: r) = false) : modifiers (c :: r) = none := by
  have : kwNot (c :: r) = none := by
    rw [← Option.isNone_iff_eq_none, kwNot_isNone, hn, startsWith_minus c r hm]; rfl
  simp [modifiers, hp, this]

theorem kwStart_not {s : Str} (h : kwStart s = false) : startsWith ['N', 'O', 'T'] s = false := by
  simp only [kwStart, Bool.or_eq_false_iff] at h
  exact h.1.1.2

theorem isTermStart_notWs {c : Char} (h : isTermStart c = true) : isWs c = false := by
  cases hw : isWs c with
  | false => rfl
  | true =>
    have : c ≠ '\\' := by intro e; subst e; exact absurd hw (by decide)
    simp [isTermStart, isInvalidStartChar, hw, this] at h

theorem termText_solid {t : Str} (ht : termText t = true) : Solid t := by
  cases t with
  | nil => simp [termText] at ht
  | cons c t => exact ⟨c, t, rfl, isTermStart_notWs (isTermStart_cons ht)⟩

theorem termText_noAll (t x : Str) (ht : termText t = true) : matchall (t ++ x) = none := by
  cases t with
  | nil => simp [termText] at ht
  | cons c t => exact matchall_ne c _ (isTermStart_ne (isTermStart_cons ht) '*' rfl (by decide))

theorem termText_noMod (t rest : Str) (ht : termText t = true) (hk : kwStart t = false)
    (hr : termStop rest = true) : modifiers (t ++ rest) = none := by
  have hn := kwStart_not ((kwStart_append t rest hr).trans hk)
  cases t with
  | nil => simp [termText] at ht
  | cons c t =>
    have hc := isTermStart_cons ht
    exact modifiers_none_of c _ (isTermStart_ne hc '+' rfl (by decide)) (isTermStart_ne hc '-' rfl (by decide)) hn

theorem field_of_term (s t r : Str) (h : term s = some (t, ':' :: r)) : field s = some (t, r) := by
  simp [field, h]

theorem field_none_of_term (s t rest : Str) (h : term s = some (t, rest)) (hr : ∀ r', rest ≠ ':' :: r') :
    field s = none := by
  unfold field
  rw [h]
  cases rest with
  | nil => rfl
  | cons c r' =>
    have : c ≠ ':' := by intro e; subst e; exact hr r' rfl
    simp [this]

theorem field_none_of_term_none (s : Str) (h : term s = none) : field s = none := by
  simp [field, h]

theorem multiterm_none_of_term_none (s : Str) (h : term s = none) : multiterm s = none := by
  simp [multiterm, multitermLookahead, h]

theorem multiterm_none_of_term (s t : Str) (c : Char) (r : Str) (h : term s = some (t, c :: r))
    (hc : c = ':' ∨ c = '*') : multiterm s = none := by
  have : multitermLookahead s = false := by
    simp only [multitermLookahead, h]
    cases hc with
    | inl e => subst e; simp
    | inr e => subst e; simp
  simp [multiterm, this]

/-- at `s` nothing of the query syntax applies before the value: `clause`, and `item` in first
    position, go straight to `value` -/
structure ValueStart (s : Str) : Prop where
  noAll : matchall s = none
  noField : field s = none
  /-- in first position `multiterm` is tried before `clause`: it does not apply, or it reads the one
      `TERM` that `value` reads as well (a default-field term alone in its query) -/
  multi : multiterm s = none ∨ ∃ t r, multiterm s = some ([t], r) ∧ value s = some (.term t, r)
  noMod : modifiers s = none
  skip : skipWs s = s

theorem clause_value (fuel : Nat) (s : Str) (v : PValue) (rest : Str) (hs : ValueStart s)
    (hv : value s = some (v, rest)) : clause (fuel + 1) s = .ok (.value none v) rest := by
  rw [clause, hs.noAll]
  simp [hs.noField, hs.skip, hv]

theorem clause_attr_value (fuel : Nat) (a x : Str) (v : PValue) (rest : Str)
    (hm : matchall (a ++ ':' :: x) = none) (hf : field (a ++ ':' :: x) = some (a, x)) (hx : skipWs x = x)
    (hv : value x = some (v, rest)) : clause (fuel + 1) (a ++ ':' :: x) = .ok (.value (some a) v) rest := by
  rw [clause, hm]
  simp [hf, hx, hv]

theorem rawTermOK_parts {a : Str} (h : rawTermOK a = true) : termText a = true ∧ kwStart a = false := by
  simp only [rawTermOK, Bool.and_eq_true, Bool.not_eq_true'] at h
  exact ⟨termText_raw a h.1.2, h.2⟩

/-- a character a `TERM_GLOB` may hold unescaped is no backslash -/
theorem unescape_mid {l : Str} (h : l.all (fun c => isMidChar c || isGlobChar c) = true) : unescape l = l :=
  unescape_noBackslash l fun c hc e => by subst e; exact absurd (List.all_eq_true.mp h _ hc) (by decide)

theorem rawTerm_all {a : Str} (h : rawTermChars a = true) :
    a.all (fun c => isMidChar c || isGlobChar c) = true := by
  cases a with
  | nil => rfl
  | cons c r =>
    simp only [rawTermChars, Bool.and_eq_true] at h
    rw [List.all_cons, isMidChar, h.1,
      List.all_eq_true.mpr fun d hd => by rw [List.all_eq_true.mp h.2 d hd]; rfl]
    rfl

theorem unescape_rawTerm (a : Str) (h : rawTermOK a = true) : unescape a = a := by
  simp only [rawTermOK, Bool.and_eq_true] at h
  exact unescape_mid (rawTerm_all h.1.2)

theorem term_attr (a x : Str) (h : rawTermOK a = true) : term (a ++ ':' :: x) = some (a, ':' :: x) :=
  term_text a _ (rawTermOK_parts h).1 (rawTermOK_parts h).2 (termStop_colon x)

/-- the three special field names as characters: the kernel evaluates these faster than the literals -/
theorem defaultField_chars : defaultField = ['_', 'd', 'e', 'f', 'a', 'u', 'l', 't', '_'] := String.toList_ofList
theorem existsField_chars : existsField = ['_', 'e', 'x', 'i', 's', 't', 's', '_'] := String.toList_ofList
theorem missingField_chars : missingField = ['_', 'm', 'i', 's', 's', 'i', 'n', 'g', '_'] := String.toList_ofList

theorem unescape_default : unescape defaultField = defaultField := by
  rw [defaultField_chars]; decide

theorem unescape_attr (a : Str) (h : attrOK a = true) : unescape a = a := by
  simp only [attrOK, Bool.or_eq_true, decide_eq_true_eq] at h
  cases h with
  | inl h => subst h; exact unescape_default
  | inr h => exact unescape_rawTerm a h

theorem attrPrefix_default : attrPrefix defaultField = [] := by simp [attrPrefix]

theorem attrPrefix_ne (a : Str) (h : a ≠ defaultField) : attrPrefix a = a ++ [':'] := by simp [attrPrefix, h]

theorem existsField_ne_default : existsField ≠ defaultField := by
  rw [existsField_chars, defaultField_chars]; decide
theorem missingField_ne_default : missingField ≠ defaultField := by
  rw [missingField_chars, defaultField_chars]; decide
theorem missing_ne_exists : missingField ≠ existsField := by
  rw [missingField_chars, existsField_chars]; decide
theorem default_ne_exists : defaultField ≠ existsField := existsField_ne_default.symm
theorem default_ne_missing : defaultField ≠ missingField := missingField_ne_default.symm

theorem leafGood_of_clause (F : FloatLib) (l : Leaf) (pc : PClause)
    (hcl : ∀ fuel rest, ItemEnd rest → clause (fuel + 1) (l.toLucene F ++ rest) = .ok pc rest)
    (hv : visitClause F pc defaultField = .ok (.leaf l))
    (hmt : ∀ rest, ItemEnd rest → multiterm (l.toLucene F ++ rest) = none)
    (hmod : ∀ rest, ItemEnd rest → modifiers (l.toLucene F ++ rest) = none)
    (hs : Solid (l.toLucene F)) : LeafGood F l where
  first := fun fuel rest hr => ⟨.clause none none pc,
    item_first_plain (fuel + 1) _ rest pc (hmt rest hr) (hmod rest hr) (hs.skipWs rest) (hcl fuel rest hr),
    pushes_clause F none pc _ hv⟩
  clause := ⟨pc, hcl, hv⟩
  head := hs.skipWs
  noMod := hmod
  nonEmpty := hs.ne_nil

/-- `item` in first position at a `ValueStart`: the value as a clause, or the lone term as a multiterm -/
theorem item_first_value (F : FloatLib) (l : Leaf) (fuel : Nat) (s : Str) (v : PValue) (rest : Str)
    (hs : ValueStart s) (hv : value s = some (v, rest)) (hvis : visitValue F defaultField v = .ok (.leaf l)) :
    ∃ it, item (fuel + 2) false s = .ok it rest ∧ Pushes F it none (.leaf l) := by
  cases hs.multi with
  | inl hmt =>
    exact ⟨.clause none none (.value none v),
      item_first_plain (fuel + 1) s rest _ hmt hs.noMod hs.skip (clause_value fuel s v rest hs hv),
      pushes_clause F none _ _ (by simpa [visitClause] using hvis)⟩
  | inr h =>
    obtain ⟨t, r, hm, hv'⟩ := h
    cases hv.symm.trans hv'
    refine ⟨.multiterm [t], by rw [item, hm], fun tail st => ?_⟩
    have : visitMultiterm [t] defaultField = .leaf l := by
      simpa [visitValue, default_ne_exists, default_ne_missing, visitMultiterm, joinSpace, unescape_default]
        using hvis
    simp [PItem.cons, visitItems, this, VState.conj]

theorem leafGood_attr (F : FloatLib) (l : Leaf) (a body : Str) (v : PValue)
    (hL : l.toLucene F = attrPrefix a ++ body) (hattr : attrOK a = true)
    (hval : ∀ rest, ItemEnd rest → value (body ++ rest) = some (v, rest)) (hs : Solid body)
    (hdef : a = defaultField → ∀ rest, ItemEnd rest → ValueStart (body ++ rest))
    (hvisit : visitValue F a v = .ok (.leaf l)) : LeafGood F l := by
  by_cases ha : a = defaultField
  · subst ha
    have hL' : l.toLucene F = body := by rw [hL, attrPrefix_default]; rfl
    rw [← hL'] at hval hs hdef
    exact ⟨fun fuel rest hr => item_first_value F l fuel _ v rest (hdef rfl rest hr) (hval rest hr) hvisit,
      ⟨.value none v, fun fuel rest hr => clause_value fuel _ v rest (hdef rfl rest hr) (hval rest hr),
        by simpa [visitClause] using hvisit⟩,
      hs.skipWs, fun rest hr => (hdef rfl rest hr).noMod, hs.ne_nil⟩
  · have hraw : rawTermOK a = true := by
      simpa [attrOK, ha] using hattr
    obtain ⟨hta, hka⟩ := rawTermOK_parts hraw
    have hL' : ∀ x, l.toLucene F ++ x = a ++ ':' :: (body ++ x) := by
      intro x; rw [hL, attrPrefix_ne a ha]; simp
    refine leafGood_of_clause F l (.value (some a) v) ?_ (by simpa [visitClause] using hvisit) ?_ ?_ ?_
    · intro fuel rest hr
      rw [hL']
      exact clause_attr_value fuel a _ v rest (termText_noAll a _ hta) (field_of_term _ a _ (term_attr a _ hraw))
        (hs.skipWs rest) (hval rest hr)
    · intro rest _; rw [hL']; exact multiterm_none_of_term _ a ':' _ (term_attr a _ hraw) (Or.inl rfl)
    · intro rest _; rw [hL']; exact termText_noMod a _ hta hka (termStop_colon _)
    · rw [hL, attrPrefix_ne a ha, List.append_assoc]; exact (termText_solid hta).append _

theorem leafGood_matchAll (F : FloatLib) : LeafGood F .matchAll :=
  leafGood_of_clause F .matchAll .matchall (fun _ _ _ => rfl) rfl (fun _ _ => rfl) (fun _ _ => rfl)
    ⟨'*', [':', '*'], String.toList_ofList, rfl⟩

theorem attrOK_exists : attrOK existsField = true := by
  rw [attrOK, existsField_chars, defaultField_chars]; decide +kernel
theorem attrOK_missing : attrOK missingField = true := by
  rw [attrOK, missingField_chars, defaultField_chars]; decide +kernel

theorem exists_text (F : FloatLib) (a : Str) :
    (Leaf.exists_ a).toLucene F = attrPrefix existsField ++ a := by
  rw [attrPrefix_ne existsField existsField_ne_default]
  show "_exists_:".toList ++ a = (existsField ++ [':']) ++ a
  rw [existsField_chars, String.toList_ofList]; rfl

theorem missing_text (F : FloatLib) (a : Str) :
    (Leaf.missing a).toLucene F = attrPrefix missingField ++ a := by
  rw [attrPrefix_ne missingField missingField_ne_default]
  show "_missing_:".toList ++ a = (missingField ++ [':']) ++ a
  rw [missingField_chars, String.toList_ofList]; rfl

theorem leafGood_reserved (F : FloatLib) (l : Leaf) (r a : Str) (hL : l.toLucene F = attrPrefix r ++ a)
    (hr : attrOK r = true) (hd : r ≠ defaultField) (h : rawTermOK a = true)
    (hvisit : visitValue F r (.term a) = .ok (.leaf l)) : LeafGood F l := by
  obtain ⟨hta, hka⟩ := rawTermOK_parts h
  exact leafGood_attr F l r a (.term a) hL hr (fun rest hr => value_term a rest hta hka hr)
    (termText_solid hta) (fun e => absurd e hd) hvisit

theorem leafGood_exists (F : FloatLib) (a : Str) (h : NFLeaf F (.exists_ a) = true) : LeafGood F (.exists_ a) :=
  leafGood_reserved F _ existsField a (exists_text F a) attrOK_exists existsField_ne_default h
    (by simp [visitValue, unescape_rawTerm a h])

theorem leafGood_missing (F : FloatLib) (a : Str) (h : NFLeaf F (.missing a) = true) : LeafGood F (.missing a) :=
  leafGood_reserved F _ missingField a (missing_text F a) attrOK_missing missingField_ne_default h
    (by simp [visitValue, missing_ne_exists, unescape_rawTerm a h])

theorem notReserved_parts {a : Str} (h : notReserved a = true) : a ≠ existsField ∧ a ≠ missingField := by
  simp only [notReserved, Bool.not_eq_true', Bool.or_eq_false_iff, decide_eq_false_iff_not] at h
  exact h

theorem visit_term (F : FloatLib) (a v : Str) (ha : attrOK a = true) (hn : notReserved a = true) :
    visitValue F a (.term (luceneEscape v)) = .ok (.leaf (.term a v)) := by
  obtain ⟨h1, h2⟩ := notReserved_parts hn
  simp [visitValue, h1, h2, unescape_attr a ha, unescape_luceneEscape]

theorem multiterm_default_end (t rest : Str) (ht : termText t = true) (hk : kwStart t = false) (hr : QEnd rest) :
    multiterm (t ++ rest) = some ([t], rest) := by
  have htm := term_text t rest ht hk hr.itemEnd.termStop
  have hla : multitermLookahead (t ++ rest) = true := by
    simp only [multitermLookahead, htm]
    cases hr with
    | inl e => subst e; rfl
    | inr e => obtain ⟨r, rfl⟩ := e; rfl
  have hla2 : multitermLookahead rest = false := by
    cases hr with
    | inl e => subst e; rfl
    | inr e => obtain ⟨r, rfl⟩ := e; rfl
  simp only [multiterm, hla, if_true, (termText_solid ht).skipWs rest, htm, skipWs_QEnd hr, hla2]
  simp

theorem multiterm_default_sep (t x : Str) (op : BoolOp) (ht : termText t = true) (hk : kwStart t = false) :
    multiterm (t ++ (sepOf op ++ x)) = none := by
  have hstop : termStop (sepOf op ++ x) = true := by cases op <;> rfl
  have hla : multitermLookahead (t ++ (sepOf op ++ x)) = false := by
    simp only [multitermLookahead, term_text t _ ht hk hstop]
    cases op <;> rfl
  simp [multiterm, hla]

theorem leafGood_term (F : FloatLib) (a v : Str) (h : NFLeaf F (.term a v) = true) : LeafGood F (.term a v) := by
  simp only [NFLeaf, Bool.and_eq_true, Bool.not_eq_true'] at h
  obtain ⟨⟨⟨ha, hn⟩, hv⟩, hk⟩ := h
  have ht := termText_esc v hv
  have hk' := (kwStart_luceneEscape v).trans hk
  have hval := fun rest hr => value_term (luceneEscape v) rest ht hk' hr
  refine leafGood_attr F (.term a v) a (luceneEscape v) (.term (luceneEscape v)) rfl ha hval (termText_solid ht) ?_
    (visit_term F a v ha hn)
  intro _ rest hr
  have htm := term_text _ rest ht hk' hr.termStop
  refine ⟨termText_noAll _ rest ht, field_none_of_term _ _ rest htm hr.not_colon, ?_,
    termText_noMod _ rest ht hk' hr.termStop, (termText_solid ht).skipWs rest⟩
  cases itemEnd_cases hr with
  | inl hq => exact .inr ⟨_, _, multiterm_default_end _ rest ht hk' hq, hval rest hr⟩
  | inr hs => obtain ⟨op, x, rfl⟩ := hs; exact .inl (multiterm_default_sep _ x op ht hk')

theorem phraseBody_bs (c : Char) (r : Str) :
    phraseBody ('\\' :: c :: r) = (phraseBody r).map fun p => ('\\' :: c :: p.1, p.2) := by
  conv => lhs; unfold phraseBody
  simp

theorem phraseBody_quote (r : Str) : phraseBody ('"' :: r) = some ([], r) := by
  conv => lhs; unfold phraseBody
  simp

theorem phraseBody_cons (c : Char) (r : Str) (h1 : c ≠ '\\') (h2 : c ≠ '"') :
    phraseBody (c :: r) = (phraseBody r).map fun p => (c :: p.1, p.2) := by
  conv => lhs; unfold phraseBody
  simp [h1, h2]

theorem phraseBody_quoted (p rest : Str) : phraseBody (quotedEscape p ++ '"' :: rest) = some (quotedEscape p, rest) := by
  fun_induction quotedEscape p with
  | case1 => exact phraseBody_quote rest
  | case2 c r h ih => rw [List.cons_append, List.cons_append, phraseBody_bs, ih]; rfl
  | case3 c r h ih =>
    rw [List.cons_append, phraseBody_cons c _ (by intro e; subst e; exact h (by decide))
      (by intro e; subst e; exact h (by decide)), ih]; rfl

theorem phrase_quoted (p rest : Str) :
    phrase ('"' :: (quotedEscape p ++ '"' :: rest)) = some ('"' :: quotedEscape p ++ ['"'], rest) := by
  simp [phrase, phraseBody_quoted]

theorem value_quoted (p rest : Str) :
    value (('"' :: quotedEscape p ++ ['"']) ++ rest) = some (.phrase ('"' :: quotedEscape p ++ ['"']), rest) := by
  have e : ('"' :: quotedEscape p ++ ['"']) ++ rest = '"' :: (quotedEscape p ++ '"' :: rest) := by simp
  rw [e]
  simp only [value, starValue_ne '"' (quotedEscape p ++ '"' :: rest) (by decide), alt_none, phraseValue,
    phrase_quoted, Option.map_some, alt_some]

theorem visitPhrase_quoted (p : Str) : visitPhrase ('"' :: quotedEscape p ++ ['"']) = p := by
  simp [visitPhrase, unescape_quotedEscape]

theorem leafGood_quoted (F : FloatLib) (a p : Str) (h : NFLeaf F (.quoted a p) = true) : LeafGood F (.quoted a p) := by
  simp only [NFLeaf, Bool.and_eq_true] at h
  obtain ⟨ha, hn⟩ := h
  obtain ⟨h1, h2⟩ := notReserved_parts hn
  exact leafGood_attr F (.quoted a p) a ('"' :: quotedEscape p ++ ['"']) (.phrase ('"' :: quotedEscape p ++ ['"']))
    (by show attrPrefix a ++ ['"'] ++ quotedEscape p ++ ['"'] = attrPrefix a ++ ('"' :: quotedEscape p ++ ['"'])
        simp only [List.append_assoc, List.cons_append, List.nil_append])
    ha (fun rest _ => value_quoted p rest) ⟨'"', _, rfl, rfl⟩
    (fun _ rest _ => ⟨rfl, rfl, .inl rfl, rfl, rfl⟩)
    (by simp only [visitValue, h1, h2, if_false, unescape_attr a ha, visitPhrase_quoted])

theorem leafGood_pfx (F : FloatLib) (a p : Str) (h : NFLeaf F (.pfx a p) = true) : LeafGood F (.pfx a p) := by
  simp only [NFLeaf, Bool.and_eq_true, Bool.not_eq_true'] at h
  obtain ⟨⟨ha, hp⟩, hkd⟩ := h
  have ht := termText_esc p hp
  have hbody : ∀ x, (luceneEscape p ++ ['*']) ++ x = luceneEscape p ++ '*' :: x := by intro x; simp
  refine leafGood_attr F (.pfx a p) a (luceneEscape p ++ ['*']) (.pfx (luceneEscape p ++ ['*']))
    (by show attrPrefix a ++ luceneEscape p ++ ['*'] = attrPrefix a ++ (luceneEscape p ++ ['*'])
        simp only [List.append_assoc])
    ha ?_ ((termText_solid ht).append _) ?_ ?_
  · intro rest hr; rw [hbody]; exact value_pfx _ rest ht hr
  · intro hd rest hr
    have hk : kwStart (luceneEscape p) = false :=
      (kwStart_luceneEscape p).trans (by simpa [hd] using hkd)
    rw [hbody]
    have htm := term_text _ ('*' :: rest) ht hk (termStop_star rest)
    exact ⟨termText_noAll _ _ ht, field_none_of_term _ _ _ htm (by intro r' e; simp at e),
      .inl (multiterm_none_of_term _ _ '*' rest htm (Or.inr rfl)), termText_noMod _ _ ht hk (termStop_star rest),
      (termText_solid ht).skipWs _⟩
  · simp only [visitValue, visitPrefix, unescape_attr a ha, List.dropLast_concat, unescape_luceneEscape]

theorem operator_asLucene (op : Cmp) (t : Str) (h : ∀ r, t ≠ '=' :: r) :
    operator (op.asLucene ++ t) = some (op, t) := by
  cases op with
  | gte => simp [Cmp.asLucene, operator]
  | lte => simp [Cmp.asLucene, operator]
  | gt =>
    cases t with
    | nil => simp [Cmp.asLucene, operator]
    | cons d r =>
      have : d ≠ '=' := by intro e; subst e; exact h r rfl
      simp [Cmp.asLucene, operator, this]
  | lt =>
    cases t with
    | nil => simp [Cmp.asLucene, operator]
    | cons d r =>
      have : d ≠ '=' := by intro e; subst e; exact h r rfl
      simp [Cmp.asLucene, operator, this]

theorem cmp_start (op : Cmp) (x : Str) : ValueStart (op.asLucene ++ x) := by
  cases op <;> exact ⟨rfl, rfl, .inl rfl, rfl, rfl⟩

theorem cmp_solid (op : Cmp) (x : Str) : Solid (op.asLucene ++ x) := by
  cases op <;> exact ⟨_, _, rfl, rfl⟩

theorem value_cmp (op : Cmp) (x : Str) (pv : PValue) (rest : Str)
    (hc : comparison (op.asLucene ++ x) = some (pv, rest)) : value (op.asLucene ++ x) = some (pv, rest) := by
  have h : starValue (op.asLucene ++ x) = none ∧ phraseValue (op.asLucene ++ x) = none ∧
      prefixValue (op.asLucene ++ x) = none := by cases op <;> exact ⟨rfl, rfl, rfl⟩
  simp only [value, h.1, h.2.1, h.2.2, alt_none, hc, alt_some]

theorem digits_head (c : Char) (r : Str) (h : isAsciiDigit c = false) : (digits (c :: r)).1 = [] := by
  rw [digits_cons, h]; rfl

theorem numUnsigned_none_of (s : Str) (h : (digits s).1 = []) : numUnsigned s = none := by
  simp [numUnsigned, h]

theorem numValue_none_of (x : Str) (h : (digits (numSign x).2).1 = []) : numValue x = none := by
  simp [numValue, numUnsigned_none_of _ h]

theorem escape_head_nondigit (s rest : Str) (hr : numStop rest = true)
    (h : ∀ d r, s = d :: r → isAsciiDigit d = false) : (digits (luceneEscape s ++ rest)).1 = [] := by
  cases s with
  | nil => simp [luceneEscape, digits_stop rest hr]
  | cons d r =>
    by_cases hs : isLuceneSpecial d = true
    · simp only [luceneEscape, hs, if_true, List.cons_append]
      exact digits_head _ _ (by decide)
    · simp only [luceneEscape, hs, Bool.false_eq_true, if_false, List.cons_append]
      exact digits_head _ _ (h d r rfl)

theorem numericTerm_none_esc (s rest : Str) (hne : s ≠ []) (hn : numStart s = false) (hr : numStop rest = true) :
    numericTerm (luceneEscape s ++ rest) = none := by
  have : numValue (luceneEscape s ++ rest) = none := by
    apply numValue_none_of
    cases s with
    | nil => exact absurd rfl hne
    | cons c s' =>
      by_cases hs : isLuceneSpecial c = true
      · simp only [luceneEscape, hs, if_true, List.cons_append]
        by_cases hm : c = '-'
        · subst hm
          rw [show numSign ('\\' :: '-' :: (luceneEscape s' ++ rest)) = (['\\', '-'], luceneEscape s' ++ rest) by
            simp [numSign]]
          exact escape_head_nondigit s' rest hr fun d r e => by subst e; simpa [numStart] using hn
        · rw [show numSign ('\\' :: c :: (luceneEscape s' ++ rest)) = ([], '\\' :: c :: (luceneEscape s' ++ rest)) by
            simp [numSign, hm]]
          exact digits_head '\\' _ (by decide)
      · have hm : c ≠ '-' := by intro e; subst e; exact hs (by decide)
        have hb : c ≠ '\\' := by intro e; subst e; exact hs (by decide)
        simp only [luceneEscape, hs, Bool.false_eq_true, if_false, List.cons_append]
        rw [show numSign (c :: (luceneEscape s' ++ rest)) = ([], c :: (luceneEscape s' ++ rest)) by
          simp [numSign, hm, hb]]
        exact digits_head c _ (by simpa [numStart, hm] using hn)
  simp [numericTerm, this]

theorem termText_ne_eq (t rest : Str) (ht : termText t = true) : ∀ r, t ++ rest ≠ '=' :: r := by
  intro r e
  cases t with
  | nil => simp [termText] at ht
  | cons c t =>
    simp only [List.cons_append, List.cons.injEq] at e
    exact isTermStart_ne (isTermStart_cons ht) '=' rfl (by decide) e.1

theorem numeric_head_ne_eq (p rest : Str) (h : numericTerm p = some (p, [])) : ∀ r, p ++ rest ≠ '=' :: r := by
  intro r e
  cases p with
  | nil => simp [numericTerm, numValue, numSign, numUnsigned, digits] at h
  | cons c p' =>
    simp only [List.cons_append, List.cons.injEq] at e
    rw [e.1] at h
    have : numericTerm ('=' :: p') = none := rfl
    rw [this] at h; cases h

theorem leafGood_cmp (F : FloatLib) (a : Str) (op : Cmp) (cv : CV) (pv : PValue) (ha : attrOK a = true)
    (hcmp : ∀ rest, ItemEnd rest → comparison (op.asLucene ++ (cv.toLucene F ++ rest)) = some (pv, rest))
    (hvis : visitValue F a pv = .ok (.leaf (.comparison a op cv))) : LeafGood F (.comparison a op cv) := by
  have hL : (Leaf.comparison a op cv).toLucene F = attrPrefix a ++ (op.asLucene ++ cv.toLucene F) := by
    show attrPrefix a ++ op.asLucene ++ cv.toLucene F = _
    simp only [List.append_assoc]
  refine leafGood_attr F _ a (op.asLucene ++ cv.toLucene F) pv hL ha ?_ (cmp_solid op _) ?_ hvis
  · intro rest hr
    rw [List.append_assoc]
    exact value_cmp op _ pv rest (hcmp rest hr)
  · intro _ rest _; rw [List.append_assoc]; exact cmp_start op _

theorem leafGood_cmp_num (F : FloatLib) (a : Str) (op : Cmp) (cv : CV) (ha : attrOK a = true)
    (h : numTextOK F cv = true) : LeafGood F (.comparison a op cv) := by
  simp only [numTextOK, Bool.and_eq_true, decide_eq_true_eq] at h
  refine leafGood_cmp F a op cv (.cmp op true (cv.toLucene F)) ha (fun rest hr => ?_)
    (by simp [visitValue, unescape_attr a ha, h.2])
  simp only [comparison, operator_asLucene op _ (numeric_head_ne_eq _ rest h.1),
    numericTerm_append _ rest hr.numStop, h.1, keepRest, Option.map_some, List.nil_append]

theorem leafGood_comparison (F : FloatLib) (a : Str) (op : Cmp) (cv : CV)
    (h : NFLeaf F (.comparison a op cv) = true) : LeafGood F (.comparison a op cv) := by
  simp only [NFLeaf, Bool.and_eq_true] at h
  obtain ⟨ha, hcv⟩ := h
  cases cv with
  | unbounded => simp [cmpValueOK] at hcv
  | int i => exact leafGood_cmp_num F a op _ ha hcv
  | float b => exact leafGood_cmp_num F a op _ ha hcv
  | str s =>
    -- the escaped text does not start like a number (`numStart` survives `lucene_escape`), so
    -- `NUMERIC_TERM` fails and `TERM` reads it
    simp only [cmpValueOK, Bool.and_eq_true, Bool.not_eq_true'] at hcv
    obtain ⟨⟨hs, hk⟩, hnum⟩ := hcv
    have ht := termText_esc s hs
    have hsne : s ≠ [] := by intro e; subst e; simp [escTermOK] at hs
    refine leafGood_cmp F a op (.str s) (.cmp op false (luceneEscape s)) ha (fun rest hr => ?_)
      (by simp [visitValue, unescape_attr a ha, unescape_luceneEscape])
    simp only [CV.toLucene, comparison, operator_asLucene op _ (termText_ne_eq _ rest ht),
      numericTerm_none_esc s rest hsne hnum hr.numStop,
      term_text _ rest ht ((kwStart_luceneEscape s).trans hk) hr.termStop]

theorem toSep : " TO ".toList = [' ', 'T', 'O', ' '] := String.toList_ofList

/-- a character of a `RANGE_VALUE`: the predicate in `rangeBoundOK` (NF.lean), named -/
def rvChar (c : Char) : Bool := !isWs c && c != ']' && c != '}'

def rvStop (x : Str) : Bool :=
  match x with
  | [] => true
  | c :: _ => isWs c || c == ']' || c == '}'

theorem rangeValueChars_cons (c : Char) (r : Str) :
    rangeValueChars (c :: r) =
      if isWs c || c == ']' || c == '}' then ([], c :: r)
      else ((c :: (rangeValueChars r).1), (rangeValueChars r).2) := by
  rw [rangeValueChars]

theorem rangeValueChars_append : (p x : Str) → p.all rvChar = true → rvStop x = true →
    rangeValueChars (p ++ x) = (p, x)
  | [], x, _, hx => by
    cases x with
    | nil => rfl
    | cons c r =>
      simp only [rvStop] at hx
      rw [List.nil_append, rangeValueChars_cons, hx]; rfl
  | c :: p, x, hp, hx => by
    simp only [List.all_cons, Bool.and_eq_true] at hp
    have hc : (isWs c || c == ']' || c == '}') = false := by
      have := hp.1
      simp only [rvChar, Bool.and_eq_true, Bool.not_eq_true', bne_iff_ne, ne_eq] at this
      simp [this.1.1, this.1.2, this.2]
    rw [List.cons_append, rangeValueChars_cons, hc, rangeValueChars_append p x hp.2 hx]
    rfl

theorem rangeValue_append (p x : Str) (hne : p ≠ []) (hp : p.all rvChar = true) (hx : rvStop x = true) :
    rangeValue (p ++ x) = some (p, x) := by
  unfold rangeValue
  rw [rangeValueChars_append p x hp hx]
  cases p with
  | nil => exact absurd rfl hne
  | cons c r => rfl

theorem rangeBound_parts (F : FloatLib) (cv : CV) (h : rangeBoundOK F cv = true) :
    cv.toLucene F ≠ [] ∧ (cv.toLucene F).all rvChar = true ∧ CV.ofText F (cv.toLucene F) = cv := by
  simp only [rangeBoundOK, Bool.and_eq_true, Bool.not_eq_true', decide_eq_true_eq] at h
  refine ⟨?_, h.1.2, h.2⟩
  intro e; rw [e] at h; simp at h

theorem rangeValueOK_bound (F : FloatLib) (cv : CV) (h : rangeValueOK F cv = true) : rangeBoundOK F cv = true := by
  cases cv with
  | unbounded => rfl
  | str s => simp only [rangeValueOK, Bool.and_eq_true] at h; exact h.2
  | int i => exact h
  | float b => exact h

theorem skipWs_rv (p x : Str) (hne : p ≠ []) (hp : p.all rvChar = true) : skipWs (p ++ x) = p ++ x := by
  cases p with
  | nil => exact absurd rfl hne
  | cons c r =>
    simp only [List.all_cons, Bool.and_eq_true, rvChar, Bool.not_eq_true'] at hp
    exact skipWs_head c _ hp.1.1.1

theorem range_printed (lsq rsq : Bool) (v1 v2 rest : Str) (h1 : v1 ≠ []) (h1c : v1.all rvChar = true)
    (h2 : v2 ≠ []) (h2c : v2.all rvChar = true) :
    range ((if lsq then '[' else '{') :: (v1 ++ (' ' :: 'T' :: 'O' :: ' ' :: (v2 ++ (if rsq then ']' else '}') :: rest)))) =
      some (.range lsq v1 v2 rsq, rest) := by
  have key : ∀ (o cl : Char), ((o = '[' ∧ lsq = true) ∨ (o = '{' ∧ lsq = false)) →
      ((cl = ']' ∧ rsq = true) ∨ (cl = '}' ∧ rsq = false)) →
      range (o :: (v1 ++ (' ' :: 'T' :: 'O' :: ' ' :: (v2 ++ cl :: rest)))) = some (.range lsq v1 v2 rsq, rest) := by
    intro o cl ho hc
    have hstop : rvStop (cl :: rest) = true := by
      rcases hc with ⟨rfl, _⟩ | ⟨rfl, _⟩ <;> rfl
    have e1 : skipWs (v1 ++ (' ' :: 'T' :: 'O' :: ' ' :: (v2 ++ cl :: rest))) =
        v1 ++ (' ' :: 'T' :: 'O' :: ' ' :: (v2 ++ cl :: rest)) := skipWs_rv v1 _ h1 h1c
    have e2 : rangeValue (v1 ++ (' ' :: 'T' :: 'O' :: ' ' :: (v2 ++ cl :: rest))) =
        some (v1, ' ' :: 'T' :: 'O' :: ' ' :: (v2 ++ cl :: rest)) := rangeValue_append v1 _ h1 h1c rfl
    have e3 : stripPrefix ['T', 'O'] (skipWs (' ' :: 'T' :: 'O' :: ' ' :: (v2 ++ cl :: rest))) =
        some (' ' :: (v2 ++ cl :: rest)) := rfl
    have e4 : skipWs (' ' :: (v2 ++ cl :: rest)) = v2 ++ cl :: rest :=
      (skipWs_space _).trans (skipWs_rv v2 _ h2 h2c)
    have e5 : rangeValue (v2 ++ cl :: rest) = some (v2, cl :: rest) := rangeValue_append v2 _ h2 h2c hstop
    have e6 : skipWs (cl :: rest) = cl :: rest := by
      rcases hc with ⟨rfl, _⟩ | ⟨rfl, _⟩ <;> rfl
    unfold range
    rcases ho with ⟨rfl, rfl⟩ | ⟨rfl, rfl⟩ <;> rcases hc with ⟨rfl, rfl⟩ | ⟨rfl, rfl⟩ <;>
      simp only [Char.reduceEq, if_false, if_true, e1, e2, e3, e4, e5, e6]
  apply key
  · cases lsq <;> simp
  · cases rsq <;> simp

theorem range_start (lsq : Bool) (x : Str) : ValueStart ((if lsq then '[' else '{') :: x) := by
  cases lsq <;> exact ⟨rfl, rfl, .inl rfl, rfl, rfl⟩

theorem value_range (lsq : Bool) (x : Str) (pv : PValue) (rest : Str)
    (hc : range ((if lsq then '[' else '{') :: x) = some (pv, rest)) :
    value ((if lsq then '[' else '{') :: x) = some (pv, rest) := by
  have h : ∀ s : Str, s = (if lsq then '[' else '{') :: x → starValue s = none ∧ phraseValue s = none ∧
      prefixValue s = none ∧ comparison s = none := by
    intro s e; subst e; cases lsq <;> exact ⟨rfl, rfl, rfl, rfl⟩
  obtain ⟨f1, f2, f3, f4⟩ := h _ rfl
  simp only [value, f1, f2, f3, f4, alt_none, hc, alt_some]

theorem leafGood_range (F : FloatLib) (a : Str) (lo : CV) (li : Bool) (hi : CV) (ui : Bool)
    (h : NFLeaf F (.range a lo li hi ui) = true) : LeafGood F (.range a lo li hi ui) := by
  simp only [NFLeaf, Bool.and_eq_true] at h
  obtain ⟨⟨ha, hlo⟩, hhi⟩ := h
  obtain ⟨l1, l2, l3⟩ := rangeBound_parts F lo (rangeValueOK_bound F lo hlo)
  obtain ⟨u1, u2, u3⟩ := rangeBound_parts F hi (rangeValueOK_bound F hi hhi)
  let body : Str := (if li then '[' else '{') ::
    (lo.toLucene F ++ (' ' :: 'T' :: 'O' :: ' ' :: (hi.toLucene F ++ [if ui then ']' else '}'])))
  have hbody : ∀ x, body ++ x = (if li then '[' else '{') ::
      (lo.toLucene F ++ (' ' :: 'T' :: 'O' :: ' ' :: (hi.toLucene F ++ (if ui then ']' else '}') :: x))) := by
    intro x; simp [body]
  have hL : (Leaf.range a lo li hi ui).toLucene F = attrPrefix a ++ body := by
    show attrPrefix a ++ [if li then '[' else '{'] ++ lo.toLucene F ++ " TO ".toList ++ hi.toLucene F ++
      [if ui then ']' else '}'] = _
    rw [toSep]
    simp [body]
  refine leafGood_attr F _ a body (.range li (lo.toLucene F) (hi.toLucene F) ui) hL ha ?_
    ⟨_, _, rfl, by cases li <;> rfl⟩ ?_ ?_
  · intro rest _
    rw [hbody]
    exact value_range li _ _ rest (range_printed li ui _ _ rest l1 l2 u1 u2)
  · intro _ rest _; rw [hbody]; exact range_start li _
  · simp [visitValue, unescape_attr a ha, l3, u3]

end Search
