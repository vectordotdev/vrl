import VrlProofs.Lemmas.TypeOps
import VrlProofs.Lemmas.TypeState
import VrlProofs.Lemmas.EvalBind

/-! `Op::type_info` against `Op::resolve` for the operators that evaluate both operands first:
    `binop_sound` puts the families of TypeOps together, in the terms of `Lang.binop`, `opDef` and
    `opChecks`; what `opDef`, `opState` and `opChecks` are for every such operator. -/

namespace Lang
open Spec

theorem mem_chk_nan {b : Bool} (h : b = false) : Chk.nan ∈ chk .nan b := by
  subst h; simp [chk]

theorem binop_arith_sound (o : Opcode) (ho : o = .add ∨ o = .sub ∨ o = .mul) (v w : Value) (l r : TypeDef)
    (nf : Bool) (hv : memR v l.kind = true) (hw : memR w r.kind = true) :
    (∀ x, ofArith (arithFn o v w) = .ok x → memR x (arithDef o l r nf).kind = true ∧ x.Sorted = true) ∧
    (ofArith (arithFn o v w) = .err → (arithDef o l r nf).fallible = true ∨
      Chk.nan ∈ chk .kindUnion (unionOk l.returns r.returns) ++
        chk .nan (!(isArith o && (arithDef o l r false).kind.prim.float))) := by
  have := arith_sound o ho v w l r nf hv hw
  refine ⟨fun x hx => this.1 x (ofArith_ok hx), fun he => ?_⟩
  obtain ⟨e, he'⟩ := ofArith_err he
  rcases this.2 e he' with h | ⟨_, h⟩
  · exact Or.inl h
  · -- NaN: the reported kind has `float`, which is what `Chk.nan` marks
    rw [arithDef_kind_nf] at h
    have ha : isArith o = true := by rcases ho with rfl | rfl | rfl <;> rfl
    exact Or.inr (List.mem_append_right _ (mem_chk_nan (by simp [ha, h])))

theorem binop_sound (o : Opcode) (ho : plainOp o = true) (v w : Value) (l r : TypeDef)
    (lv rv : Option Value) (T1 Tr : TState)
    (hv : memR v l.kind = true) (hw : memR w r.kind = true) (hvs : v.Sorted = true) (hws : w.Sorted = true)
    (hrv : ∀ c, rv = some c → w = c) (hchk : AllNan (opChecks o l lv T1 r Tr)) :
    (∀ x, binop o v w = .ok x → memR x (opDef o l lv r rv).kind = true ∧ x.Sorted = true) ∧
    (binop o v w = .err → (opDef o l lv r rv).fallible = true ∨ Chk.nan ∈ opChecks o l lv T1 r Tr) := by
  cases o
  case err | or | and => cases ho
  case eq | ne =>
    refine ⟨fun x hx => ?_, nofun⟩
    cases hx
    exact ⟨memR_bool _ rfl, rfl⟩
  case gt | ge | lt | le =>
    refine ⟨fun x hx => ?_, fun he => Or.inl ((ofArith_err he).elim (cmp_sound _ v w l r hv hw).2)⟩
    obtain ⟨b, rfl⟩ := (cmp_sound _ v w l r hv hw).1 x (ofArith_ok hx)
    exact ⟨memR_bool _ (by simp only [opDef]; split <;> rfl), rfl⟩
  case add => exact binop_arith_sound .add (by decide) v w l r _ hv hw
  case sub => exact binop_arith_sound .sub (by decide) v w l r _ hv hw
  case mul => exact binop_arith_sound .mul (by decide) v w l r _ hv hw
  case div =>
    refine ⟨fun x hx => ?_, fun _ => Or.inr (List.mem_append_right _ (mem_chk_nan rfl))⟩
    obtain ⟨b, rfl⟩ := (div_sound v w l rv hv hrv).1 x (ofArith_ok hx)
    exact ⟨memR_float _ (by simp only [opDef]; split <;> rfl), rfl⟩
  case merge =>
    simp only [opChecks, allNan_append, allNan_chk_iff, reduceCtorEq, false_or] at hchk
    obtain ⟨a, b, rfl, rfl, hm, hs⟩ := merge_sound v w l.kind r.kind hv hw hvs hws hchk.1.1 hchk.1.2
    exact ⟨fun x hx => by cases hx; exact ⟨memR_of_mem hm, hs⟩, nofun⟩

theorem opDef_strict_returns (o : Opcode) (ho : plainOp o = true) (l r : TypeDef)
    (lv rv : Option Value) : (opDef o l lv r rv).returns = l.returns.union r.returns := by
  cases o <;> first | exact Bool.noConfusion ho |
    simp only [opDef, arithDef_returns, TypeDef.mergeOverwrite, apply_ite TypeDef.returns,
      TypeDef.withKind_returns, TypeDef.setFallible_returns, TypeDef.union_returns,
      TypeDef.fallibleUnless_returns, ite_self]

theorem opDef_strict_fallible (o : Opcode) (ho : plainOp o = true) (l r : TypeDef)
    (lv rv : Option Value) (h : l.fallible = true ∨ r.fallible = true) :
    (opDef o l lv r rv).fallible = true := by
  have ha (o nf) : (arithDef o l r nf).fallible = true := arithDef_fallible o l r nf h
  cases o <;> first | exact Bool.noConfusion ho |
    (rcases h with h | h <;>
      simp only [opDef, ha, TypeDef.mergeOverwrite, apply_ite TypeDef.fallible, TypeDef.withKind_fallible,
        TypeDef.setFallible_fallible, TypeDef.union_fallible, TypeDef.fallibleUnless_fallible, h, Bool.true_or,
        Bool.or_true, ite_self])

theorem opState_strict (o : Opcode) (ho : plainOp o = true) (l : TypeDef) (lv : Option Value) (T1 Tr : TState) :
    opState o l lv T1 Tr = Tr := by
  cases o <;> first | exact Bool.noConfusion ho | rfl

theorem opChecks_strict_returns (o : Opcode) (ho : plainOp o = true) (l r : TypeDef) (lv : Option Value)
    (T1 Tr : TState) (h : AllNan (opChecks o l lv T1 r Tr)) : unionOk l.returns r.returns = true := by
  cases o <;> first | exact Bool.noConfusion ho |
    (simp only [opChecks, allNan_append, allNan_chk_iff, reduceCtorEq, false_or] at h; first | exact h.1 | exact h.2)

end Lang
