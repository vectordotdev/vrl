import VrlProofs.Lemmas.TypeState
import VrlProofs.Lemmas.TypeEq
import VrlProofs.Lemmas.EvalBind

/-! C12: an expression for which the compiler knows a constant (`resolve_constant`) evaluates to
    exactly that constant, without touching the state, in every run-time state that inhabits the
    type state. No side condition is needed: only literals, variables with a recorded constant,
    paths into them, groups, array / object literals of such, and `+ - * /` on numeric constants
    have one. -/

namespace Lang
open Spec

mutual
  /-- the syntactic forms that can have a constant -/
  def constShape : Expr → Bool
    | .lit _ | .var _ | .qvar _ _ => true
    | .grp e => constShape e
    | .arr es => constShapeS es
    | .obj kvs => constShapeK kvs
    | .op o l r => isArith o && constShape l && constShape r
    | _ => false
  def constShapeS : Exprs → Bool
    | .nil => true
    | .cons e es => constShape e && constShapeS es
  def constShapeK : KExprs → Bool
    | .nil => true
    | .cons _ e kes => constShape e && constShapeK kes
end

theorem constOp_isArith {o : Opcode} {a b c : Value} (h : constOp o a b = some c) : isArith o = true := by
  revert h
  fun_cases constOp o a b <;> intro h <;> first | rfl | cases h

theorem constOf_op {o : Opcode} {l r : Expr} {T : TState} {c : Value} (h : constOf (.op o l r) T = some c) :
    ∃ a b, constOf l T = some a ∧ constOf r T = some b ∧ constOp o a b = some c := by
  have h : (match constOf l T, constOf r T with
    | some a, some b => constOp o a b
    | _, _ => none) = some c := h
  cases hl : constOf l T <;> cases hr : constOf r T <;> rw [hl, hr] at h <;>
    first | exact ⟨_, _, rfl, rfl, h⟩ | cases h

theorem constList_cons {e : Expr} {es : Exprs} {T : TState} {l : VList} (h : constList (.cons e es) T = some l) :
    ∃ v vs, constOf e T = some v ∧ constList es T = some vs ∧ l = .cons v vs := by
  have h : (match constOf e T, constList es T with
    | some v, some vs => some (VList.cons v vs)
    | _, _ => none) = some l := h
  cases he : constOf e T <;> cases hes : constList es T <;> rw [he, hes] at h <;>
    first | exact ⟨_, _, rfl, rfl, (Option.some.inj h).symm⟩ | cases h

theorem constKVs_cons {k : Key} {e : Expr} {kes : KExprs} {T : TState} {m : VMap}
    (h : constKVs (.cons k e kes) T = some m) :
    ∃ v vs, constOf e T = some v ∧ constKVs kes T = some vs ∧ m = .cons k v vs := by
  have h : (match constOf e T, constKVs kes T with
    | some v, some vs => some (VMap.cons k v vs)
    | _, _ => none) = some m := h
  cases he : constOf e T <;> cases hes : constKVs kes T <;> rw [he, hes] at h <;>
    first | exact ⟨_, _, rfl, rfl, (Option.some.inj h).symm⟩ | cases h

mutual
  theorem constShape_of_const : (e : Expr) → (T : TState) → (c : Value) → constOf e T = some c →
      constShape e = true
    | .lit _, _, _, _ => rfl
    | .var _, _, _, _ => rfl
    | .qvar _ _, _, _, _ => rfl
    | .grp e, T, c, h => constShape_of_const e T c h
    | .arr es, T, c, h => by
      obtain ⟨l, hl, -⟩ := Option.map_eq_some_iff.mp h
      exact constShapeS_of_const es T l hl
    | .obj kvs, T, c, h => by
      obtain ⟨l, hl, -⟩ := Option.map_eq_some_iff.mp h
      exact constShapeK_of_const kvs T l hl
    | .op o l r, T, c, h => by
      obtain ⟨a, b, hl, hr, ho⟩ := constOf_op h
      exact Bool.and_eq_true_iff.mpr ⟨Bool.and_eq_true_iff.mpr ⟨constOp_isArith ho, constShape_of_const l T a hl⟩,
        constShape_of_const r T b hr⟩
    | .noop, _, _, h => nomatch h
    | .blk _, _, _, h => nomatch h
    | .ifte _ _ _ _, _, _, h => nomatch h
    | .asg _ _, _, _, h => nomatch h
    | .iasg _ _ _ _, _, _, h => nomatch h
    | .qext _ _, _, _, h => nomatch h
    | .qexpr _ _, _, _, h => nomatch h
    | .not _, _, _, h => nomatch h
    | .abort _ _, _, _, h => nomatch h
    | .ret _, _, _, h => nomatch h
    | .delExt _ _ _ _, _, _, h => nomatch h
    | .delVar _ _ _ _, _, _, h => nomatch h
    | .delExpr _ _ _ _, _, _, h => nomatch h
    | .existsExt _ _, _, _, h => nomatch h
    | .existsVar _ _, _, _, h => nomatch h
    | .existsExpr _ _, _, _, h => nomatch h
    | .call _ _ _ _ _ _ _, _, _, h => nomatch h
  theorem constShapeS_of_const : (es : Exprs) → (T : TState) → (l : VList) → constList es T = some l →
      constShapeS es = true
    | .nil, _, _, _ => rfl
    | .cons e es, T, l, h => by
      obtain ⟨v, vs, he, hes, -⟩ := constList_cons h
      exact Bool.and_eq_true_iff.mpr ⟨constShape_of_const e T v he, constShapeS_of_const es T vs hes⟩
  theorem constShapeK_of_const : (kvs : KExprs) → (T : TState) → (m : VMap) → constKVs kvs T = some m →
      constShapeK kvs = true
    | .nil, _, _, _ => rfl
    | .cons k e kes, T, m, h => by
      obtain ⟨v, vs, he, hes, -⟩ := constKVs_cons h
      exact Bool.and_eq_true_iff.mpr ⟨constShape_of_const e T v he, constShapeK_of_const kes T vs hes⟩
end

mutual
  theorem constShape_state : (e : Expr) → constShape e = true → (T : TState) → (typeInfo e T).2 = T
    | .lit _, _, _ => rfl
    | .var _, _, _ => rfl
    | .qvar _ _, _, _ => rfl
    | .grp e, h, T => constShape_state e h T
    | .arr es, h, T => constShapeS_state es h T {}
    | .obj kvs, h, T => constShapeK_state kvs h T {}
    | .op o l r, h, T => by
      obtain ⟨hol, hr⟩ := Bool.and_eq_true_iff.mp h
      obtain ⟨ho, hl⟩ := Bool.and_eq_true_iff.mp hol
      rw [typeInfo_op, constShape_state l hl T, constShape_state r hr T]
      cases o <;> first | rfl | cases ho
    | .noop, h, _ => nomatch h
    | .blk _, h, _ => nomatch h
    | .ifte _ _ _ _, h, _ => nomatch h
    | .asg _ _, h, _ => nomatch h
    | .iasg _ _ _ _, h, _ => nomatch h
    | .qext _ _, h, _ => nomatch h
    | .qexpr _ _, h, _ => nomatch h
    | .not _, h, _ => nomatch h
    | .abort _ _, h, _ => nomatch h
    | .ret _, h, _ => nomatch h
    | .delExt _ _ _ _, h, _ => nomatch h
    | .delVar _ _ _ _, h, _ => nomatch h
    | .delExpr _ _ _ _, h, _ => nomatch h
    | .existsExt _ _, h, _ => nomatch h
    | .existsVar _ _, h, _ => nomatch h
    | .existsExpr _ _, h, _ => nomatch h
    | .call _ _ _ _ _ _ _, h, _ => nomatch h
  theorem constShapeS_state : (es : Exprs) → constShapeS es = true → (T : TState) → (acc : ArrAcc) →
      (typeArr es T acc).2 = T
    | .nil, _, _, _ => rfl
    | .cons e es, h, T, acc => by
      obtain ⟨he, hes⟩ := Bool.and_eq_true_iff.mp h
      rw [typeArr_cons, constShape_state e he T]
      split
      · rfl
      · exact constShapeS_state es hes T _
  theorem constShapeK_state : (kvs : KExprs) → constShapeK kvs = true → (T : TState) → (acc : ObjAcc) →
      (typeObj kvs T acc).2 = T
    | .nil, _, _, _ => rfl
    | .cons k e kes, h, T, acc => by
      obtain ⟨he, hes⟩ := Bool.and_eq_true_iff.mp h
      rw [typeObj_cons, constShape_state e he T]
      split
      · rfl
      · exact constShapeK_state kes hes T _
end

theorem const_state {e : Expr} {T T' : TState} {c : Value} (h : constOf e T' = some c) :
    (typeInfo e T).2 = T := constShape_state e (constShape_of_const e T' c h) T

theorem arithOk_ofArith {r : Arith.Res Value} {c : Value} (h : arithOk r = some c) : ofArith r = .ok c := by
  cases r <;> first | exact congrArg Res.ok (Option.some.inj h) | cases h

theorem binop_of_constOp {o : Opcode} {a b c : Value} (h : constOp o a b = some c) : binop o a b = .ok c := by
  revert h
  fun_cases constOp o a b <;> intro h <;> first | exact arithOk_ofArith h | cases h

mutual
  /-- **C12**: an expression with a compile-time constant evaluates to it, leaving the state alone -/
  theorem const_eval : (e : Expr) → (T : TState) → (c : Value) → constOf e T = some c →
      ∀ s, Conforms s T → ∃ s', eval e s = (.ok c, s') ∧ St.Same s s'
    | .lit v, T, c, h, s, _ => by cases h; exact ⟨s, rfl, St.Same.refl s⟩
    | .var n, T, c, h, s, hc => by
      obtain ⟨d, hd, hv⟩ := Option.bind_eq_some_iff.mp h
      obtain ⟨v, h1, -, -, h4⟩ := hc.vars n d hd
      cases h4 c hv
      exact ⟨s, by rw [eval_var, h1]; rfl, St.Same.refl s⟩
    | .qvar n p, T, c, h, s, hc => by
      obtain ⟨c0, h0, hp⟩ := Option.bind_eq_some_iff.mp h
      obtain ⟨d, hd, hv⟩ := Option.bind_eq_some_iff.mp h0
      obtain ⟨v, h1, -, -, h4⟩ := hc.vars n d hd
      cases h4 c0 hv
      exact ⟨s, by rw [eval_qvar, h1]; simp [hp], St.Same.refl s⟩
    | .grp e, T, c, h, s, hc => const_eval e T c h s hc
    | .arr es, T, c, h, s, hc => by
      obtain ⟨l, hl, rfl⟩ := Option.map_eq_some_iff.mp h
      obtain ⟨s', h1, h2⟩ := const_evalList es T l hl s hc
      exact ⟨s', by rw [eval_arr, h1], h2⟩
    | .obj kvs, T, c, h, s, hc => by
      obtain ⟨l, hl, rfl⟩ := Option.map_eq_some_iff.mp h
      obtain ⟨s', h1, h2⟩ := const_evalKVs kvs T l hl s hc
      exact ⟨s', by rw [eval_obj, h1], h2⟩
    | .op o l r, T, c, h, s, hc => by
      obtain ⟨a, b, hl, hr, ho⟩ := constOf_op h
      obtain ⟨s1, e1, sm1⟩ := const_eval l T a hl s hc
      obtain ⟨s2, e2, sm2⟩ := const_eval r T b hr s1 (Conforms.of_same sm1 hc)
      have hs : plainOp o = true := by
        have := constOp_isArith ho
        cases o <;> first | rfl | cases this
      exact ⟨s2, by rw [eval_op_strict o hs, e1, bindOk, e2, bindOk, binop_of_constOp ho], St.Same.trans sm1 sm2⟩
    | .noop, _, _, h, _, _ => nomatch h
    | .blk _, _, _, h, _, _ => nomatch h
    | .ifte _ _ _ _, _, _, h, _, _ => nomatch h
    | .asg _ _, _, _, h, _, _ => nomatch h
    | .iasg _ _ _ _, _, _, h, _, _ => nomatch h
    | .qext _ _, _, _, h, _, _ => nomatch h
    | .qexpr _ _, _, _, h, _, _ => nomatch h
    | .not _, _, _, h, _, _ => nomatch h
    | .abort _ _, _, _, h, _, _ => nomatch h
    | .ret _, _, _, h, _, _ => nomatch h
    | .delExt _ _ _ _, _, _, h, _, _ => nomatch h
    | .delVar _ _ _ _, _, _, h, _, _ => nomatch h
    | .delExpr _ _ _ _, _, _, h, _, _ => nomatch h
    | .existsExt _ _, _, _, h, _, _ => nomatch h
    | .existsVar _ _, _, _, h, _, _ => nomatch h
    | .existsExpr _ _, _, _, h, _, _ => nomatch h
    | .call _ _ _ _ _ _ _, _, _, h, _, _ => nomatch h
  theorem const_evalList : (es : Exprs) → (T : TState) → (l : VList) → constList es T = some l →
      ∀ s, Conforms s T → ∃ s', evalList es s = (.ok l, s') ∧ St.Same s s'
    | .nil, T, l, h, s, _ => by cases h; exact ⟨s, rfl, St.Same.refl s⟩
    | .cons e es, T, l, h, s, hc => by
      obtain ⟨v, vs, he, hes, rfl⟩ := constList_cons h
      obtain ⟨s1, e1, sm1⟩ := const_eval e T v he s hc
      obtain ⟨s2, e2, sm2⟩ := const_evalList es T vs hes s1 (Conforms.of_same sm1 hc)
      exact ⟨s2, by rw [evalList_cons, e1]; simp only [e2], St.Same.trans sm1 sm2⟩
  theorem const_evalKVs : (kvs : KExprs) → (T : TState) → (m : VMap) → constKVs kvs T = some m →
      ∀ s, Conforms s T → ∃ s', evalKVs kvs s = (.ok m, s') ∧ St.Same s s'
    | .nil, T, l, h, s, _ => by cases h; exact ⟨s, rfl, St.Same.refl s⟩
    | .cons k e kes, T, l, h, s, hc => by
      obtain ⟨v, vs, he, hes, rfl⟩ := constKVs_cons h
      obtain ⟨s1, e1, sm1⟩ := const_eval e T v he s hc
      obtain ⟨s2, e2, sm2⟩ := const_evalKVs kes T vs hes s1 (Conforms.of_same sm1 hc)
      exact ⟨s2, by rw [evalKVs_cons, e1]; simp only [e2], St.Same.trans sm1 sm2⟩
end

theorem const_value {e : Expr} {T : TState} {s s1 : St} {r : Res} {c : Value} (hc : Conforms s T)
    (he : eval e s = (r, s1)) (h : constOf e T = some c) : r = .ok c := by
  obtain ⟨s', e1, _⟩ := const_eval e T c h s hc
  rw [he] at e1; cases e1; rfl

/-- `Assignment::type_info` takes the constant in the state *after* the expression -/
theorem asg_const {e : Expr} {T : TState} {s s1 : St} {r : Res} {c : Value} (hc : Conforms s T)
    (he : eval e s = (r, s1)) (h : constOf e (typeInfo e T).2 = some c) : r = .ok c := by
  rw [const_state h] at h
  exact const_value hc he h

end Lang
