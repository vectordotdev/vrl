import VrlProofs.Lemmas.KindGet

/-! `Kind::remove`: the root path. -/

namespace Spec

/-- the kind `Kind::remove` leaves behind at the root path: empty collections for the collection
    states, `null` for the primitive ones. -/
def rootRemainder (K : Kind) : Kind :=
  let k0 := Kind.never
  let k1 := if K.containsObject then k0.orObject Col.empty else k0
  let k2 := if K.containsArray then k1.orArray Col.empty else k1
  if K.containsPrimitive then k2.orNull else k2

theorem remove_root_eq (K : Kind) (c : Bool) :
    K.remove [] c = .ok (rootRemainder K, K.upgradeUndefined) := by
  simp [Kind.remove, Kind.getO, Kind.atPathPanics, Kind.Outcome.bind, Kind.get, Kind.atPath, rootRemainder]

theorem rootRemainder_eq (K : Kind) :
    rootRemainder K =
    .mk { null := K.containsPrimitive } (if K.containsArray then .some Col.empty else .none)
      (if K.containsObject then .some Col.empty else .none) := by
  unfold rootRemainder
  cases K.containsObject <;> cases K.containsArray <;> cases K.containsPrimitive <;> rfl

theorem mem_emptied (v : Value) (K : Kind) (h : mem v K = true) :
    mem (Value.emptied v) (rootRemainder K) = true := by
  rw [rootRemainder_eq]
  cases v with
  | obj m => simp [Value.emptied, mem_obj_mk, Kind.containsObject, mem_obj_hasObj m K h]; exact ⟨rfl, rfl⟩
  | arr xs => simp [Value.emptied, mem_arr_mk, Kind.containsArray, mem_arr_hasArr xs K h]; exact ⟨rfl, rfl⟩
  | _ =>
    have hp := prim_nonempty_of_mem_scalar _ K h nofun nofun
    simp only [Value.emptied, mem, Kind.containsPrimitive, hp]; rfl

end Spec
