/-
  C31: building the matchers of a list of fields (`Build.mapM`) against the field check of the
  reference semantics, and the per-field refinement `VrlFilter::* = Spec.*Ref`.

  A matcher is a function `Value → Bool`, so "built exactly when the check passes, and then deciding
  like the reference predicate" is one equation between `Build` values (`Refines`).
-/
import VrlModel.Search.MatchSpec

namespace Search
open Spec

@[simp] theorem Build.map_ok {α β : Type} (f : α → β) (a : α) : (Build.ok a).map f = .ok (f a) := rfl
@[simp] theorem Build.map_err {α β : Type} (f : α → β) : (Build.err : Build α).map f = .err := rfl
@[simp] theorem Build.map_panic {α β : Type} (f : α → β) : (Build.panic : Build α).map f = .panic := rfl

theorem Build.map_map {α β γ : Type} (f : α → β) (g : β → γ) (b : Build α) :
    (b.map f).map g = b.map fun a => g (f a) := by
  cases b <;> rfl

theorem resolveValue_apply (p : Path) (m : Matcher) (e : Value) :
    resolveValue p m e = match e.get p with | some v => m v | none => false := rfl

theorem anyV_eq_any (f : Value → Bool) : (a : VList) → VList.anyV f a = (VList.toL a).any f
  | .nil => rfl
  | .cons v vs => by simp [VList.anyV, VList.toL, anyV_eq_any f vs]

theorem lookupField_tag (t : Str) : lookupField (.tag t) = .ok [.field (utf8 tagsName)] := rfl

theorem pathOf_tag (t : Str) : pathOf (.tag t) = [.field (utf8 tagsName)] := rfl

theorem resolve_onArray (f : Value → Bool) (e : Value) :
    resolveValue [.field (utf8 tagsName)] (onArray f) e = (tagElems e).any f := by
  unfold resolveValue tagElems
  cases h : e.get [.field (utf8 tagsName)] with
  | none => simp
  | some v =>
    cases v <;> simp [onArray, anyV_eq_any]

def Refines (b : Build Matcher) (chk : Build Unit) (ref : Value → Bool) : Prop :=
  b = chk.map fun _ => ref

theorem Refines.congr {b : Build Matcher} {chk : Build Unit} {r r' : Value → Bool}
    (h : Refines b chk r) (hr : ∀ e, r e = r' e) : Refines b chk r' := by
  rw [← funext hr]; exact h

theorem Refines.not {b : Build Matcher} {chk : Build Unit} {r : Value → Bool} (h : Refines b chk r) :
    Refines (b.map notM) chk (fun e => !r e) := by
  unfold Refines at h ⊢
  rw [h, Build.map_map]; rfl

abbrev FieldRefines (b : Build Matcher) (f : Field) (ref : Value → Bool) : Prop :=
  Refines b (checkFields [f]) ref

theorem fieldRefines_withField (f : Field) (inner : Matcher) (ref : Value → Bool)
    (h : ∀ p, lookupField f = .ok p → ∀ e, resolveValue p inner e = ref e) :
    FieldRefines (withField f inner) f ref := by
  unfold FieldRefines Refines withField checkFields
  cases hl : lookupField f with
  | ok p => exact congrArg Build.ok (funext (h p hl))
  | err => rfl
  | panic => rfl

theorem valueAt_of_lookup {f : Field} {p : Path} (h : lookupField f = .ok p) (e : Value) :
    valueAt f e = e.get p := by
  simp [valueAt, pathOf, h]

theorem resolve_valueAt {f : Field} {p : Path} (hp : lookupField f = .ok p) (inner : Matcher) (e : Value) :
    resolveValue p inner e = match valueAt f e with | some x => inner x | none => false := by
  rw [valueAt_of_lookup hp]; rfl

theorem resolve_tag {t : Str} {p : Path} (hp : lookupField (.tag t) = .ok p) (g : Value → Bool) (e : Value) :
    resolveValue p (onArray g) e = (tagElems e).any g := by
  cases (lookupField_tag t).symm.trans hp
  exact resolve_onArray g e

theorem exists_refines (E : Env) (f : Field) (hdev : isTagsReserved f = false) :
    FieldRefines (filterExists E f) f (existsRef E f) := by
  apply fieldRefines_withField
  intro p hp e
  cases f with
  | tag t => exact resolve_tag hp _ e
  | reserved r =>
    have hr : ¬ r = tagsName := by simpa [isTagsReserved] using hdev
    simp only [hr, if_false, existsRef, valueAt_of_lookup hp, resolveValue_apply]
    cases e.get p <;> rfl
  | _ =>
    simp only [existsRef, valueAt_of_lookup hp, resolveValue_apply]
    cases e.get p <;> rfl

theorem tagsReserved_path {r : Str} (h : r = tagsName) {p : Path}
    (hp : lookupField (.reserved r) = .ok p) : p = [.field (utf8 tagsName)] := by
  subst h
  have : lookupField (.reserved tagsName) = .ok [.field (utf8 tagsName)] := by decide +kernel
  rw [this] at hp
  cases hp
  rfl

theorem equals_refines (E : Env) (f : Field) (v : Str) :
    FieldRefines (filterEquals E f v) f (equalsRef E f v) := by
  apply fieldRefines_withField
  intro p hp e
  cases f with
  | tag t => exact resolve_tag hp _ e
  | reserved r =>
    by_cases hr : r = tagsName
    · cases tagsReserved_path hr hp
      simp only [hr, if_true, equalsRef]
      exact resolve_onArray _ e
    · simp only [hr, if_false, equalsRef]
      exact resolve_valueAt hp _ e
  | default d =>
    simp only [equalsRef, valueAt_of_lookup hp, resolveValue_apply]
    cases h : e.get p with
    | none => rfl
    | some x => cases x <;> rfl
  | attr a => exact resolve_valueAt hp _ e

theorem prefix_refines (E : Env) (f : Field) (v : Str) :
    FieldRefines (filterPrefix E f v) f (prefixRef E f v) := by
  apply fieldRefines_withField
  intro p hp e
  cases f with
  | tag t => exact resolve_tag hp _ e
  | _ => exact resolve_valueAt hp _ e

theorem wildcard_refines (E : Env) (f : Field) (v : Str) :
    FieldRefines (filterWildcard E f v) f (wildcardRef E f v) := by
  apply fieldRefines_withField
  intro p hp e
  cases f with
  | tag t => exact resolve_tag hp _ e
  | _ => exact resolve_valueAt hp _ e

theorem compareAttr_eq (E : Env) (c : Cmp) (cv : CV) (x : Value) :
    compareAttr E c cv x = compareValue E c cv x := by
  cases x <;> cases cv <;> rfl

/-- comparing the values of the elements `key:value` whose key is the tag = comparing `Spec.tagValues` -/
theorem any_tagCompare (E : Env) (t : Str) (p : Bytes → Bool) : (l : List Value) →
    l.any (fun v => match splitColon (stringValue E v) with
      | some (key, lhs) => key == utf8 t && p lhs
      | none => false) =
    (l.filterMap fun x =>
      match splitColon (stringValue E x) with
      | some (k, v) => if k = utf8 t then some v else none
      | none => none).any p
  | [] => rfl
  | x :: l => by
    rw [List.any_cons, List.filterMap_cons, any_tagCompare E t p l]
    cases hs : splitColon (stringValue E x) with
    | none => simp
    | some kv =>
      obtain ⟨k, v⟩ := kv
      by_cases hk : k = utf8 t <;> simp [hk]

theorem compare_refines (E : Env) (f : Field) (c : Cmp) (cv : CV) :
    FieldRefines (filterCompare E f c cv) f (compareRef E f c cv) := by
  apply fieldRefines_withField
  intro p hp e
  cases f with
  | tag t =>
    rw [resolve_tag hp]
    exact any_tagCompare E t _ (tagElems e)
  | attr a =>
    rw [resolve_valueAt hp]
    simp only [compareRef]
    cases valueAt (.attr a) e with
    | none => rfl
    | some x => exact compareAttr_eq E c cv x
  | _ => exact resolve_valueAt hp _ e

/-- the `Definitive range` arm of `Filter::range`: both one-sided matchers, conjoined -/
def bothM (b1 b2 : Build Matcher) : Build Matcher :=
  match b1 with
  | .ok lower =>
    (match b2 with
      | .ok upper => .ok (fun v => lower v && upper v)
      | .err => .err
      | .panic => .panic)
  | .err => .err
  | .panic => .panic

theorem both_refines {b1 b2 : Build Matcher} {chk : Build Unit} {r1 r2 : Value → Bool}
    (h1 : Refines b1 chk r1) (h2 : Refines b2 chk r2) :
    Refines (bothM b1 b2) chk (fun e => r1 e && r2 e) := by
  unfold Refines at h1 h2 ⊢
  subst h1 h2
  cases chk <;> rfl

theorem filterRange_bounded (E : Env) (f : Field) (lo : CV) (li : Bool) (hi : CV) (ui : Bool)
    (h1 : lo ≠ .unbounded) (h2 : hi ≠ .unbounded) :
    filterRange E f lo li hi ui =
      bothM (filterCompare E f (lowerOp li) lo) (filterCompare E f (upperOp ui) hi) := by
  cases lo <;> cases hi <;> first | rfl | exact absurd rfl h1 | exact absurd rfl h2

theorem filterRange_lower_unbounded (E : Env) (f : Field) (li : Bool) (hi : CV) (ui : Bool)
    (h2 : hi ≠ .unbounded) :
    filterRange E f .unbounded li hi ui = filterCompare E f (upperOp ui) hi := by
  cases hi <;> first | rfl | exact absurd rfl h2

theorem filterRange_upper_unbounded (E : Env) (f : Field) (lo : CV) (li : Bool) (ui : Bool)
    (h1 : lo ≠ .unbounded) :
    filterRange E f lo li .unbounded ui = filterCompare E f (lowerOp li) lo := by
  cases lo <;> first | rfl | exact absurd rfl h1

theorem filterRange_unbounded (E : Env) (f : Field) (li ui : Bool) :
    filterRange E f .unbounded li .unbounded ui = filterExists E f := rfl

theorem boundRef_bounded (E : Env) (f : Field) (c : Cmp) (cv : CV) (e : Value) (h : cv ≠ .unbounded) :
    boundRef E f c cv e = compareRef E f c cv e := by
  cases cv <;> first | rfl | exact absurd rfl h

theorem rangeRef_not_both (E : Env) (f : Field) (lo : CV) (li : Bool) (hi : CV) (ui : Bool) (e : Value)
    (h : ¬ (lo = .unbounded ∧ hi = .unbounded)) :
    rangeRef E f lo li hi ui e = (boundRef E f (lowerOp li) lo e && boundRef E f (upperOp ui) hi e) := by
  cases lo <;> cases hi <;> first | rfl | exact absurd ⟨rfl, rfl⟩ h

theorem range_refines (E : Env) (f : Field) (lo : CV) (li : Bool) (hi : CV) (ui : Bool)
    (hR : isTagsReserved f = false ∨ ¬ (lo = .unbounded ∧ hi = .unbounded)) :
    FieldRefines (filterRange E f lo li hi ui) f (rangeRef E f lo li hi ui) := by
  by_cases h1 : lo = .unbounded
  · by_cases h2 : hi = .unbounded
    · subst h1; subst h2
      have hr : isTagsReserved f = false := by
        cases hR with
        | inl h => exact h
        | inr h => exact absurd ⟨rfl, rfl⟩ h
      rw [filterRange_unbounded]
      exact (exists_refines E f hr).congr (fun e => rfl)
    · subst h1
      rw [filterRange_lower_unbounded E f li hi ui h2]
      exact (compare_refines E f (upperOp ui) hi).congr (fun e => by
        rw [rangeRef_not_both E f .unbounded li hi ui e (fun h => h2 h.2), boundRef_bounded E f _ hi e h2]
        simp [boundRef])
  · by_cases h2 : hi = .unbounded
    · subst h2
      rw [filterRange_upper_unbounded E f lo li ui h1]
      exact (compare_refines E f (lowerOp li) lo).congr (fun e => by
        rw [rangeRef_not_both E f lo li .unbounded ui e (fun h => h1 h.1), boundRef_bounded E f _ lo e h1]
        simp [boundRef])
    · rw [filterRange_bounded E f lo li hi ui h1 h2]
      exact (both_refines (compare_refines E f (lowerOp li) lo) (compare_refines E f (upperOp ui) hi)).congr
        (fun e => by
          rw [rangeRef_not_both E f lo li hi ui e (fun h => h1 h.1), boundRef_bounded E f _ lo e h1,
            boundRef_bounded E f _ hi e h2])

theorem mapM_eq (mk : Field → Build Matcher) (ref : Field → Value → Bool) :
    (fs : List Field) → (∀ f ∈ fs, FieldRefines (mk f) f (ref f)) →
    Build.mapM mk fs = (checkFields fs).map fun _ => fs.map ref
  | [], _ => rfl
  | f :: fs, h => by
    have hf : mk f = (checkFields [f]).map fun _ => ref f := h f (by simp)
    have ih := mapM_eq mk ref fs (fun g hg => h g (by simp [hg]))
    simp only [Build.mapM, checkFields, hf, ih]
    cases lookupField f with
    | ok p => cases checkFields fs <;> rfl
    | err => rfl
    | panic => rfl

theorem Refines.any {α : Type} {b : Build (List Matcher)} {chk : Build Unit} {l : List α} {g : α → Value → Bool}
    (h : b = chk.map fun _ => l.map g) : Refines (b.map anyM) chk (fun e => l.any fun x => g x e) := by
  unfold Refines
  rw [h, Build.map_map]
  congr; funext _ e
  simp only [anyM, List.any_map]; rfl

theorem Refines.all {α : Type} {b : Build (List Matcher)} {chk : Build Unit} {l : List α} {g : α → Value → Bool}
    (h : b = chk.map fun _ => l.map g) : Refines (b.map allM) chk (fun e => l.all fun x => g x e) := by
  unfold Refines
  rw [h, Build.map_map]
  congr; funext _ e
  simp only [allM, List.all_map]; rfl

end Search
