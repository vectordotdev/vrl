/-
  IPv4 text (C25): std's parser accepts exactly what `Display` prints (no leading zeros, no octet
  above 255), stated as one equivalence per layer: digit run, octet, dotted quad, whole text.
  At the end: the number forms of an address (`u32` and four octets, sixteen bytes and eight
  segments) are inverse.
-/
import VrlModel.Conv.Ip
import VrlProofs.Lemmas.C25Lossy
import VrlProofs.Lemmas.Digits

namespace Conv.Ip
open Digits

theorem digitVal_decimal (d : Nat) (hd : d < 10) : digitVal (48 + d) = some d := by
  have : 48 ≤ 48 + d ∧ 48 + d ≤ 57 := by omega
  simp [digitVal, this]

theorem digitVal_lt10 (c d : Nat) (h : digitVal c = some d) (hd : d < 10) : c = 48 + d := by
  revert h
  fun_cases digitVal c <;> intro h <;> cases h <;> omega

/-- `rest` does not begin with a decimal digit, so a digit run read in front of it ends there -/
def stops (rest : List Nat) : Prop := takeDigits 10 rest = ([], rest)

theorem stops_nil : stops [] := rfl
theorem stops_dot (r : List Nat) : stops (46 :: r) := by
  simp [stops, takeDigits, digitVal]

theorem takeDigits_eq (s ds rest : List Nat) :
    takeDigits 10 s = (ds, rest) ↔ s = ds.map (48 + ·) ++ rest ∧ (∀ d ∈ ds, d < 10) ∧ stops rest := by
  constructor
  · revert ds rest
    fun_induction takeDigits 10 s with
    | case1 => intro ds rest h; cases h; exact ⟨rfl, by simp, rfl⟩
    | case2 c cs d hv hd r ih =>
      intro ds rest h; cases h
      obtain ⟨h1, h2, h3⟩ := ih _ _ rfl
      rw [digitVal_lt10 c d hv hd]
      exact ⟨by simpa using h1, by simpa [hd] using h2, h3⟩
    | case3 c cs d hv hd =>
      intro ds rest h; cases h; exact ⟨rfl, by simp, by simp [stops, takeDigits, hv, hd]⟩
    | case4 c cs hv => intro ds rest h; cases h; exact ⟨rfl, by simp, by simp [stops, takeDigits, hv]⟩
  · rintro ⟨rfl, h, hs⟩
    induction ds with
    | nil => exact hs
    | cons d ds ih =>
      have hd : d < 10 := h d (by simp)
      simp only [List.map_cons, List.cons_append, takeDigits, digitVal_decimal d hd, hd, ↓reduceIte]
      rw [ih (fun x hx => h x (by simp [hx]))]

theorem showOctet_eq (a : Nat) (ha : a < 1000) : showOctet a = (toDigits 10 a).map (48 + ·) := by
  have d : 2 ≤ 10 := by decide
  unfold showOctet
  split
  · rename_i h; rw [toDigits_lt h]; rfl
  · rename_i h
    rw [toDigits_ge d (by omega)]
    split
    · rw [toDigits_lt (b := 10) (n := a / 10) (by omega)]; rfl
    · rw [toDigits_ge (n := a / 10) d (by omega), toDigits_lt (b := 10) (n := a / 10 / 10) (by omega),
        Nat.div_div_eq_div_mul]; rfl

theorem digitsNat_eq (ds : List Nat) : digitsNat 10 ds = ofDigits 10 0 ds := rfl

theorem readOctet_eq_some (s rest : List Nat) (a : Nat) :
    readOctet s = some (a, rest) ↔
      (takeDigits 10 s).1 ≠ [] ∧ (takeDigits 10 s).1.length ≤ 3 ∧
        ¬ (s.head? = some 48 ∧ 1 < (takeDigits 10 s).1.length) ∧
        digitsNat 10 (takeDigits 10 s).1 ≤ 255 ∧
        digitsNat 10 (takeDigits 10 s).1 = a ∧ (takeDigits 10 s).2 = rest := by
  simp only [readOctet, readNumber, Option.ite_none_left_eq_some, Option.ite_none_right_eq_some,
    Option.some.injEq, Prod.mk.injEq, List.length_eq_zero_iff, gt_iff_lt, Nat.not_lt, Bool.not_false,
    Bool.true_and, Bool.and_eq_true, beq_iff_eq, decide_eq_true_eq, ne_eq]

theorem head?_text (ds rest : List Nat) (hne : ds ≠ []) :
    (ds.map (48 + ·) ++ rest).head? = some 48 ↔ ds.head? = some 0 := by
  cases ds with
  | nil => exact absurd rfl hne
  | cons d ds => simp

theorem showOctet_len (a : Nat) : (showOctet a).length ≤ 3 := by
  unfold showOctet
  split
  · simp
  · split <;> simp

/-- `read_number(10, Some(3), false)` into a `u8` accepts exactly what `{}` prints, then a non-digit -/
theorem readOctet_iff (s rest : List Nat) (a : Nat) :
    readOctet s = some (a, rest) ↔ a < 256 ∧ s = showOctet a ++ rest ∧ stops rest := by
  rw [readOctet_eq_some]
  constructor
  · intro ⟨hne, _, hz, h255, ha, hr⟩
    obtain ⟨hs, hlt, hst⟩ := (takeDigits_eq s _ _).mp rfl
    have c : Canon 10 (takeDigits 10 s).1 :=
      ⟨hlt, hne, fun h0 => Nat.not_lt.mp fun h1 =>
        hz ⟨by rw [hs]; exact (head?_text _ _ hne).mpr h0, h1⟩⟩
    refine ⟨by omega, ?_, hr ▸ hst⟩
    rw [showOctet_eq a (by omega), ← ha, digitsNat_eq, toDigits_ofDigits (by decide) c, ← hr]
    exact hs
  · rintro ⟨ha, rfl, hs⟩
    have c := canon_toDigits (b := 10) (by decide) a
    have hv := ofDigits_toDigits (b := 10) a
    rw [showOctet_eq a (by omega), (takeDigits_eq _ _ _).mpr ⟨rfl, c.lt, hs⟩]
    refine ⟨c.ne_nil, length_toDigits_le (by decide) 2 a (by omega), fun h => ?_,
      by rw [digitsNat_eq, hv]; omega, hv, rfl⟩
    exact Nat.not_lt.mpr (c.noZeroPrefix ((head?_text _ _ c.ne_nil).mp h.1)) h.2

theorem expect_eq_some (c : Nat) (s rest : List Nat) : expect c s = some rest ↔ s = c :: rest := by
  cases s with
  | nil => simp [expect]
  | cons d t => simp [expect, eq_comm]

def Quad (o : List Nat) : Prop :=
  ∃ a b c d, o = [a, b, c, d] ∧ a < 256 ∧ b < 256 ∧ c < 256 ∧ d < 256

theorem Quad.length {o : List Nat} (hq : Quad o) : o.length = 4 := by
  obtain ⟨a, b, c, d, rfl, -⟩ := hq; rfl

/-- `read_ipv4_addr` accepts exactly what `Display for Ipv4Addr` prints, followed by a non-digit -/
theorem readV4_iff (s rest o : List Nat) :
    readV4 s = some (o, rest) ↔ Quad o ∧ s = showV4 o ++ rest ∧ stops rest := by
  constructor
  · intro h
    simp only [readV4, Option.bind_eq_bind, Option.bind_eq_some_iff, Prod.exists, expect_eq_some,
      Option.pure_def, Option.some.injEq, Prod.mk.injEq, readOctet_iff] at h
    -- one octet at a time: its bound, the text it was read from, and the `.` that must follow
    obtain ⟨a, _, ⟨la, rfl, -⟩, _, rfl, h⟩ := h
    obtain ⟨b, _, ⟨lb, rfl, -⟩, _, rfl, h⟩ := h
    obtain ⟨c, _, ⟨lc, rfl, -⟩, _, rfl, h⟩ := h
    obtain ⟨d, _, ⟨ld, rfl, hs⟩, rfl, rfl⟩ := h
    exact ⟨⟨a, b, c, d, rfl, la, lb, lc, ld⟩, by simp [showV4], hs⟩
  · rintro ⟨⟨a, b, c, d, rfl, la, lb, lc, ld⟩, rfl, hs⟩
    -- run the reader: each octet is read back in front of the `.` (or of `rest`) that follows it
    have octet : ∀ x r, x < 256 → stops r → readOctet (showOctet x ++ r) = some (x, r) :=
      fun x r hx hr => (readOctet_iff _ r x).mpr ⟨hx, rfl, hr⟩
    simp only [showV4, List.append_assoc, List.cons_append, readV4, Option.bind_eq_bind,
      octet a _ la (stops_dot _), octet b _ lb (stops_dot _), octet c _ lc (stops_dot _),
      octet d _ ld hs, Option.bind_some, expect, ↓reduceIte]
    rfl

theorem showOctet_ascii (a : Nat) (ha : a < 256) : ∀ c ∈ showOctet a, c < 128 := by
  intro c hc
  rw [showOctet_eq a (by omega)] at hc
  obtain ⟨d, hd, rfl⟩ := List.mem_map.mp hc
  have := toDigits_mem_lt (b := 10) (by decide) a d hd
  omega

theorem showV4_len (o : List Nat) (hq : Quad o) : (showV4 o).length ≤ 15 := by
  obtain ⟨a, b, c, d, rfl, ha, hb, hc, hd⟩ := hq
  have := showOctet_len a; have := showOctet_len b
  have := showOctet_len c; have := showOctet_len d
  simp only [showV4, List.length_append, List.length_cons]
  omega

theorem showV4_ascii (o : List Nat) (hq : Quad o) : ∀ x ∈ showV4 o, x < 128 := by
  obtain ⟨a, b, c, d, rfl, ha, hb, hc, hd⟩ := hq
  have dot : (46 : Nat) < 128 := by decide
  simp only [showV4, List.append_assoc, List.cons_append, List.forall_mem_append, List.forall_mem_cons]
  exact ⟨showOctet_ascii a ha, dot, showOctet_ascii b hb, dot, showOctet_ascii c hc, dot,
    showOctet_ascii d hd⟩

theorem lossy_showV4 (o : List Nat) (hq : Quad o) : Utf8.lossy (showV4 o) = showV4 o :=
  lossy_ascii _ (showV4_ascii o hq)

theorem readV4_showV4 (o : List Nat) (hq : Quad o) : readV4 (showV4 o) = some (o, []) :=
  (readV4_iff _ [] o).mpr ⟨hq, (List.append_nil _).symm, stops_nil⟩

/-- `Ipv4Addr::from_str` accepts exactly the texts `Display` prints -/
theorem parseV4_iff (s o : List Nat) : parseV4 s = some o ↔ Quad o ∧ s = showV4 o := by
  constructor
  · intro h
    revert h
    fun_cases parseV4 s with
    | case1 hlen => intro h; cases h -- longer than 15 bytes
    | case2 hlen o' hr => -- the reader took everything
      intro h; cases h
      simpa using ((readV4_iff s [] o).mp hr).imp_right And.left
    | case3 hlen hno => intro h; cases h -- the reader failed or left a rest
  · rintro ⟨hq, rfl⟩
    simp [parseV4, readV4_showV4 o hq, Nat.not_lt.mpr (showV4_len o hq)]

theorem parseIp_showV4 (t : V6Text) (o : List Nat) (hq : Quad o) :
    parseIp t (showV4 o) = some (.v4 o) := by
  simp [parseIp, readV4_showV4 o hq]

theorem parseV4_lossy_inv (s o : List Nat) (h : parseV4 (Utf8.lossy s) = some o) :
    Quad o ∧ s = showV4 o := by
  obtain ⟨hq, hs⟩ := (parseV4_iff _ o).mp h
  exact ⟨hq, by rw [← hs, lossy_ascii_out s (by rw [hs]; exact showV4_ascii o hq)]⟩

theorem bytesOfSegs_segsOfBytes : (b : List Nat) → b.length % 2 = 0 → (∀ x ∈ b, x < 256) →
    bytesOfSegs (segsOfBytes b) = b
  | [], _, _ => rfl
  | [_], h, _ => by simp at h
  | x :: y :: rest, h, ho => by
    have hy : y < 256 := ho y (by simp)
    rw [segsOfBytes, bytesOfSegs, mul_add_div x y hy, mul_add_mod x y hy,
      bytesOfSegs_segsOfBytes rest (by simp only [List.length_cons] at h; omega) (fun z hz => ho z (by simp [hz]))]

theorem octetsOfU32_eq (n : Nat) :
    octetsOfU32 n = [n / 256 / 256 / 256 % 256, n / 256 / 256 % 256, n / 256 % 256, n % 256] := by
  simp [octetsOfU32, Nat.div_div_eq_div_mul]

theorem octetsOfU32_quad (n : Nat) : Quad (octetsOfU32 n) :=
  have m (x : Nat) : x % 256 < 256 := Nat.mod_lt x (by decide)
  ⟨_, _, _, _, rfl, m _, m _, m _, m _⟩

theorem u32OfOctets_octetsOfU32 (n : Nat) (h : n < 4294967296) : u32OfOctets (octetsOfU32 n) = n := by
  rw [octetsOfU32_eq, u32OfOctets, Nat.mod_eq_of_lt (a := n / 256 / 256 / 256) (by omega),
    Nat.div_add_mod', Nat.div_add_mod', Nat.div_add_mod']

theorem octetsOfU32_u32OfOctets (o : List Nat) (hq : Quad o) :
    octetsOfU32 (u32OfOctets o) = o ∧ u32OfOctets o < 4294967296 := by
  obtain ⟨a, b, c, d, rfl, ha, hb, hc, hd⟩ := hq
  rw [octetsOfU32_eq, u32OfOctets]
  simp only [mul_add_div _ _ hd, mul_add_div _ _ hc, mul_add_div _ _ hb, mul_add_mod _ _ hd,
    mul_add_mod _ _ hc, mul_add_mod _ _ hb, Nat.mod_eq_of_lt ha, true_and]
  omega

end Conv.Ip
