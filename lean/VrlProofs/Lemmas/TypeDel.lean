import VrlProofs.Lemmas.TypeAssign
import VrlProofs.Lemmas.KindRemoveField

/-! `del` at run time (`Target::remove`, `Value::remove` on a variable) against `DelFn::type_info`
    (`deleteExt`, `delExternal`, `delVarUpdate`), at the paths `delPathOk` admits. -/

namespace Lang
open Spec

theorem value_remove_field (m : VMap) (f : Key) (c : Bool) :
    ((Value.obj m).remove [.field f] c).2 = .obj (m.remove f) := by
  simp only [Value.remove, Value.removeOpt]
  cases hg : m.get f with
  | none => simp [Value.removeOpt, VMap.remove_absent m f hg]
  | some x => simp [Value.removeOpt]

theorem remove_sound_ok (v : Value) (K : Kind) (p : Path) (c : Bool) (hok : delPathOk K p = true)
    (hm : mem v K = true) (hs : v.Sorted = true) :
    ∃ K' R, K.remove p c = .ok (K', R) ∧ mem (v.remove p c).2 K' = true := by
  cases p with
  | nil =>
    refine ⟨_, _, remove_root_eq K c, ?_⟩
    have : (v.remove [] c).2 = Value.emptied v := by simp [Value.remove, Value.removeOpt]
    rw [this]
    exact mem_emptied v K hm
  | cons sg rest =>
    cases sg with
    | index i => simp [delPathOk] at hok
    | field f =>
      cases rest with
      | cons _ _ => simp [delPathOk] at hok
      | nil =>
        simp only [delPathOk, Bool.and_eq_true, Bool.not_eq_true'] at hok
        obtain ⟨⟨hobj, sK⟩, iK⟩ := hok
        obtain ⟨m, rfl⟩ := memR_isObject hobj (memR_of_mem hm)
        cases K with
        | mk pr a o =>
          cases o with
          | none => simp [mem, Kind.hasObj] at hm
          | some col =>
            cases col with
            | mk kn u =>
              obtain ⟨so, io⟩ := (tame_mk.mp ⟨sK, iK⟩).2
              have := remove_field_obj_sound m pr a kn u f c so io (by simpa [Value.Sorted] using hs) hm
              refine ⟨_, _, this.1, ?_⟩
              rw [value_remove_field]
              exact this.2

theorem conforms_delete {s : St} {T : TState} (hc : Conforms s T) (m : Bool) (p : Path) (b : Bool)
    (hok : delPathOk (T.extKind m) p = true) :
    Conforms (s.targetRemove m p b).2 (deleteExt T m p b) := by
  obtain ⟨K', R, hrem, hmem⟩ := remove_sound_ok _ _ p b hok (hc.extMem m).1 (hc.extMem m).2
  have : deleteExt T m p b = T.setExt m K' := by simp [deleteExt, hrem]
  rw [this]
  exact Conforms.of_same (targetRemove_eq s hc.faults m p b).2
    (hc.setExt m hmem (C18.remove_sorted _ _ _ (hc.extMem m).2))

theorem conforms_delExternal {s' : St} {T : TState} (m : Bool) (p : Path) (compact : Option Bool) (b : Bool)
    (hb : ∀ c, compact = some c → b = c)
    (hk : AllNan (delUnionChecks T m p compact))
    (hc : Conforms s' (deleteExt T m p b)) :
    Conforms s' (delExternal T (some (m, p)) compact) := by
  cases compact with
  | some c => cases hb c rfl; exact hc
  | none =>
    simp only [delExternal, TState.mergeExternal]
    simp only [delUnionChecks, allNan_append, allNan_chk_iff, reduceCtorEq, false_or] at hk
    have hloc : ∀ b', (deleteExt T m p b').locals = T.locals ∧ (deleteExt T m p b').leaked = T.leaked := by
      intro b'
      unfold deleteExt
      split
      · unfold TState.setExt; split <;> exact ⟨rfl, rfl⟩
      · exact ⟨rfl, rfl⟩
    cases b with
    | false =>
      exact ⟨hc.faults, hc.vars, mem_union_left' hk.1 hc.event, hc.eventSorted,
        mem_union_left' hk.2 hc.metadata, hc.metadataSorted, hc.closed⟩
    | true =>
      refine ⟨hc.faults, ?_, mem_union_right' hk.1 hc.event, hc.eventSorted,
        mem_union_right' hk.2 hc.metadata, hc.metadataSorted, ?_⟩
      · intro n d hd
        apply hc.vars n d
        simpa [TState.getVar, (hloc true).1, (hloc false).1] using hd
      · intro n w hn
        have := hc.closed n w hn
        simpa [TState.getVar, (hloc true).1, (hloc false).1, (hloc true).2, (hloc false).2] using this

theorem del_result {s : St} {T : TState} (hc : Conforms s T) (m : Bool) (p : Path) (b : Bool)
    (hat : atOk (T.extKind m) p = true) :
    memR (((s.targetRemove m p b).1).getD .null) ((T.extKind m).atPath p) = true ∧
    (((s.targetRemove m p b).1).getD .null).Sorted = true := by
  rw [(targetRemove_eq s hc.faults m p b).1, C18.remove_returns_get]
  exact memR_atPath (memR_of_mem (hc.extMem m).1) (hc.extMem m).2 hat

theorem conforms_delExternal_none {s : St} {T : TState} (compact : Option Bool) (hc : Conforms s T)
    (hk : compact = none → unionOk T.target T.target = true ∧ unionOk T.metadata T.metadata = true) :
    Conforms s (delExternal T none compact) := by
  cases compact with
  | some b => exact hc
  | none =>
    obtain ⟨h1, h2⟩ := hk rfl
    exact ⟨hc.faults, hc.vars, mem_union_left' h1 hc.event, hc.eventSorted,
      mem_union_left' h2 hc.metadata, hc.metadataSorted, hc.closed⟩

theorem delExternal_none_getVar (T : TState) (compact : Option Bool) (n : String) :
    (delExternal T none compact).getVar n = T.getVar n := by
  cases compact <;> rfl

/-- the variable after `del` against its re-inserted type (`DelFn::type_info`) -/
theorem conforms_delVarUpdate {s : St} {T : TState} {n : String} {p : Path} {d : Details} {v : Value}
    (compact : Option Bool) (b : Bool) (hb : ∀ c, compact = some c → b = c)
    (hd : T.getVar n = some d) (hv : mem v d.td.kind = true) (hs : v.Sorted = true)
    (hok : delPathOk d.td.kind p = true)
    (hu : compact = none → unionOk (removeTd d.td p false).kind (removeTd d.td p true).kind = true)
    (hc : Conforms s T) :
    Conforms (s.setVar n (v.remove p b).2) (delVarUpdate T n p compact) := by
  have hmb : ∀ b', mem (v.remove p b').2 (removeTd d.td p b').kind = true := by
    intro b'
    obtain ⟨K', R, hrem, hmem⟩ := remove_sound_ok v d.td.kind p b' hok hv hs
    simpa [removeTd, hrem] using hmem
  have hso := C18.remove_sorted v p b hs
  -- the variable is re-inserted with the kind `td` and no constant; the `oom` marker is not looked at
  have key : ∀ td : TypeDef, mem (v.remove p b).2 td.kind = true → ∀ oom,
      Conforms (s.setVar n (v.remove p b).2) { T.setVar n { td := td, value := none } with oom := oom } :=
    fun td hm oom => Conforms.of_tstate (T := T.setVar n { td := td, value := none }) rfl rfl rfl rfl
      (Conforms.setVar (n := n) (d := { td := td, value := none }) hc hm hso fun _ h => nomatch h)
  unfold delVarUpdate
  rw [hd]
  cases compact with
  | some c => cases hb c rfl; exact key _ (hmb b) _
  | none =>
    refine key _ ?_ _
    cases b
    · exact mem_union_left' (hu rfl) (hmb false)
    · exact mem_union_right' (hu rfl) (hmb true)

end Lang
