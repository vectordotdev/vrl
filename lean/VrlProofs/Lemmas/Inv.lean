/-
  Abstract state invariants of the runtime model.

  An `Inv` packages a predicate `J` on runtime states with the closure properties the structural
  induction over `eval` needs:
  * `stable`: `J` only looks at the target (event, metadata) and at the access log — every change of
    variables, flags, caught-error texts, fault counter keeps it;
  * `get` / `ins` / `rem`: the three target operations keep it whenever the *static* condition `G` /
    `W` / `D` holds of the (prefix, path) they act on.
  `Lang.eval_inv` … `Lang.run_inv` (Lemmas/InvEval.lean) then show: if every external query of a
  program (and the event root, read by the root check of `Runtime::resolve`) satisfies `G`, every
  external assignment target `W` and every `del` path `D`, every run from a `J`-state ends in a
  `J`-state — whatever the outcome, through closures and iteration functions, under every fault
  schedule. Instances: the log coverage of C16 (Lemmas/InvLog.lean) and the protection of read-only
  paths of C15 (Props/C15.lean).
-/
import VrlProofs.Lemmas.Call
import VrlModel.Lang.Writes

namespace Lang

structure Inv where
  J : St → Prop
  G : Bool × Path → Prop
  W : Bool × Path → Prop
  D : Bool × Path → Prop
  stable : ∀ (s t : St), t.event = s.event → t.metadata = s.metadata → t.log = s.log → J s → J t
  get : ∀ (s : St) (m : Bool) (p : Path), G (m, p) → J s → J (s.targetGet m p).2
  ins : ∀ (s s' : St) (m : Bool) (p : Path) (v : Value), W (m, p) → J s →
    s.targetInsert m p v = some s' → J s'
  rem : ∀ (s : St) (m : Bool) (p : Path) (c : Bool), D (m, p) → J s → J (s.targetRemove m p c).2

namespace Inv
variable (I : Inv)

/-- the thunk `t` keeps the invariant ("thunk OK") -/
def TOK (t : Thunk) : Prop := ∀ s, I.J s → I.J (t s).2

def ArgsOK (args : List (Option String × Thunk)) : Prop := ∀ k t, (k, t) ∈ args → I.TOK t

variable {I}

theorem keep {s t : St} (hs : I.J s) (he : t.event = s.event) (hm : t.metadata = s.metadata)
    (hl : t.log = s.log) : I.J t := I.stable s t he hm hl hs

theorem tgtInsert {t : Tgt} {v : Value} {s s' : St} (hi : t.insert v s = some s') (hs : I.J s)
    (ha : ∀ x ∈ tgtAssign t, I.W x) : I.J s' := by
  cases t with
  | external m p => exact I.ins s s' m p v (ha _ List.mem_cons_self) hs hi
  | noop => cases hi; exact hs
  | internal n p =>
    simp only [Tgt.insert] at hi
    split at hi
    · cases hi; exact I.keep hs rfl rfl rfl
    · -- the variable holds a value or not; `Value.insert` into it panics or the variable is rewritten
      split at hi <;> split at hi <;> cases hi <;> exact I.keep hs rfl rfl rfl

theorem cInsert (s : St) (i : Option String) (v : Value) (hs : I.J s) : I.J (cInsert s i v).2 := by
  cases i with
  | none => exact hs
  | some n => exact I.keep hs rfl rfl rfl

theorem cCleanup (s : St) (i : Option String) (o : Option Value) (hs : I.J s) : I.J (cCleanup s i o) := by
  cases i with
  | none => exact hs
  | some n => cases o <;> exact I.keep hs rfl rfl rfl

variable {vars : List String} {body : Thunk} (hb : I.TOK body)
include hb

theorem runBody : I.TOK (runBody body) := by
  intro s hs
  have h := hb s hs
  unfold Lang.runBody
  generalize body s = x at h
  split <;> exact h

theorem runKeyValue (k : List Nat) (v : Value) (s : St) (hs : I.J s) :
    I.J (runKeyValue vars body k v s).2 :=
  cCleanup _ _ _ (cCleanup _ _ _ (runBody hb _ (cInsert _ _ _ (cInsert _ _ _ hs))))

theorem runIndexValue (i : Nat) (v : Value) (s : St) (hs : I.J s) :
    I.J (runIndexValue vars body i v s).2 :=
  cCleanup _ _ _ (cCleanup _ _ _ (runBody hb _ (cInsert _ _ _ (cInsert _ _ _ hs))))

theorem mapKey (k : List Nat) (s : St) (hs : I.J s) : I.J (mapKey vars body k s).2 := by
  have h := cCleanup _ (cIdent vars 0) (Lang.cInsert s (cIdent vars 0) (.bytes k)).1
    (runBody hb _ (cInsert s (cIdent vars 0) (.bytes k) hs))
  unfold Lang.mapKey
  simp only
  split <;> exact h

theorem mapValue (v : Value) (s : St) (hs : I.J s) : I.J (mapValue vars body v s).2 :=
  cCleanup _ _ _ (runBody hb _ (cInsert _ _ _ hs))

variable {value : Thunk} (hv : I.TOK value)
include hv

theorem mapKeysCall (rr : Res × St) (hr : I.J rr.2) : I.J (mapKeysCall vars body value rr).2 := by
  unfold Lang.mapKeysCall
  split
  · have h1 := hv _ hr
    generalize value _ = x at h1
    split
    · next m _ =>
      have h2 := mapKeysMap_keeps (vars := vars) (mapKey hb) m _ h1
      generalize mapKeysMap vars body m _ = y at h2
      split <;> exact h2
    · exact h1
  all_goals exact hr

theorem mapValuesCall (rr : Res × St) (hr : I.J rr.2) : I.J (mapValuesCall vars body value rr).2 := by
  unfold Lang.mapValuesCall
  split
  · have h1 := hv _ hr
    generalize value _ = x at h1
    split
    · next m _ =>
      have h2 := mapValuesMap_keeps (vars := vars) (mapValue hb) m _ h1
      generalize mapValuesMap vars body m _ = y at h2
      split <;> exact h2
    · next a _ =>
      have h2 := mapValuesList_keeps (vars := vars) (mapValue hb) a _ h1
      generalize mapValuesList vars body a _ = y at h2
      split <;> exact h2
    · exact mapValue hb _ _ h1
    · exact h1
  all_goals exact hr

omit hb hv

theorem recArg (rec : Option Thunk) (h : ∀ t, rec = some t → I.TOK t) (s : St)
    (hs : I.J s) : I.J (recArg rec s).2 := by
  cases rec with
  | none => exact hs
  | some t => exact h t rfl s hs

theorem callFn (name : String) (args : List (Option String × Thunk))
    (closure : Option (List String × Thunk)) (ha : I.ArgsOK args)
    (hc : ∀ vars body, closure = some (vars, body) → I.TOK body) (s : St) (hs : I.J s) :
    I.J (callFn name args closure s).2 := by
  unfold Lang.callFn
  split
  · exact hs
  next hpar =>
    split
    · exact hs
    next slots hpl =>
      have hsl : ∀ t, some t ∈ slots → I.TOK t := fun t ht =>
        (placeArgs_mem _ args slots hpl t ht).elim fun k hk => ha k t hk
      split
      · -- for_each
        rename_i value vars body
        have hb := hc vars body rfl
        have hv := hsl value List.mem_cons_self s hs
        generalize value s = x at hv
        split
        · exact forEachMap_keeps (runKeyValue hb) _ _ hv
        · exact forEachList_keeps (runIndexValue hb) _ _ _ hv
        · exact hv
        · exact hv
      · -- filter
        rename_i value vars body
        have hb := hc vars body rfl
        have hv := hsl value List.mem_cons_self s hs
        generalize value s = x at hv
        split
        · next m _ =>
          have h2 := filterMap_keeps (vars := vars) (runKeyValue hb) m _ hv
          generalize filterMap vars body m _ = y at h2
          split <;> exact h2
        · next a _ =>
          have h2 := filterList_keeps (vars := vars) (runIndexValue hb) a 0 _ hv
          generalize filterList vars body a 0 _ = y at h2
          split <;> exact h2
        · exact hv
        · exact hv
      · -- map_keys
        rename_i value rec vars body
        exact mapKeysCall (hc vars body rfl) (hsl value List.mem_cons_self) _
          (recArg rec (fun t ht => hsl t (by simp [ht])) s hs)
      · -- map_values
        rename_i value rec vars body
        exact mapValuesCall (hc vars body rfl) (hsl value List.mem_cons_self) _
          (recArg rec (fun t ht => hsl t (by simp [ht])) s hs)
      · -- no closure: the arguments, then a function of their values
        have h2 := evalSlots_keeps slots hsl s hs
        generalize evalSlots slots s = y at h2
        split <;> exact h2
      · exact hs

end Inv
end Lang
