import VrlModel.F64
import VrlProofs.Lemmas.Digits

/-! Facts about the soft-float `VrlModel/F64.lean`: sign and magnitude of a pattern, the rounding of an
    integer (`ofInt`), the order through `key`, which operands give NaN, properties of every result. -/
namespace F64

theorem mag_lt (b : Nat) : mag b < p63 := Nat.mod_lt _ (by decide)

theorem mag_withSign (s : Bool) (m : Nat) (h : m < p63) : mag (withSign s m) = m := by
  cases s
  · exact Nat.mod_eq_of_lt h
  · exact (Nat.add_mod_left p63 m).trans (Nat.mod_eq_of_lt h)

theorem signBit_withSign (s : Bool) (m : Nat) (h : m < p63) : signBit (withSign s m) = s := by
  cases s
  · show (m / p63 % 2 == 1) = false
    rw [Nat.div_eq_of_lt h]; rfl
  · show ((p63 + m) / p63 % 2 == 1) = true
    rw [Nat.add_div_left _ (by decide), Nat.div_eq_of_lt h]; rfl

theorem withSign_lt (s : Bool) (m : Nat) (h : m < p63) : withSign s m < p64 := by
  cases s
  · exact Nat.lt_trans h (by decide)
  · exact Nat.add_lt_add_left h p63

theorem isNaN_withSign (s : Bool) (m : Nat) (h : m ≤ infBits) : isNaN (withSign s m) = false := by
  have hm : m < p63 := Nat.lt_of_le_of_lt h (by decide)
  rw [isNaN, mag_withSign s m hm]
  exact decide_eq_false (Nat.not_lt.2 h)

theorem bits_eq (b : Nat) (h : b < p64) : b = (if signBit b then p63 else 0) + mag b := by
  have hq : b / p63 < 2 := Nat.div_lt_of_lt_mul h
  have hb := (Nat.div_add_mod b p63).symm
  unfold signBit mag
  generalize b / p63 = q at hq hb ⊢
  match q, hq with
  | 0, _ => simpa using hb
  | 1, _ => simpa using hb

theorem eq_of_sign_mag {a b : Nat} (ha : a < p64) (hb : b < p64) (hs : signBit a = signBit b)
    (hm : mag a = mag b) : a = b := by
  rw [bits_eq a ha, bits_eq b hb, hs, hm]

theorem clampInf_le (b : Nat) : clampInf b ≤ infBits := by
  unfold clampInf
  split
  · exact Nat.le_refl _
  · exact Nat.le_of_lt (Nat.not_le.1 ‹_›)

theorem clampInf_of_lt {b : Nat} (h : b < infBits) : clampInf b = b := if_neg (Nat.not_le.2 h)

theorem roundMag_le (m : Nat) (e : Int) : roundMag m e ≤ infBits := by
  unfold roundMag
  split
  · exact Nat.zero_le _
  · exact clampInf_le _

theorem roundMag_lt_p63 (m : Nat) (e : Int) : roundMag m e < p63 :=
  Nat.lt_of_le_of_lt (roundMag_le m e) (by decide)

theorem lt_iff_key (a b : Nat) (ha : isNaN a = false) (hb : isNaN b = false) :
    lt a b = decide (key a < key b) := by simp [lt, ha, hb]

theorem le_iff_key (a b : Nat) (ha : isNaN a = false) (hb : isNaN b = false) :
    le a b = decide (key a ≤ key b) := by simp [le, ha, hb]

theorem eq_iff_key (a b : Nat) (ha : isNaN a = false) (hb : isNaN b = false) :
    eq a b = decide (key a = key b) := by simp [eq, ha, hb]

theorem eq_self (a : Nat) (h : isNaN a = false) : eq a a = true := by simp [eq, h]

theorem eq_true_iff (a b : Nat) (ha : isNaN a = false) (hb : isNaN b = false)
    (hal : a < p64) (hbl : b < p64) :
    eq a b = true ↔ (a = b ∨ (isZero a = true ∧ isZero b = true)) := by
  rw [eq_iff_key a b ha hb, decide_eq_true_eq]
  constructor
  · -- equal keys of equal sign are equal magnitudes; of opposite sign, both magnitudes are zero
    intro h
    unfold key at h
    cases hsa : signBit a <;> cases hsb : signBit b <;> simp only [hsa, hsb, Bool.false_eq_true, ↓reduceIte] at h
    · exact .inl (eq_of_sign_mag hal hbl (hsa.trans hsb.symm) (Int.ofNat.inj h))
    · exact .inr (by simp [isZero]; omega)
    · exact .inr (by simp [isZero]; omega)
    · exact .inl (eq_of_sign_mag hal hbl (hsa.trans hsb.symm) (Int.ofNat.inj (Int.neg_inj.1 h)))
  · rintro (rfl | ⟨h1, h2⟩)
    · rfl
    · simp only [isZero, beq_iff_eq] at h1 h2
      simp [key, h1, h2]

theorem expField_mk (E f : Nat) (hE : E < 2048) (hf : f < p52) : expField (E * p52 + f) = E := by
  rw [expField, Digits.mul_add_div E f hf, Nat.mod_eq_of_lt hE]

theorem frac_mk (E f : Nat) (hf : f < p52) : frac (E * p52 + f) = f := by
  rw [frac, Digits.mul_add_mod E f hf]

theorem roundMag_zero (e : Int) : roundMag 0 e = 0 := if_pos rfl

/-- `q ≤ p53 = 2 · p52` raises the field `E` by at most 2, and `infBits = 2047 · p52` -/
theorem mk_lt_inf {E q : Nat} (hE : E + 2 < 2047) (hq : q ≤ p53) : E * p52 + q < infBits := by
  have := Nat.mul_le_mul_right p52 (Nat.le_of_lt_succ hE)
  unfold p52 p53 infBits at *; omega

theorem roundQ_small {m L k : Nat} (lo : 2 ^ L ≤ m) (hi : m < 2 ^ (L + 1)) (hk : L + k = 52) :
    roundQ m ((L : Int) - 52) = m * 2 ^ k ∧ p52 ≤ m * 2 ^ k ∧ m * 2 ^ k < p53 := by
  have c1 := Nat.mul_le_mul_right (2 ^ k) lo
  have c2 := Nat.mul_lt_mul_of_pos_right hi (Nat.pow_pos (n := k) (by decide : 0 < 2))
  rw [← Nat.pow_add, hk] at c1
  rw [← Nat.pow_add, Nat.add_right_comm, hk] at c2
  have e : (-((L : Int) - 52)).toNat = k := by omega
  rw [roundQ, if_pos (by omega), e]
  exact ⟨rfl, c1, c2⟩

theorem roundQ_big {m L s : Nat} (hi : m < 2 ^ (L + 1)) (hs : L = 53 + s) :
    roundQ m ((L : Int) - 52) ≤ p53 := by
  have q2 : m / 2 ^ (s + 1) < p53 := by
    rw [Nat.div_lt_iff_lt_mul (Nat.pow_pos (by decide))]
    rwa [hs, Nat.add_assoc, Nat.pow_add] at hi
  have e : (L : Int) - 52 = ((s + 1 : Nat) : Int) := by omega
  rw [e, roundQ, if_neg (by omega)]
  simp only [Int.toNat_natCast]
  split <;> omega

/-- the field is `log2 m + 1022`, not `+ 1023`: the significand still carries its leading bit -/
theorem roundMag_nat (m : Nat) (hm : m ≠ 0) (h : m < p64) :
    roundMag m 0 = (Nat.log2 m + 1022) * p52 + roundQ m ((Nat.log2 m : Int) - 52) ∧
    roundMag m 0 < infBits := by
  have hL : Nat.log2 m < 64 := (Nat.log2_lt hm).2 h
  have hq : roundQ m ((Nat.log2 m : Int) - 52) ≤ p53 := by
    rcases Nat.lt_or_ge (Nat.log2 m) 53 with h1 | h1
    · obtain ⟨k, hk⟩ := Nat.le.dest (Nat.le_of_lt_succ h1)
      obtain ⟨e, _, c2⟩ := roundQ_small (Nat.log2_self_le hm) Nat.lt_log2_self hk
      exact e ▸ Nat.le_of_lt c2
    · obtain ⟨s, hs⟩ := Nat.le.dest h1
      exact roundQ_big Nat.lt_log2_self hs.symm
  -- at most 1022 + 63 = 1085, the largest exponent field an `i64` magnitude reaches
  have hlt := mk_lt_inf (E := Nat.log2 m + 1022) (by omega) hq
  have hlp : lastPlace m 0 = (Nat.log2 m : Int) - 52 := by unfold lastPlace; omega
  have e : ((Nat.log2 m : Int) - 52 + 1074).toNat = Nat.log2 m + 1022 := by omega
  rw [roundMag, if_neg hm, hlp, e, Int.sub_zero, clampInf_of_lt hlt]
  exact ⟨rfl, hlt⟩

/-- the exponent field of a rounded integer is at least 1022, so only zero rounds to zero -/
theorem roundMag_eq_zero (m : Nat) : roundMag m 0 = 0 ↔ m = 0 := by
  unfold roundMag
  split
  · exact iff_of_true rfl ‹_›
  · refine iff_of_false (fun h => ?_) ‹_›
    have hE : (lastPlace m 0 + 1074).toNat ≠ 0 := by unfold lastPlace; omega
    unfold clampInf at h
    split at h
    · cases h
    · exact hE ((Nat.mul_eq_zero.1 (Nat.add_eq_zero_iff.1 h).1).resolve_right (by decide))

theorem roundMag_lt_inf (m : Nat) (h : m < p64) : roundMag m 0 < infBits := by
  rcases Nat.eq_zero_or_pos m with rfl | h0
  · decide
  · exact (roundMag_nat m (Nat.ne_of_gt h0) h).2

theorem roundMag_i64 (m : Nat) (h : m < p64) :
    roundMag m 0 < infBits ∧ (roundMag m 0 = 0 ↔ m = 0) :=
  ⟨roundMag_lt_inf m h, roundMag_eq_zero m⟩

/-- `i as f64` is exact up to 2^53.  The left side is the integer part of the value `mant · 2^expo` of
    the pattern (one of the two powers is `2^0`). -/
theorem roundMag_exact (m : Nat) (hm : m ≤ p53) :
    mant (roundMag m 0) * 2 ^ (expo (roundMag m 0)).toNat / 2 ^ (-expo (roundMag m 0)).toNat = m := by
  rcases Nat.eq_zero_or_pos m with rfl | h0
  · rw [roundMag_zero, show mant 0 = 0 from rfl, Nat.zero_mul, Nat.zero_div]
  rcases Nat.lt_or_eq_of_le hm with h | rfl
  · have h0 := Nat.ne_of_gt h0
    have hL : Nat.log2 m < 53 := (Nat.log2_lt h0).2 h
    obtain ⟨k, hk⟩ := Nat.le.dest (Nat.le_of_lt_succ hL)
    obtain ⟨e, c1, c2⟩ := roundQ_small (Nat.log2_self_le h0) Nat.lt_log2_self hk
    -- the leading bit of the significand `m * 2^k` goes into the exponent field, `f` is the rest
    generalize hf' : m * 2 ^ k - p52 = f
    have hf : f < p52 := hf' ▸ Nat.sub_lt_left_of_lt_add c1 c2
    have hc : p52 + f = m * 2 ^ k := hf' ▸ Nat.add_sub_cancel' c1
    have rm : roundMag m 0 = (Nat.log2 m + 1023) * p52 + f := by
      rw [(roundMag_nat m h0 (Nat.lt_trans h (by decide))).1, e, ← hc, Nat.add_one_mul (Nat.log2 m + 1022),
        Nat.add_assoc]
    have hE : expField (roundMag m 0) = Nat.log2 m + 1023 := rm ▸ expField_mk _ _ (by omega) hf
    have hx : expo (roundMag m 0) = -(k : Int) := by
      rw [expo, hE, if_neg (by omega)]; omega
    rw [mant, hE, if_neg (by omega), rm, frac_mk _ _ hf, ← rm, hx, hc, Int.neg_neg, Int.toNat_natCast,
      Int.toNat_neg_natCast, Nat.pow_zero, Nat.mul_one, Nat.mul_div_cancel _ (Nat.pow_pos (by decide))]
  · decide +kernel

theorem roundMag_inj (m n : Nat) (hm : m ≤ p53) (hn : n ≤ p53) (h : roundMag m 0 = roundMag n 0) :
    m = n := by
  rw [← roundMag_exact m hm, ← roundMag_exact n hn, h]

theorem ofInt_lt (i : Int) : ofInt i < p64 := withSign_lt _ _ (roundMag_lt_p63 _ _)

theorem ofInt_notNaN (i : Int) : isNaN (ofInt i) = false := isNaN_withSign _ _ (roundMag_le _ _)

theorem mag_ofInt (i : Int) : mag (ofInt i) = roundMag i.natAbs 0 := mag_withSign _ _ (roundMag_lt_p63 _ _)

theorem signBit_ofInt (i : Int) : signBit (ofInt i) = decide (i < 0) :=
  signBit_withSign _ _ (roundMag_lt_p63 _ _)

theorem ofInt_finite (i : Int) (h : i.natAbs < p64) : isFinite (ofInt i) = true := by
  unfold isFinite
  rw [mag_ofInt]
  simpa using roundMag_lt_inf _ h

theorem ofInt_isInf (i : Int) (h : i.natAbs < p64) : isInf (ofInt i) = false := by
  unfold isInf
  rw [mag_ofInt]
  exact beq_false_of_ne (Nat.ne_of_lt (roundMag_lt_inf _ h))

theorem isZero_ofInt (i : Int) : isZero (ofInt i) = decide (i = 0) := by
  unfold isZero
  rw [mag_ofInt, Bool.eq_iff_iff, beq_iff_eq, decide_eq_true_eq, roundMag_eq_zero]
  exact Int.natAbs_eq_zero

theorem ofInt_isZero (i : Int) (h : i.natAbs < p64) : isZero (ofInt i) = decide (i = 0) :=
  isZero_ofInt i

/-- the code's zero test `r == 0.0` is `isZero r`, NaN patterns included (a NaN's magnitude is above
    `infBits`) -/
theorem eq_zero (r : Nat) : eq r 0 = isZero r := by
  show (!isNaN r && !isNaN 0 && decide (key r = key 0)) = (mag r == 0)
  rw [show key 0 = 0 from rfl, show isNaN 0 = false from rfl]
  by_cases h : mag r = 0
  · have : key r = 0 := by unfold key; rw [h]; split <;> rfl
    simp [this, h, isNaN]
  · have : key r ≠ 0 := by unfold key; split <;> omega
    simp [this, h]

theorem ofInt_eq_iff (a b : Int) (ha : a.natAbs ≤ p53) (hb : b.natAbs ≤ p53) :
    eq (ofInt a) (ofInt b) = true ↔ a = b := by
  rw [eq_true_iff _ _ (ofInt_notNaN a) (ofInt_notNaN b) (ofInt_lt a) (ofInt_lt b)]
  constructor
  · rintro (h | ⟨h1, h2⟩)
    · have hs := congrArg signBit h
      have hm := congrArg mag h
      rw [signBit_ofInt, signBit_ofInt, decide_eq_decide] at hs
      rw [mag_ofInt, mag_ofInt] at hm
      have := roundMag_inj _ _ ha hb hm
      omega
    · rw [isZero_ofInt, decide_eq_true_eq] at h1 h2
      rw [h1, h2]
  · intro h; left; rw [h]

/-- `p63 = p52 * 2048`: a zero magnitude has a zero exponent field -/
theorem isNormal_not_zero (b : Nat) (h : isNormal b = true) : isZero b = false := by
  simp only [isNormal, Bool.and_eq_true, decide_eq_true_eq] at h
  refine beq_false_of_ne ?_
  unfold mag p63
  unfold expField p52 at h
  omega

theorem isNormal_ne_zero (b : Nat) (h : isNormal b = true) : eq b 0 = false :=
  (eq_zero b).trans (isNormal_not_zero b h)

theorem isInf_notNaN (a : Nat) (h : isInf a = true) : isNaN a = false := by
  rw [isInf, beq_iff_eq] at h
  rw [isNaN, h]; rfl

theorem isInf_not_zero (a : Nat) (h : isInf a = true) : isZero a = false := by
  rw [isInf, beq_iff_eq] at h
  rw [isZero, h]; rfl

theorem isInf_withSign (s : Bool) : isInf (withSign s infBits) = true := by
  cases s <;> decide

theorem finite_notNaN (x : Nat) (h : isFinite x = true) : isNaN x = false := by
  simp only [isFinite, isNaN, decide_eq_true_eq, decide_eq_false_iff_not] at *; omega

theorem finite_notInf (x : Nat) (h : isFinite x = true) : isInf x = false := by
  simp only [isFinite, isInf, decide_eq_true_eq, beq_eq_false_iff_ne] at *; omega

theorem mul_zero_right (x : Nat) (hx : isFinite x = true) :
    mul x 0 = some (withSign (signBit x) 0) := by
  have h1 : isInf 0 = false := by decide
  have h2 : isNaN 0 = false := by decide
  have h3 : mant 0 = 0 := by decide
  have h4 : signBit 0 = false := by decide
  simp [mul, finite_notNaN x hx, finite_notInf x hx, h1, h2, h3, h4, roundMag]

theorem add_none_iff (a b : Nat) (ha : isNaN a = false) (hb : isNaN b = false) :
    add a b = none ↔ (isInf a = true ∧ isInf b = true ∧ signBit a ≠ signBit b) := by
  rw [add, ha, hb]
  cases h1 : isInf a <;> cases h2 : isInf b <;> simp

theorem mul_none_iff (a b : Nat) (ha : isNaN a = false) (hb : isNaN b = false) :
    mul a b = none ↔ ((isInf a = true ∧ isZero b = true) ∨ (isZero a = true ∧ isInf b = true)) := by
  have za := isInf_not_zero a
  have zb := isInf_not_zero b
  rw [mul, ha, hb]
  cases h1 : isInf a <;> cases h2 : isInf b <;> simp_all

theorem div_none_iff (a b : Nat) (ha : isNaN a = false) (hb : isNaN b = false) :
    div a b = none ↔ ((isInf a = true ∧ isInf b = true) ∨ (isZero a = true ∧ isZero b = true)) := by
  have za := isInf_not_zero a
  have zb := isInf_not_zero b
  rw [div, ha, hb]
  cases h1 : isInf a <;> cases h2 : isInf b <;> cases h3 : isZero b <;> simp_all

theorem rem_none_iff (a b : Nat) (ha : isNaN a = false) (hb : isNaN b = false) :
    rem a b = none ↔ (isInf a = true ∨ isZero b = true) := by
  rw [rem, ha, hb]
  cases h1 : isInf a <;> cases h2 : isZero b <;> cases h3 : isInf b <;> simp

/-! Every operation is a tree of `if`s whose leaves are `none`, a signed magnitude, or (`rem`) an
  operand; a property of all its results is proved by following the tree. -/

def Always (P : Nat → Prop) (o : Option Nat) : Prop := ∀ r, o = some r → P r

theorem always_some {P : Nat → Prop} {r : Nat} (h : P r) : Always P (some r) :=
  fun _ e => Option.some.inj e ▸ h

theorem always_ite {P : Nat → Prop} {c : Prop} [Decidable c] {x y : Option Nat}
    (hx : Always P x) (hy : Always P y) : Always P (if c then x else y) := by
  split <;> assumption

theorem always_guard {P : Nat → Prop} {c : Prop} [Decidable c] {y : Option Nat}
    (hy : ¬ c → Always P y) : Always P (if c then none else y) := by
  split
  · exact nofun
  · exact hy ‹_›

abbrev NoNaN : Option Nat → Prop := Always fun r => isNaN r = false

theorem noNaN_withSign (s : Bool) {m : Nat} (h : m ≤ infBits) : NoNaN (some (withSign s m)) :=
  always_some (isNaN_withSign s m h)

theorem isNaN_roundSigned (v e : Int) (z : Bool) : isNaN (roundSigned v e z) = false := by
  unfold roundSigned
  split
  · exact isNaN_withSign _ _ (Nat.zero_le _)
  · exact isNaN_withSign _ _ (roundMag_le _ _)

theorem add_notNaN (a b r : Nat) (h : add a b = some r) : isNaN r = false :=
  (always_guard fun _ =>
    always_ite (always_guard fun _ => noNaN_withSign _ (Nat.le_refl _))
      (always_ite (noNaN_withSign _ (Nat.le_refl _)) (always_some (isNaN_roundSigned _ _ _))) :
    NoNaN (add a b)) r h

theorem sub_notNaN (a b r : Nat) (h : sub a b = some r) : isNaN r = false :=
  (always_guard fun _ => add_notNaN a (neg b)) r h

theorem mul_notNaN (a b r : Nat) (h : mul a b = some r) : isNaN r = false :=
  (always_guard fun _ =>
    always_ite (always_guard fun _ => noNaN_withSign _ (Nat.le_refl _))
      (noNaN_withSign _ (roundMag_le _ _)) : NoNaN (mul a b)) r h

theorem div_notNaN (a b r : Nat) (h : div a b = some r) : isNaN r = false :=
  (always_guard fun _ =>
    always_ite (always_guard fun _ => noNaN_withSign _ (Nat.le_refl _))
      (always_ite (noNaN_withSign _ (Nat.zero_le _))
        (always_ite (always_guard fun _ => noNaN_withSign _ (Nat.le_refl _))
          (noNaN_withSign _ (roundMag_le _ _)))) : NoNaN (div a b)) r h

theorem rem_notNaN (a b r : Nat) (h : rem a b = some r) : isNaN r = false :=
  (always_guard fun hn =>
    always_guard fun _ =>
      always_ite (always_some (by simpa using (Bool.or_eq_false_iff.1 (eq_false_of_ne_true hn)).1))
        (noNaN_withSign _ (roundMag_le _ _)) : NoNaN (rem a b)) r h

theorem rem_sign (a b r : Nat) (h : rem a b = some r) : signBit r = signBit a :=
  (always_guard fun _ => always_guard fun _ =>
    always_ite (always_some rfl) (always_some (signBit_withSign _ _ (roundMag_lt_p63 _ _))) :
      Always (fun r => signBit r = signBit a) (rem a b)) r h

end F64
