/-
  C03 clause (b): a call typed infallible does not return an error. Value-level lemmas: run-time
  typing of the slots (`TypesOk`), what a mask bit or an `is_*` / `contains_*` flag of a kind says of
  the state of a value, and the functions that cannot fail on well-typed arguments.
-/
import VrlProofs.Lemmas.C03Coll
import VrlProofs.Lemmas.F64
import VrlProofs.Lemmas.TypeKind

namespace C03
open Spec
open Str (R)

theorem typesOk_nil {vs : Slots} (h : TypesOk [] vs = true) : vs = [] := by
  cases vs with
  | nil => rfl
  | cons _ _ => simp [TypesOk] at h

theorem typesOk_req {k : String} {m : Nat} {ps : List Param} {vs : Slots}
    (h : TypesOk (req k m :: ps) vs = true) :
    ∃ v rest, vs = some v :: rest ∧ hasBit m (kindBit v) = true ∧ TypesOk ps rest = true := by
  cases vs with
  | nil => simp [TypesOk] at h
  | cons o rest =>
    cases o with
    | none => simp [TypesOk, req] at h
    | some v =>
      simp only [TypesOk, req, Bool.and_eq_true] at h
      exact ⟨v, rest, rfl, h.1, h.2⟩

theorem typesOk_opt {k : String} {m : Nat} {ps : List Param} {vs : Slots}
    (h : TypesOk (opt k m :: ps) vs = true) :
    ∃ o rest, vs = o :: rest ∧ (∀ v, o = some v → hasBit m (kindBit v) = true) ∧
      TypesOk ps rest = true := by
  cases vs with
  | nil => simp [TypesOk] at h
  | cons o rest =>
    cases o with
    | none =>
      simp only [TypesOk, opt, Bool.and_eq_true] at h
      exact ⟨none, rest, rfl, fun v hv => (by cases hv), h.2⟩
    | some v =>
      simp only [TypesOk, opt, Bool.and_eq_true] at h
      exact ⟨some v, rest, rfl, fun w hw => (by cases hw; exact h.1), h.2⟩

theorem typesOk_un {k : String} {m : Nat} {vs : Slots} (h : TypesOk [req k m] vs = true) :
    ∃ v, vs = [some v] ∧ hasBit m (kindBit v) = true := by
  obtain ⟨v, _, rfl, hv, hr⟩ := typesOk_req h
  cases typesOk_nil hr
  exact ⟨v, rfl, hv⟩

theorem typesOk_bin1 {k k1 k2 : String} {m m1 m2 : Nat} {vs : Slots}
    (h : TypesOk [req k m, req k1 m1, opt k2 m2] vs = true) :
    ∃ a b o, vs = [some a, some b, o] ∧ hasBit m (kindBit a) = true ∧ hasBit m1 (kindBit b) = true ∧
      ∀ w, o = some w → hasBit m2 (kindBit w) = true := by
  obtain ⟨a, _, rfl, ha, hr⟩ := typesOk_req h
  obtain ⟨b, _, rfl, hb, hr⟩ := typesOk_req hr
  obtain ⟨o, _, rfl, ho, hr⟩ := typesOk_opt hr
  cases typesOk_nil hr
  exact ⟨a, b, o, rfl, ha, hb, ho⟩

/-- discharge the constructors of a value that its kind bit excludes -/
macro "kill_bits" h:ident : tactic =>
  `(tactic| first
    | (exfalso; revert $h:ident
       simp [kindBit, hasBit, mBytes, mInteger, mFloat, mBoolean, mObject, mArray, mTimestamp, mRegex,
         mNull, mAny]; done)
    | skip)

theorem bytes_of_bit {v : Value} (h : hasBit mBytes (kindBit v) = true) : ∃ b, v = .bytes b :=
  tag_bytes (tag_of_bit h)
theorem int_of_bit {v : Value} (h : hasBit mInteger (kindBit v) = true) : ∃ i, v = .int i :=
  tag_int (tag_of_bit h)
theorem bool_of_bit {v : Value} (h : hasBit mBoolean (kindBit v) = true) : ∃ b, v = .bool b :=
  tag_bool (tag_of_bit h)
theorem arr_of_bit {v : Value} (h : hasBit mArray (kindBit v) = true) : ∃ xs, v = .arr xs :=
  tag_array (tag_of_bit h)
theorem obj_of_bit {v : Value} (h : hasBit mObject (kindBit v) = true) : ∃ m, v = .obj m :=
  tag_object (tag_of_bit h)

theorem tag_of_mask {m : Nat} {v : Value} (h : hasBit m (kindBit v) = true) :
    ∃ t, tagOf v = t ∧ hasBit m t.bit = true :=
  ⟨_, rfl, kindBit_eq v ▸ h⟩

theorem num_of_bit {v : Value} (h : hasBit (mInteger + mFloat) (kindBit v) = true) :
    (∃ i, v = .int i) ∨ ∃ f, v = .float f := by
  obtain ⟨t, ht, h⟩ := tag_of_mask h
  cases t
  case integer => exact .inl (tag_int ht)
  case float => exact .inr (tag_float ht)
  all_goals exact absurd h (by decide)

theorem coll_of_bit {v : Value} (h : hasBit (mObject + mArray) (kindBit v) = true) :
    (∃ m, v = .obj m) ∨ ∃ xs, v = .arr xs := by
  obtain ⟨t, ht, h⟩ := tag_of_mask h
  cases t
  case object => exact .inl (tag_object ht)
  case array => exact .inr (tag_array ht)
  all_goals exact absurd h (by decide)

theorem sized_of_bit {v : Value} (h : hasBit (mBytes + mObject + mArray) (kindBit v) = true) :
    (∃ b, v = .bytes b) ∨ (∃ m, v = .obj m) ∨ ∃ xs, v = .arr xs := by
  obtain ⟨t, ht, h⟩ := tag_of_mask h
  cases t
  case bytes => exact .inl (tag_bytes ht)
  case object => exact .inr (.inl (tag_object ht))
  case array => exact .inr (.inr (tag_array ht))
  all_goals exact absurd h (by decide)

theorem pattern_of_bit {v : Value} (h : hasBit (mBytes + mRegex) (kindBit v) = true) :
    (∃ b, v = .bytes b) ∨ ∃ p, v = .regex p := by
  obtain ⟨t, ht, h⟩ := tag_of_mask h
  cases t
  case bytes => exact .inl (tag_bytes ht)
  case regex => exact .inr (tag_regex ht)
  all_goals exact absurd h (by decide)

/-- `inv`: one of the `*_of_bit` lemmas above -/
theorem opt_cases {m : Nat} {P : Value → Prop} (inv : ∀ {v}, hasBit m (kindBit v) = true → P v)
    {o : Option Value} (h : ∀ v, o = some v → hasBit m (kindBit v) = true) :
    o = none ∨ ∃ v, o = some v ∧ P v := by
  cases o with
  | none => exact .inl rfl
  | some w => exact .inr ⟨w, rfl, inv (h w rfl)⟩

theorem getD_tag {t : Tag} {o : Option Value} {d : Value} (hd : tagOf d = t)
    (h : ∀ v, o = some v → hasBit t.bit (kindBit v) = true) : tagOf (o.getD d) = t := by
  cases o with
  | none => exact hd
  | some w => exact tag_of_bit (h w rfl)

theorem optBool_some {d : Bool} {o : Option Value}
    (h : ∀ v, o = some v → hasBit mBoolean (kindBit v) = true) : ∃ b, Coll.optBool d o = some b := by
  cases o with
  | none => exact ⟨d, rfl⟩
  | some w => obtain ⟨b, rfl⟩ := bool_of_bit (h w rfl); exact ⟨b, rfl⟩

theorem prim_flags {p : Prim} (h : p.isEmpty = true) :
    p.bytes = false ∧ p.integer = false ∧ p.float = false ∧ p.boolean = false ∧
    p.timestamp = false ∧ p.regex = false ∧ p.null = false ∧ p.undefined = false := by
  cases p; simp only [Prim.isEmpty] at h; simp_all

theorem not_hasTag_of_isEmpty {p : Prim} (h : p.isEmpty = true) (s : Tag) :
    hasTag (.mk p .none .none) s = false := by
  obtain ⟨h1, h2, h3, h4, h5, h6, h7, _⟩ := prim_flags h
  cases s <;> first | assumption | rfl

theorem tag_of_isBytes {v : Value} {k : Kind} (hk : k.isBytes = true) (hm : mem v k = true) :
    tagOf v = .bytes := by
  obtain ⟨_, rfl⟩ := memR_isBytes hk (memR_of_mem hm)
  rfl

theorem tag_of_isInteger {v : Value} {k : Kind} (hk : k.isInteger = true) (hm : mem v k = true) :
    tagOf v = .integer := by
  obtain ⟨_, rfl⟩ := memR_isInteger hk (memR_of_mem hm)
  rfl

theorem tag_of_isFloat {v : Value} {k : Kind} (hk : k.isFloat = true) (hm : mem v k = true) :
    tagOf v = .float := by
  obtain ⟨_, rfl⟩ := memR_isFloat hk (memR_of_mem hm)
  rfl

theorem tag_of_isBoolean {v : Value} {k : Kind} (hk : k.isBoolean = true) (hm : mem v k = true) :
    tagOf v = .boolean := by
  obtain ⟨_, rfl⟩ := memR_isBoolean hk (memR_of_mem hm)
  rfl

theorem tag_of_isTimestamp {v : Value} {k : Kind} (hk : k.isTimestamp = true) (hm : mem v k = true) :
    tagOf v = .timestamp := by
  obtain ⟨_, rfl⟩ := memR_isTimestamp hk (memR_of_mem hm)
  rfl

/-- `is_array`: no primitive state and no object state -/
theorem tag_of_isArray {v : Value} {k : Kind} (hk : k.isArray = true) (hm : mem v k = true) :
    tagOf v = .array := by
  simp only [Kind.isArray, Bool.and_eq_true, Bool.not_eq_true'] at hk
  have h0 := not_hasTag_of_isEmpty hk.1 (tagOf v)
  have ho := hk.2
  have ht := mem_hasTag hm
  cases v <;> first | cases h0.symm.trans ht | cases ho.symm.trans ht | rfl

theorem tag_of_mem_anyArray {v : Value} (h : mem v anyArray = true) : tagOf v = .array := by
  have ht := mem_hasTag h
  cases v <;> first | rfl | cases ht

theorem tag_of_mem_anyObject {v : Value} (h : mem v anyObject = true) : tagOf v = .object := by
  have ht := mem_hasTag h
  cases v <;> first | rfl | cases ht

theorem tag_array_of_superset {v : Value} {k : Kind} (hs : anyArray.isSuperset k = true)
    (hm : mem v k = true) : tagOf v = .array :=
  tag_of_mem_anyArray (((Spec.isSupersetF_sound _).sub _ _ (by decide) hs).elem hm)

theorem tag_object_of_superset {v : Value} {k : Kind} (hs : anyObject.isSuperset k = true)
    (hm : mem v k = true) : tagOf v = .object :=
  tag_of_mem_anyObject (((Spec.isSupersetF_sound _).sub _ _ (by decide) hs).elem hm)

theorem tag_ne_of_not_hasTag {v : Value} {k : Kind} {t : Tag} (hm : mem v k = true)
    (hc : hasTag k t = false) : tagOf v ≠ t :=
  fun e => Bool.false_ne_true (hc.symm.trans (e ▸ mem_hasTag hm))

/-- `contains_x` is `flag || is_never` -/
theorem tag_ne_of_not_contains {v : Value} {k : Kind} (t : Tag) (hm : mem v k = true)
    (h : (hasTag k t || k.isNever) = false) : tagOf v ≠ t :=
  tag_ne_of_not_hasTag hm (Bool.or_eq_false_iff.mp h).1

theorem assertV_ne_err {t : Tag} {v : Value} (h : tagOf v = t) : assertV t v ≠ .err := by
  rw [assertV, if_pos h]; nofun

theorem not_contains_fold {v : Value} {k : Kind} (hm : mem v k = true) :
    (ts : List Tag) → {b : Bool} →
    ts.foldl (fun b t => b || (hasTag k t || k.isNever)) b = false → b = false ∧ tagOf v ∉ ts
  | [], _, h => ⟨h, nofun⟩
  | t :: ts, _, h => by
    obtain ⟨hb, hts⟩ := not_contains_fold hm ts h
    obtain ⟨hb, ht⟩ := Bool.or_eq_false_iff.mp hb
    refine ⟨hb, fun hv => ?_⟩
    cases hv with
    | head => exact tag_ne_of_not_contains _ hm ht rfl
    | tail _ hv => exact hts hv

/-- a member of `k` has none of the states `ts` when `contains_a || contains_b || …` over `ts` is
    off in `k`; the fold unfolds to exactly that disjunction, the form a type_def has. -/
theorem tag_not_mem_of_not_contains {v : Value} {k : Kind} (hm : mem v k = true) {ts : List Tag}
    (h : ts.foldl (fun b t => b || (hasTag k t || k.isNever)) false = false) : tagOf v ∉ ts :=
  (not_contains_fold hm ts h).2

/-! The four conversions: the states on which each answers an error, and no error on a member of a
    kind at which its type_def (`h`, the negated fallibility as it stands) is infallible. -/

theorem toInt_err_tag {v : Value} (h : ofRes (Conv.Num.toInt v) = .err) :
    tagOf v ∈ [Tag.bytes, .array, .object, .regex] := by
  cases v
  case bytes | arr | obj | regex => simp [tagOf]
  all_goals cases h

theorem toInt_ne_err {v : Value} {k : Kind} (hm : mem v k = true)
    (h : (k.containsBytes || k.containsArray || k.containsObject || k.containsRegex) = false) :
    ofRes (Conv.Num.toInt v) ≠ .err :=
  fun e => absurd (toInt_err_tag e) (tag_not_mem_of_not_contains hm h)

theorem toFloat_err_tag {p : List Nat → Option Nat} {v : Value} (h : Round.toFloat p v = .err) :
    tagOf v ∈ [Tag.bytes, .array, .object, .regex] := by
  cases v
  case bytes | arr | obj | regex => simp [tagOf]
  case ts ns => simp only [Round.toFloat] at h; split at h <;> cases h
  all_goals cases h

theorem toFloat_ne_err {p : List Nat → Option Nat} {v : Value} {k : Kind} (hm : mem v k = true)
    (h : (k.containsBytes || k.containsArray || k.containsObject || k.containsRegex) = false) :
    Round.toFloat p v ≠ .err :=
  fun e => absurd (toFloat_err_tag e) (tag_not_mem_of_not_contains hm h)

theorem toBool_err_tag {v : Value} (h : toBool v = .err) :
    tagOf v ∈ [Tag.bytes, .timestamp, .array, .object, .regex] := by
  cases v
  case bytes | ts | arr | obj | regex => simp [tagOf]
  all_goals cases h

theorem toBool_ne_err {v : Value} {k : Kind} (hm : mem v k = true)
    (h : (k.containsBytes || k.containsTimestamp || k.containsArray || k.containsObject ||
      k.containsRegex) = false) : toBool v ≠ .err :=
  fun e => absurd (toBool_err_tag e) (tag_not_mem_of_not_contains hm h)

theorem toStringV_err_tag {E : Env} {v : Value} (h : toStringV E v = .err) :
    tagOf v ∈ [Tag.array, .object, .regex] := by
  cases v
  case arr | obj | regex => simp [tagOf]
  case bool b => cases b <;> cases h
  all_goals cases h

theorem toStringV_ne_err {E : Env} {v : Value} {k : Kind} (hm : mem v k = true)
    (h : (k.containsArray || k.containsObject || k.containsRegex) = false) : toStringV E v ≠ .err :=
  fun e => absurd (toStringV_err_tag e) (tag_not_mem_of_not_contains hm h)

theorem abs_ne_err {v : Value} (h : hasBit (mInteger + mFloat) (kindBit v) = true) :
    ofRes (Conv.Num.abs v) ≠ .err := by
  rcases num_of_bit h with ⟨i, rfl⟩ | ⟨f, rfl⟩
  · simp only [Conv.Num.abs]; split <;> nofun
  · nofun

theorem tryRem_float_ne_err {a b : Nat} (ha : F64.isNaN a = false) (hi : F64.isInf a = false)
    (hb : F64.isNaN b = false) (hn : F64.isNormal b = true) :
    ofArith (Arith.tryRem (.float a) (.float b)) ≠ .err := by
  have hz := F64.isNormal_not_zero b hn
  have he := F64.isNormal_ne_zero b hn
  simp only [Arith.tryRem, he, Bool.false_eq_true, if_false]
  cases hr : F64.rem a b with
  | none =>
    have := (F64.rem_none_iff a b ha hb).mp hr
    simp [hi, hz] at this
  | some r => simp [Arith.floatResult, F64.rem_notNaN a b r hr, ofArith]

/-! ### `from_entries`: the entries the loop accepts -/

def entryOk : Value → Bool
  | .obj e => (match Conv.selectKey e with | .bytes _ => true | _ => false)
  | _ => false

def allEntriesOk : VList → Bool
  | .nil => true
  | .cons x xs => entryOk x && allEntriesOk xs

theorem fromEntriesLoop_ne_err : (xs : VList) → (acc : VMap) → allEntriesOk xs = true →
    Conv.fromEntriesLoop xs acc ≠ .err
  | .nil, _, _ => by simp [Conv.fromEntriesLoop]
  | .cons x rest, acc, h => by
    simp only [allEntriesOk, Bool.and_eq_true] at h
    cases x <;> simp [entryOk] at h
    rename_i e
    simp only [Conv.fromEntriesLoop]
    split at h
    · rename_i k hk
      rw [hk]
      exact fromEntriesLoop_ne_err rest _ h.2
    · exact absurd h.1 (by simp)

end C03
