import VrlProofs.Lemmas.KindPres

/-! `Kind::at_path` at a negative index into an array kind of unknown length (the branch that unions
    the candidate known kinds with `merge_keep`), for key-sorted kinds whose `Infinite` unknowns are
    all `any`; and the path theorem for `at_path`. -/

namespace Spec
open Value (child optSorted)

/-- where the fold of `get_recursive` at a negative index starts: the unknown kind, without
    `undefined` when the kind is exact and the index cannot fall before the start of the array. -/
def negStart (K : Kind) (col : Col) (i : Int) : Kind :=
  if (K.isExact && !decide ((col.keyLength : Int) + i < 0)) = true
    then col.unknownKind.withoutUndefined else col.unknownKind

theorem negStart_tame (K : Kind) {col : Col} (tc : TameC col) (i : Int) : Tame (negStart K col i) :=
  iteInduction (motive := Tame) (fun _ => tc.unknown.toKind.withoutUndefined) fun _ => tc.unknown.toKind

theorem getIndex_neg_unknown (K : Kind) (col : Col) (i : Int) (hi : i < 0) (hK : K.array = some col)
    (hunk : col.unknownKind.containsAnyDefined = true) :
    K.getIndex i =
      unionFold (·.idx ≥ (max ((col.keyLength : Int) + i) 0).toNat) col.known (negStart K col i) := by
  unfold Kind.getIndex
  rw [hK]
  simp only [hi, if_true, hunk, unionFold]
  rfl

theorem getIndex_sound_negUnknown (c : Option Value) (K : Kind) (col : Col) (i : Int) (hi : i < 0)
    (hK : K.array = some col) (h : memOpt c K = true) (tK : Tame K)
    (hopt : col.known.any (fun _ v => v.prim.undefined) = false)
    (hunk : col.unknownKind.containsAnyDefined = true) :
    memOpt (child c (.index i)) (K.getIndex i) = true := by
  rw [getIndex_neg_unknown K col i hi hK hunk]
  have tc := tK.array hK
  obtain ⟨h1, h2, _⟩ := unionFold_sound (·.idx ≥ (max ((col.keyLength : Int) + i) 0).toNat) col.known
    (negStart K col i) (negStart_tame K tc i) tc.known
  -- an absent read: the fold starts from the unknown kind with `undefined` kept
  have habsent : (K.isExact && !decide ((col.keyLength : Int) + i < 0)) = false →
      memOpt none (unionFold (·.idx ≥ (max ((col.keyLength : Int) + i) 0).toNat) col.known
        (negStart K col i)) = true := by
    intro hb
    apply h1 none
    rw [negStart, hb]
    exact toKind_undefined col.unknown
  by_cases hv : ∃ a, c = some (.arr a)
  · obtain ⟨a, rfl⟩ := hv
    have hkl := keyLength_le_length a K col hK h hopt
    obtain ⟨col', hc, hfit, _⟩ := (mem_arr_fits a K).mp h
    rw [hK] at hc; cases hc
    rw [child_index_neg_arr a i hi]
    by_cases h0 : 0 ≤ (a.length : Int) + i
    · rw [if_pos h0]
      obtain ⟨w, hw⟩ := getN_some_of_lt a ((a.length : Int) + i).toNat (by omega)
      rw [hw]
      have hslot := hfit _ w hw
      cases hk : col.known.get (Key.ofIdx ((a.length : Int) + i).toNat) with
      | some Kj =>
        rw [loc_of_get hk] at hslot
        exact h2 _ Kj hk (by simp only [Key.ofIdx, Key.idx]; omega) (some w) hslot
      | none =>
        rw [loc_of_none hk] at hslot
        apply h1 (some w)
        unfold negStart
        split
        · exact (mem_withoutUndefined w _).trans hslot
        · exact hslot
    · rw [if_neg h0]
      exact habsent (by simp; omega)
  · rw [child_index_of_not_arr c i hv]
    exact habsent (by simp [not_exact_of_not_arr c K h (Kind.hasArr_of_array hK) hv])

theorem lookup_tame (K : Kind) {col : Col} (tc : TameC col) (q : Key) : Tame (K.lookup col q) :=
  iteInduction (motive := Tame) (fun _ => (tc.loc q).orUndefined) fun _ => tc.loc q

theorem getSeg_tame (K : Kind) (s : Seg) (tK : Tame K) : Tame (K.getSeg s) := by
  have hund : Tame Kind.undefined := ⟨rfl, rfl⟩
  cases s with
  | field f =>
    rw [Kind.getSeg, Kind.getField_eq]
    cases hK : K.object with
    | none => exact hund
    | some col => exact lookup_tame K (tK.object hK) f
  | index i =>
    simp only [Kind.getSeg]
    cases hK : K.array with
    | none => simp only [Kind.getIndex, hK]; exact hund
    | some col =>
      have tc := tK.array hK
      by_cases hi : i < 0
      · cases hunk : col.unknownKind.containsAnyDefined with
        | true =>
          rw [getIndex_neg_unknown K col i hi hK hunk]
          exact (unionFold_sound _ col.known _ (negStart_tame K tc i) tc.known).2.2
        | false =>
          rw [getIndex_neg_exact K col i hi hK hunk]
          split
          · exact lookup_tame K tc _
          · exact hund
      · rw [getIndex_nonneg K col i (Int.not_lt.mp hi) hK]; exact lookup_tame K tc _

theorem getSeg_sound (c : Option Value) (K : Kind) (s : Seg) {rest : Path} (hs : optSorted c = true)
    (h : memOpt c K = true) (h1 : C19.optionalIdx K s rest = false)
    (h2 : C19.negUnknown K s rest = false ∨ Tame K) :
    memOpt (child c s) (K.getSeg s) = true := by
  cases s with
  | field f => exact getField_sound c K f hs h
  | index i =>
    simp only [Kind.getSeg]
    by_cases hi : 0 ≤ i
    · exact getIndex_sound_nonneg c K i hi h
    · have hi' : i < 0 := by omega
      cases hK : K.array with
      | none => exact getIndex_noArray c K i hK h
      | some col =>
        simp only [C19.optionalIdx, hK] at h1
        simp only [C19.negUnknown, hK, hi', decide_true, Bool.true_and] at h2
        cases hunk : col.unknownKind.containsAnyDefined with
        | false => exact getIndex_sound_negExact c K col i hi' hK h h1 hunk
        | true =>
          exact getIndex_sound_negUnknown c K col i hi' hK h (h2.resolve_left (by simp [hunk])) h1 hunk

/-- `Kind::at_path` is sound along every path that does not meet an array kind with a known index
    that may be absent (`D_minlen_counts_optional`), provided that either it never meets an array
    kind of unknown length at a negative index, or the kind is key-sorted with `any` as only
    `Infinite` unknown (that case goes through `merge_keep`). -/
theorem atPath_sound_gen : (p : Path) → (c : Option Value) → (K : Kind) → optSorted c = true →
    memOpt c K = true → C19.anyOnPath C19.optionalIdx K p = false →
    (C19.anyOnPath C19.negUnknown K p = false ∨ Tame K) →
    memOpt (Value.getOpt c p) (K.atPath p) = true
  | [], c, K, _, h, _, _ => by simpa [Value.getOpt, Kind.atPath] using h
  | s :: rest, c, K, hs, h, h1, h2 => by
    simp only [C19.anyOnPath, Bool.or_eq_false_iff] at h1 h2
    rw [Value.getOpt_cons, Kind.atPath, memOpt_not_never c K h]
    exact atPath_sound_gen rest (child c s) (K.getSeg s) (Value.child_sorted s hs)
      (getSeg_sound c K s hs h h1.1 (h2.imp And.left id)) h1.2
      (h2.imp And.right (getSeg_tame K s))

end Spec
