/-
  Lemmas relating the VRL-source path machine (`PathVrl.vrun`) to the JIT machine
  (`PathText.jit`) state by state, used by the agreement theorem of C20 clause (2).
-/
import VrlModel.C20
import VrlProofs.Lemmas.PathText

namespace PathVrl
open PathText

theorem vrun_go {st st' : VState} {c : Char} (rest : List Char) (h : vstep st c = .go st') :
    vrun st (c :: rest) = vrun st' rest := by
  simp [vrun, h]

theorem vrun_emit {st st' : VState} {c : Char} {s : Seg} (rest : List Char)
    (h : vstep st c = .emit s st') : vrun st (c :: rest) = (vrun st' rest).cons s := by
  simp [vrun, h]

theorem vrun_reject {st : VState} {c : Char} (rest : List Char) (h : vstep st c = .reject) :
    vrun st (c :: rest) = .nopath := by
  simp [vrun, h]

theorem vrun_panic {st : VState} {c : Char} (rest : List Char) (h : vstep st c = .panic) :
    vrun st (c :: rest) = .panic := by
  simp [vrun, h]

theorem vrun_endIdent_some {st st' : VState} {c : Char} {s : Seg} (rest : List Char)
    (h : vstep st c = .endIdent s) (h2 : vSegStart true true c = some st') :
    vrun st (c :: rest) = (vrun st' rest).cons s := by
  simp [vrun, h, h2]

theorem vrun_endIdent_none {st : VState} {c : Char} {s : Seg} (rest : List Char)
    (h : vstep st c = .endIdent s) (h2 : vSegStart true true c = none) :
    vrun st (c :: rest) = .nopath := by
  simp [vrun, h, h2]

/-- no blank lies strictly between the space and U+0085, where all path characters are. -/
theorem blank_toNat {c : Char} (h : isBlank c = true) : c.toNat ≤ 0x20 ∨ 0x85 ≤ c.toNat := by
  simp only [isBlank, isRustWs, Bool.and_eq_true, Bool.or_eq_true, decide_eq_true_eq,
    beq_iff_eq] at h
  omega

theorem blank_not_digit {c : Char} (h : isBlank c = true) : isDigit c = false := by
  have := blank_toNat h
  simp only [isDigit, Bool.and_eq_false_iff, decide_eq_false_iff_not]
  omega

theorem beq_false_of_blank {c d : Char} (h : isBlank c = true) (hd : isBlank d = false) :
    (c == d) = false :=
  beq_false_of_pred isBlank h hd

theorem blank_not_ser {c : Char} (h : isBlank c = true) : isSerChar c = false := by
  have := blank_toNat h
  simp only [isSerChar, isUpper, isLower, isDigit, Bool.or_eq_false_iff, Bool.and_eq_false_iff,
    decide_eq_false_iff_not, beq_false_of_blank h (show isBlank '_' = false by decide),
    beq_false_of_blank h (show isBlank '@' = false by decide), and_true]
  omega

theorem blank_not_jit {c : Char} (h : isBlank c = true) : isJitChar c = false := by
  simp [isJitChar, blank_not_ser h, beq_false_of_blank h (show isBlank '-' = false by decide)]

theorem blank_dot {c : Char} (h : isBlank c = true) : (c == '.') = false :=
  beq_false_of_blank h (by decide)
theorem blank_lbr {c : Char} (h : isBlank c = true) : (c == '[') = false :=
  beq_false_of_blank h (by decide)
theorem blank_rbr {c : Char} (h : isBlank c = true) : (c == ']') = false :=
  beq_false_of_blank h (by decide)
theorem blank_quote {c : Char} (h : isBlank c = true) : (c == '"') = false :=
  beq_false_of_blank h (by decide)

/-- decoding of a raw string-literal body made of plain characters and the escapes `\\` and `\"`
    (the only ones the JIT parser accepts); `none` for any other shape. -/
def pdec : List Char → Option (List Char)
  | [] => some []
  | c :: r =>
    if c == '\\' then
      match r with
      | e :: r' => if e == '\\' || e == '"' then (pdec r').map (e :: ·) else none
      | [] => none
    else if c == '"' then none
    else (pdec r).map (c :: ·)

theorem pdec_cons_esc (e : Char) (r : List Char) (he : (e == '\\' || e == '"') = true) :
    pdec ('\\' :: e :: r) = (pdec r).map (e :: ·) := by
  simp [pdec, he]

theorem pdec_cons_esc_bad (e : Char) (r : List Char) (he : (e == '\\' || e == '"') = false) :
    pdec ('\\' :: e :: r) = none := by
  simp [pdec, he]

theorem pdec_cons_plain (c : Char) (r : List Char) (hb : (c == '\\') = false)
    (hq : (c == '"') = false) : pdec (c :: r) = (pdec r).map (c :: ·) := by
  cases r <;> simp [pdec, hb, hq]

theorem pdec_cons_quote (r : List Char) : pdec ('"' :: r) = none := by
  cases r <;> simp [pdec]

theorem pdec_bs_nil : pdec ['\\'] = none := by simp [pdec]

theorem pdec_induction {P : List Char → List Char → Prop} (nil : P [] [])
    (plain : ∀ c r w, (c == '\\') = false → (c == '"') = false → P r w → P (c :: r) (c :: w))
    (esc : ∀ e r w, (e == '\\' || e == '"') = true → P r w → P ('\\' :: e :: r) (e :: w)) :
    ∀ raw v, pdec raw = some v → P raw v := by
  intro raw
  -- of the branches of `pdec` only the escape (2) and the plain character (6) continue
  fun_induction pdec raw with
  | case1 => intro v h; cases h; exact nil
  | case2 c hc e r' he ih =>
    intro v h
    obtain ⟨w, hw, rfl⟩ := Option.map_eq_some_iff.mp h
    cases eq_of_beq hc
    exact esc e r' w he (ih w hw)
  | case6 c r hb hq ih =>
    intro v h
    obtain ⟨w, hw, rfl⟩ := Option.map_eq_some_iff.mp h
    exact plain c r w (by simpa using hb) (by simpa using hq) (ih w hw)
  | _ => intro v h; cases h

theorem pdec_append {a v : List Char} (h : pdec a = some v) (b : List Char) :
    pdec (a ++ b) = (pdec b).map (v ++ ·) := by
  refine pdec_induction (P := fun a v => pdec (a ++ b) = (pdec b).map (v ++ ·)) ?_ ?_ ?_ a v h
  · simp
  · intro c r w hb hq ih
    rw [List.cons_append, pdec_cons_plain c _ hb hq, ih, Option.map_map]; rfl
  · intro e r w he ih
    rw [List.cons_append, List.cons_append, pdec_cons_esc e _ he, ih, Option.map_map]; rfl

theorem esc_facts {e : Char} (he : (e == '\\' || e == '"') = true) :
    (e == '\n') = false ∧ (e == 'u') = false ∧ simpleEscape e = some e := by
  rcases Bool.or_eq_true _ _ |>.mp he with h | h
  · cases eq_of_beq h; decide
  · cases eq_of_beq h; decide

theorem unesc_of_pdec (raw v : List Char) (h : pdec raw = some v) : unesc .normal raw = some v := by
  refine pdec_induction (P := fun raw v => unesc .normal raw = some v) rfl ?_ ?_ raw v h
  -- `unesc.eq_4`: a character in mode `.normal`; `unesc.eq_6`: a character after a backslash
  · intro c r w hb _ ih
    rw [unesc.eq_4, if_neg (by simp [hb]), ih]; rfl
  · intro e r w he ih
    have ⟨f1, f2, f3⟩ := esc_facts he
    rw [unesc.eq_4, if_pos (by decide), unesc.eq_6, if_neg (by simp [f1]), if_neg (by simp [f2]), f3, ih]
    rfl

end PathVrl

namespace C20

theorem hasTemplate_cons {c : Char} {rest : List Char} (h : hasTemplate (c :: rest) = false) :
    startsTpl (c :: rest) = false ∧ hasTemplate rest = false := by
  simpa [hasTemplate] using h

theorem startsTpl_of_hasTemplate : ∀ {t : List Char}, hasTemplate t = false → startsTpl t = false
  | [], _ => rfl
  | _ :: _, h => (hasTemplate_cons h).1

theorem startsTpl_append {a : List Char} (b : List Char) (h : startsTpl a = true) :
    startsTpl (a ++ b) = true := by
  unfold startsTpl at h
  split at h
  · simp [startsTpl]
  · simp [startsTpl]
  · cases h

theorem hasTemplate_append_left : ∀ (a b : List Char), hasTemplate (a ++ b) = false →
    hasTemplate a = false
  | [], _, _ => rfl
  | c :: a, b, h => by
    have ⟨h1, h2⟩ := hasTemplate_cons (c := c) (rest := a ++ b) h
    have : startsTpl (c :: a) = false :=
      Bool.eq_false_iff.2 fun hs => by cases (startsTpl_append b hs).symm.trans h1
    rw [hasTemplate, this, hasTemplate_append_left a b h2]
    rfl

theorem hasTemplate_append_right : ∀ (a b : List Char), hasTemplate (a ++ b) = false →
    hasTemplate b = false
  | [], _, h => h
  | _ :: a, b, h => hasTemplate_append_right a b (hasTemplate_cons h).2

end C20

namespace PathVrl
open PathText

open C20 in
/-- the last clause of `tmpl`, a character that opens none of the earlier ones; `h'` excludes the
    backslash of `\{{`. -/
theorem tmpl_push {c : Char} {rest : List Char} (cur out : List Char)
    (h : startsTpl (c :: rest) = false) (h' : startsTpl rest = false) :
    tmpl false cur out (c :: rest) = tmpl false (cur ++ [c]) out rest := by
  apply tmpl.eq_6
  · intro _ hx; cases hx
  · intro _ _ _ hr; subst hr; cases h'
  · intro _ _ hc hr; subst hc; subst hr; cases h
  · intro _ _ hc hr; subst hc; subst hr; cases h

open C20 in
theorem tmpl_noTemplate : ∀ (raw : List Char), hasTemplate raw = false →
    ∀ cur out, tmpl false cur out raw = tmpl false (cur ++ raw) out []
  | [], _, cur, out => by rw [List.append_nil]
  | c :: r, h, cur, out => by
    have ⟨h1, h2⟩ := hasTemplate_cons h
    rw [tmpl_push cur out h1 (startsTpl_of_hasTemplate h2), tmpl_noTemplate r h2,
      List.append_assoc]
    rfl

open C20 in
/-- the field denoted by the string literal is its decoding — what the JIT parser computes. -/
theorem stringField_of_pdec (raw v : List Char) (h : pdec raw = some v)
    (ht : hasTemplate raw = false) : stringField raw = some v := by
  unfold stringField
  -- `tmpl.eq_1`: the end of the text, where what has been collected is unescaped
  rw [tmpl_noTemplate raw ht [] [], tmpl.eq_1]
  cases raw with
  | nil => cases h; rfl
  | cons c r => simp [unescape, unesc_of_pdec (c :: r) v h]

/-- two results agree: if both machines accept, they produced the same segments. -/
def AgreeR (v : VResult) (j : PResult) : Prop := ∀ p₁ p₂, v = .path p₁ → j = .ok p₂ → p₁ = p₂

theorem agree_nopath (j : PResult) : AgreeR .nopath j := by intro _ _ h; cases h
theorem agree_vpanic (j : PResult) : AgreeR .panic j := by intro _ _ h; cases h
theorem agree_err (v : VResult) : AgreeR v .err := by intro _ _ _ h; cases h
theorem agree_jpanic (v : VResult) : AgreeR v .panic := by intro _ _ _ h; cases h
theorem agree_nil : AgreeR (.path []) (.ok []) := by
  intro _ _ h1 h2; cases h1; cases h2; rfl

theorem agree_cons {v : VResult} {j : PResult} (s : Seg) (h : AgreeR v j) :
    AgreeR (v.cons s) (j.cons s) := by
  intro p₁ p₂ h1 h2
  cases v with
  | path p =>
    cases j with
    | ok q => cases h1; cases h2; rw [h p q rfl rfl]
    | _ => cases h2
  | _ => cases h1

/-- the states in which the two machines are after the same text, as long as neither has stopped.
    After the prefix the JIT machine is in `EventRoot` or in `Start`, because `get_target_prefix`
    strips `%` and leaves `.` to the value-path parser. `strU`, `strUHex`, `bracketEnd`, `trailing`
    have no partner: the JIT machine has rejected the character that leads there. -/
inductive Rel : VState → JitState → Prop
  | preEvent : Rel .afterPrefix .eventRoot
  | preMeta : Rel .afterPrefix .start
  | seg : Rel .afterSeg .cont
  | dot : Rel .afterDot .dot
  | ident (acc : List Char) : Rel (.ident acc) (.field acc)
  | str (copying : Bool) (raw v : List Char) (h : pdec raw = some v) :
      Rel (.str raw) (strSt copying v)
  | esc (raw v : List Char) (h : pdec raw = some v) : Rel (.strEsc raw) (.escapeNext v)
  | br : Rel .bracket .indexStart
  | neg0 : Rel .negSign (numSt true (signed true 0))
  | num (neg : Bool) (acc : List Char) :
      Rel (.num neg acc) (numSt neg (signed neg (digitsValue acc)))

/-- the part of the text already consumed that still matters for the template hypothesis. -/
def pending : VState → List Char
  | .str raw => raw
  | .strEsc raw => raw ++ ['\\']
  | _ => []

theorem _root_.PathText.StartSt.blank {st : JitState} {allowIndex : Bool} (hst : StartSt st allowIndex)
    {c : Char} (h : isBlank c = true) : step st c = .invalid := by
  rw [hst.dispatch (blank_dot h)]
  simp [segStart, blank_not_jit h, blank_lbr h, blank_quote h]

theorem step_blank_index {c : Char} (v : Int) (h : isBlank c = true) :
    step (.index v) c = .invalid := by
  simp [step, blank_not_digit h, blank_rbr h]
theorem step_blank_negIndex {c : Char} (v : Int) (h : isBlank c = true) :
    step (.negIndex v) c = .invalid := by
  simp [step, blank_not_digit h, blank_rbr h]

theorem step_blank_field {c : Char} (acc : List Char) (h : isBlank c = true) :
    step (.field acc) c = .invalid :=
  step_field_other acc (Bool.not_eq_true _ ▸ blank_not_jit h) (Bool.not_eq_true _ ▸ blank_dot h) (Bool.not_eq_true _ ▸ blank_lbr h)

theorem step_dot_dot : step .dot '.' = .invalid := by decide
theorem step_dot_lbr : step .dot '[' = .invalid := by decide

theorem isSerChar_quote : isSerChar '"' = false := by decide

/-! `vSegStart` by the character it is given: an identifier character, `"`, `.` and `[` with the flag that admits them on
    and off, anything else. -/

theorem vSegStart_ser {c : Char} (d r : Bool) (h : isSerChar c = true) :
    vSegStart d r c = some (.ident [c]) := by simp [vSegStart, h]

theorem vSegStart_quote (d r : Bool) : vSegStart d r '"' = some (.str []) := by
  simp [vSegStart, isSerChar_quote]

theorem vSegStart_dot_ok (r : Bool) : vSegStart true r '.' = some .afterDot := by
  have : ('.' == '"') = false := by decide
  simp [vSegStart, isSerChar_dot, this]

theorem vSegStart_dot_no (r : Bool) : vSegStart false r '.' = none := by
  have h1 : ('.' == '"') = false := by decide
  have h2 : ('.' == '[') = false := by decide
  have h3 : isBlank '.' = false := by decide
  simp [vSegStart, isSerChar_dot, h1, h2, h3]

theorem vSegStart_lbr_ok (d : Bool) : vSegStart d true '[' = some .bracket := by
  have h1 : ('[' == '"') = false := by decide
  have h2 : ('[' == '.') = false := by decide
  simp [vSegStart, isSerChar_lbr, h1, h2]

theorem vSegStart_lbr_no (d : Bool) : vSegStart d false '[' = none := by
  have h1 : ('[' == '"') = false := by decide
  have h2 : ('[' == '.') = false := by decide
  simp [vSegStart, isSerChar_lbr, h1, h2]

/-- anything else is a blank (then the JIT parser rejects) or rejected by the VRL machine. -/
theorem vSegStart_other {c : Char} (d r : Bool) (hs : isSerChar c = false) (hq : (c == '"') = false)
    (hd : (c == '.') = false) (hl : (c == '[') = false) :
    vSegStart d r c = none ∨ isBlank c = true := by
  cases hb : isBlank c with
  | true => exact Or.inr rfl
  | false => left; simp [vSegStart, hs, hq, hd, hl, hb]

theorem digitsValue_snoc (acc : List Char) (c : Char) (h : isDigit c = true) :
    digitsValue (acc ++ [c]) = digitsValue acc * 10 + (c.toNat - 48) := by
  simp only [digitsValue, List.foldl_append, List.foldl_cons, List.foldl_nil, h, if_true]

theorem digitsValue_single (c : Char) (h : isDigit c = true) : digitsValue [c] = c.toNat - 48 := by
  rw [← List.nil_append [c], digitsValue_snoc [] c h]
  exact (Nat.zero_mul 10).symm ▸ Nat.zero_add _

theorem intValue_some {neg : Bool} {acc : List Char} {v : Int} (h : intValue neg acc = some v) :
    v = signed neg (digitsValue acc) := by
  change (if inIsize (signed neg (digitsValue acc)) then some (signed neg (digitsValue acc))
    else none) = some v at h
  split at h
  · exact (Option.some.inj h).symm
  · cases h

/-- what one character does to related states; `pending` grows by at most that character. Only
    `endIdent` is not in lock-step: an identifier ends before `c`, which the VRL machine reads again
    as after a segment; it has no use for `c` there, or the JIT machine emits the same field on `c`. -/
inductive StepSim (c : Char) (vs : VState) (js : JitState) : Prop
  | vstop (h : vstep vs c = .reject)
  | jstop (h : step js c = .invalid ∨ step js c = .panic)
  | go {vs' js'} (hv : vstep vs c = .go vs') (hj : step js c = .go js') (hr : Rel vs' js')
      (hp : pending vs' = [] ∨ pending vs' = pending vs ++ [c])
  | emit {s vs' js'} (hv : vstep vs c = .emit s vs') (hj : step js c = .emit s js') (hr : Rel vs' js')
      (hp : pending vs' = [])
  | endIdent {s} (hv : vstep vs c = .endIdent s)
      (hd : vSegStart true true c = none ∨ ∃ vs' js', vSegStart true true c = some vs' ∧
        step js c = .emit s js' ∧ Rel vs' js' ∧ pending vs' = [])

theorem stepSim_segStart (c : Char) (d r : Bool) {vs : VState} {js : JitState}
    (hv : ∀ c, vstep vs c = .ofOption (vSegStart d r c))
    (hj : StartSt js r) (jdot : d = true → step js '.' = .go .dot) : StepSim c vs js := by
  have hc := hv c
  revert hc
  -- the branches of `vSegStart`: identifier character, `"`, `.`, `[`, blank, anything else
  fun_cases vSegStart d r c with
  | case1 hs => intro h; exact .go h (hj.ser hs) (.ident [c]) (.inl rfl)
  | case2 _ hq =>
    intro h; cases eq_of_beq hq
    exact .go h hj.quote (.str false [] [] rfl) (.inl rfl)
  | case3 _ _ hd =>
    rw [Bool.and_eq_true] at hd
    intro h; cases eq_of_beq hd.1
    exact .go h (jdot hd.2) .dot (.inl rfl)
  | case4 _ _ _ hl =>
    rw [Bool.and_eq_true] at hl
    intro h; cases eq_of_beq hl.1; cases hl.2
    exact .go h hj.lbr .br (.inl rfl)
  | case5 _ _ _ _ hb => intro _; exact .jstop (.inl (hj.blank (Bool.and_eq_true_iff.mp hb).1))
  | case6 => intro h; exact .vstop h

theorem stepSim_digit {c : Char} (hd : isDigit c = true) (neg : Bool) (acc : List Char) {vs : VState}
    (hv : vstep vs c = .go (.num neg (acc ++ [c]))) :
    StepSim c vs (numSt neg (signed neg (digitsValue acc))) := by
  have hj := step_numSt_digit neg (digitsValue acc) hd
  rw [← digitsValue_snoc acc c hd] at hj
  split at hj
  · exact .go hv hj (Rel.num neg _) (.inl rfl)
  · exact .jstop (.inr hj)

/-- an identifier has ended before `c`: the JIT machine, still in `Field`, emits it on `.` and `[`,
    takes `-` into the field (which the VRL machine has no use for) and rejects everything else. -/
theorem stepSim_endIdent {acc : List Char} {c : Char} (hs : isSerChar c = false)
    (hv : vstep (.ident acc) c = .endIdent (mkField acc)) : StepSim c (.ident acc) (.field acc) := by
  by_cases hj : isJitChar c = true
  · have : c = '-' := by simpa [isJitChar, hs] using hj
    subst this
    exact .endIdent hv (.inl (by decide))
  · by_cases hd : (c == '.') = true
    · cases eq_of_beq hd
      exact .endIdent hv (.inr ⟨_, _, vSegStart_dot_ok true, step_field_dot acc, .dot, rfl⟩)
    · by_cases hl : (c == '[') = true
      · cases eq_of_beq hl
        exact .endIdent hv (.inr ⟨_, _, vSegStart_lbr_ok true, step_field_lbr acc, .br, rfl⟩)
      · exact .jstop (.inl (step_field_other acc hj hd hl))

open C20 in
theorem step_sim {vs : VState} {js : JitState} (h : Rel vs js) (c : Char)
    (ht : hasTemplate (pending vs ++ [c]) = false) : StepSim c vs js := by
  cases h with
  | preEvent => exact stepSim_segStart c false true (fun _ => rfl) .eventRoot nofun
  | preMeta => exact stepSim_segStart c false true (fun _ => rfl) .start nofun
  | seg => exact stepSim_segStart c true true (fun _ => rfl) .cont (fun _ => step_cont_dot)
  | dot => exact stepSim_segStart c false false (fun _ => rfl) .dot nofun
  | ident acc =>
    by_cases hs : isSerChar c = true
    · exact .go (show vstep (.ident acc) c = .go (.ident (acc ++ [c])) by simp [vstep, hs])
        (show step (.field acc) c = .go (.field (acc ++ [c])) by simp [step, isJitChar_of_ser hs])
        (Rel.ident _) (.inl rfl)
    · have hs' : isSerChar c = false := by simpa using hs
      by_cases hval : validIdent acc = true
      · exact stepSim_endIdent hs' (by simp [vstep, hs', hval])
      · exact .vstop (by simp [vstep, hs', hval])
  | str copying raw v h =>
    by_cases hq : (c == '"') = true
    · -- the closing quote: the VRL field is the decoding the JIT parser has accumulated
      cases eq_of_beq hq
      exact .emit (show vstep (.str raw) '"' = .emit (mkField v) .afterSeg by
          simp [vstep, stringField_of_pdec raw v h (hasTemplate_append_left _ _ ht)])
        (step_strSt_close copying v) Rel.seg rfl
    · have hq' : (c == '"') = false := by simpa using hq
      by_cases hb : (c == '\\') = true
      · cases eq_of_beq hb
        exact .go (show vstep (.str raw) '\\' = .go (.strEsc raw) by simp [vstep, hq'])
          (step_strSt_backslash copying v) (Rel.esc raw v h) (.inr rfl)
      · have hb' : (c == '\\') = false := by simpa using hb
        exact .go (show vstep (.str raw) c = .go (.str (raw ++ [c])) by simp [vstep, hq', hb'])
          (step_strSt_plain copying v hq' hb')
          (Rel.str copying _ _ (by rw [pdec_append h, pdec_cons_plain c [] hb' hq']; rfl)) (.inr rfl)
  | esc raw v h =>
    by_cases he : (c == '\\' || c == '"') = true
    · have ⟨_, f2, f3⟩ := esc_facts he
      exact .go (show vstep (.strEsc raw) c = .go (.str (raw ++ ['\\', c])) by simp [vstep, f2, f3])
        (step_escapeNext v he)
        (Rel.str true _ _ (by rw [pdec_append h, pdec_cons_esc c [] he]; rfl))
        (.inr (List.append_assoc raw ['\\'] [c]).symm)
    · exact .jstop (.inl (by simp only [step, he, Bool.false_eq_true, if_false]))
  | br =>
    by_cases hd : isDigit c = true
    · have hnb : isBlank c = false :=
        Bool.eq_false_iff.2 fun hb => by rw [blank_not_digit hb] at hd; cases hd
      exact .go (show vstep .bracket c = .go (.num false [c]) by simp [vstep, hnb, hd])
        (show step .indexStart c = .go (numSt false (signed false (digitsValue [c]))) by
          simp only [step, hd, if_true, digitVal_eq hd, digitsValue_single c hd, numSt, signed_false])
        (Rel.num false [c]) (.inl rfl)
    · have hd' : isDigit c = false := by simpa using hd
      by_cases hm : (c == '-') = true
      · cases eq_of_beq hm
        exact .go (show vstep .bracket '-' = .go .negSign by decide)
          (show step .indexStart '-' = .go (numSt true (signed true 0)) by decide) Rel.neg0 (.inl rfl)
      · have : (c == '-') = false := by simpa using hm
        exact .jstop (.inl (by simp [step, hd', this]))
  | neg0 =>
    by_cases hd : isDigit c = true
    · exact stepSim_digit hd true [] (by simp [vstep, hd])
    · exact .vstop (by simp [vstep, hd])
  | num neg acc =>
    by_cases hd : isDigit c = true
    · exact stepSim_digit hd neg acc (by simp [vstep, hd])
    · have hd' : isDigit c = false := by simpa using hd
      by_cases hr : (c == ']') = true
      · -- the closing bracket: the VRL machine checks the range only now
        cases eq_of_beq hr
        cases hi : intValue neg acc with
        | none => exact .vstop (by simp [vstep, isDigit_rbr, hi])
        | some v =>
          exact .emit (show vstep (.num neg acc) ']' = .emit (.index v) .afterSeg by
              simp [vstep, isDigit_rbr, hi])
            (intValue_some hi ▸ step_numSt_close neg _) Rel.seg rfl
      · exact .jstop (.inl (step_numSt_other neg _ hd' (by simpa using hr)))

open C20 in
/-- from related states, on any remaining text without `{{` / `\}}`, the VRL-source machine and
    the JIT machine never accept with different segments: the closure of `step_sim`. -/
theorem sim : ∀ (rest : List Char) (vs : VState) (js : JitState), Rel vs js →
    hasTemplate (pending vs ++ rest) = false → AgreeR (vrun vs rest) (jit js rest) := by
  intro rest
  induction rest with
  | nil =>
    intro vs js h _
    cases h with
    | preEvent => exact agree_nil
    | preMeta => exact agree_err _
    | seg => exact agree_nil
    | ident acc =>
      intro p₁ p₂ h1 h2
      change (if validIdent acc = true then _ else _) = _ at h1
      split at h1
      · cases h1; cases h2; rfl
      · cases h1
    | _ => exact agree_nopath _
  | cons c rest ih =>
    intro vs js h ht
    have ht2 : hasTemplate rest = false := (hasTemplate_cons (hasTemplate_append_right _ _ ht)).2
    cases step_sim h c (hasTemplate_append_left _ rest (by rw [List.append_assoc]; exact ht)) with
    | vstop hv => rw [vrun_reject rest hv]; exact agree_nopath _
    | jstop hj =>
      rcases hj with hj | hj
      · rw [jit_invalid rest hj]; exact agree_err _
      · rw [jit_panic rest hj]; exact agree_jpanic _
    | go hv hj hr hp =>
      rw [vrun_go rest hv, jit_go rest hj]
      refine ih _ _ hr ?_
      rcases hp with e | e
      · rw [e]; exact ht2
      · rw [e, List.append_assoc]; exact ht
    | emit hv hj hr hp =>
      rw [vrun_emit rest hv, jit_emit rest hj]
      exact agree_cons _ (ih _ _ hr (by rw [hp]; exact ht2))
    | endIdent hv hd =>
      rcases hd with hn | ⟨vs', js', hd, hj, hr, hp⟩
      · rw [vrun_endIdent_none rest hv hn]; exact agree_nopath _
      · rw [vrun_endIdent_some rest hv hd, jit_emit rest hj]
        exact agree_cons _ (ih _ _ hr (by rw [hp]; exact ht2))

end PathVrl
