/-
  to_entries / from_entries (C25): inserting keys in increasing order into a `BTreeMap` keeps
  every earlier entry in front of the later ones.
-/
import VrlModel.C25
import VrlProofs.Lemmas.Value

namespace Conv

def allLt (k : Key) : VMap → Bool
  | .nil => true
  | .cons l _ m => Key.lt l k && allLt k m

theorem allLt_trans : (acc : VMap) → (a b : Key) → Key.lt a b = true → allLt a acc = true →
    allLt b acc = true
  | .nil, _, _, _, _ => rfl
  | .cons l _ m, a, b, hab, h => by
    simp only [allLt, Bool.and_eq_true] at h ⊢
    exact ⟨Key.lt_trans l a b h.1 hab, allLt_trans m a b hab h.2⟩

theorem selectKey_buildEntry (k v : Value) (hk : keyUsable k = true) :
    ∀ e, buildEntry k v = .obj e → selectKey e = k ∧ selectValue e = v := by
  intro e he
  simp only [buildEntry, Value.obj.injEq] at he
  subst he
  constructor
  · simp [selectKey, VMap.get, kKey, kKeyU, kName, kNameU, kValue, List.filterMap, hk]
  · simp [selectValue, VMap.get, kKey, kValue]

theorem fromEntriesLoop_step (k : Key) (v : Value) (rest acc : VMap) (hk : Utf8.fixed k = true) :
    fromEntriesLoop (entriesOfMap (.cons k v rest)) acc
      = fromEntriesLoop (entriesOfMap rest) (acc.insert k v) := by
  obtain ⟨h1, h2⟩ := selectKey_buildEntry (.bytes k) v rfl _ rfl
  simp only [Utf8.fixed, beq_iff_eq] at hk
  simp only [entriesOfMap, buildEntry, fromEntriesLoop, h1, h2, hk]

/-- an entry whose key is below every key still to come stays in front of the accumulator, whatever
    the loop inserts after it -/
theorem fromEntriesLoop_front (k : Key) (v : Value) : (m acc X : VMap) → VMap.allGt k m = true →
    C25.keysFixed m = true → fromEntriesLoop (entriesOfMap m) acc = .ok (.obj X) →
    fromEntriesLoop (entriesOfMap m) (.cons k v acc) = .ok (.obj (.cons k v X))
  | .nil, _, _, _, _, h => by cases h; rfl
  | .cons l w m, acc, X, hgt, hf, h => by
    simp only [VMap.allGt, C25.keysFixed, Bool.and_eq_true] at hgt hf
    rw [fromEntriesLoop_step l w m _ hf.1] at h ⊢
    rw [VMap.insert_cons_of_lt v w acc hgt.1]
    exact fromEntriesLoop_front k v m _ X hgt.2 hf.2 h

theorem fromEntriesLoop_entriesOfMap : (m : VMap) → VMap.Sorted m = true →
    C25.keysFixed m = true → fromEntriesLoop (entriesOfMap m) .nil = .ok (.obj m)
  | .nil, _, _ => rfl
  | .cons k v rest, hs, hf => by
    simp only [VMap.Sorted, C25.keysFixed, Bool.and_eq_true] at hs hf
    rw [fromEntriesLoop_step k v rest _ hf.1]
    exact fromEntriesLoop_front k v rest .nil rest hs.1.2 hf.2
      (fromEntriesLoop_entriesOfMap rest hs.2 hf.2)

end Conv
