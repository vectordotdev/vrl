import VrlProofs.Lemmas.KindGet

/-! Soundness of `Kind::union` (`merge_keep(_, false)`) for kinds whose `Infinite` unknowns are all
    `any` (outside that, `Unknown::merge` lets an `Infinite` unknown overwrite an `Exact` one:
    finding `D_inf_over_exact`). -/

namespace KList

/-- lookup in the result of loop 2 of `Collection::merge`. -/
theorem get_foldl_insert (skip : Key → Bool) (g : Kind → Kind) : (m : KList) → (acc : KList) →
    (q : Key) → m.SortedKeys = true →
    (m.foldl (fun acc key ok => if skip key then acc else acc.insert key (g ok)) acc).get q =
      (match m.get q with
       | some w => if skip q then acc.get q else some (g w)
       | none => acc.get q)
  | .nil, acc, q, _ => rfl
  | .cons k v m, acc, q, hs => by
    rw [sortedKeys_cons] at hs
    simp only [foldl]
    rw [get_foldl_insert skip g m _ q hs.2]
    by_cases hk : k = q
    · subst hk
      simp only [get, if_true, get_none_of_allGt m k hs.1]
      by_cases hsk : skip k = true
      · simp [hsk]
      · simp [hsk, get_insert_same]
    · simp only [get, hk, if_false]
      have : (if skip k = true then acc else acc.insert k (g v)).get q = acc.get q := by
        split
        · rfl
        · exact get_insert_other acc k q _ hk
      rw [this]

end KList

namespace Col

theorem mergeWith_known_get (f : Kind → Kind → Bool → Kind) (c1 c2 : Col) (ow : Bool) (q : Key)
    (hs : c2.known.SortedKeys = true) :
    (Col.mergeWith f c1 c2 ow).known.get q =
      (match c1.known.get q with
       | some k1 => some (mergeKnownSelf f c2 ow q k1)
       | none => (c2.known.get q).map (mergeKnownOther f c1.unknownKind ow)) := by
  cases c1 with
  | mk k1 u1 =>
  cases c2 with
  | mk k2 u2 =>
  simp only [Col.known] at hs
  show ((k2.foldl (fun acc key ok => if (fun key => k1.contains key) key = true then acc
      else acc.insert key (mergeKnownOther f (Col.mk k1 u1).unknownKind ow ok))
      (k1.mapKV (mergeKnownSelf f (.mk k2 u2) ow))).get q) =
    (match k1.get q with
     | some kk1 => some (mergeKnownSelf f (.mk k2 u2) ow q kk1)
     | none => (k2.get q).map (mergeKnownOther f (Col.mk k1 u1).unknownKind ow))
  rw [KList.get_foldl_insert (fun key => k1.contains key) _ k2 _ q hs]
  rw [KList.get_mapKV]
  cases h1 : k1.get q with
  | some kk1 =>
    have : k1.contains q = true := by simp [KList.contains, h1]
    cases h2 : k2.get q <;> simp [this]
  | none =>
    have : k1.contains q = false := by simp [KList.contains, h1]
    cases h2 : k2.get q <;> simp [this]

end Col

/-- the first step of `merge_keep`: `Kind.fuel` is a successor. -/
theorem Kind.mergeKeep_mk (p1 p2 : Prim) (a1 o1 a2 o2 : OCol) (ow : Bool) :
    (Kind.mk p1 a1 o1).mergeKeep (.mk p2 a2 o2) ow =
      .mk (p1.or p2)
        (OCol.mergeWith (Kind.mergeKeepF (2 * ((Kind.mk p1 a1 o1).depth + (Kind.mk p2 a2 o2).depth) + 3)) a1 a2 ow)
        (OCol.mergeWith (Kind.mergeKeepF (2 * ((Kind.mk p1 a1 o1).depth + (Kind.mk p2 a2 o2).depth) + 3)) o1 o2 ow) :=
  rfl

/-- the `undefined` state of an operand survives `Kind::union`, whatever the collections. -/
theorem Spec.union_undefined_left (A B : Kind) (h : A.prim.undefined = true) :
    (A.union B).prim.undefined = true := by
  obtain ⟨p1, a1, o1⟩ := A
  obtain ⟨p2, a2, o2⟩ := B
  rw [Kind.union, Kind.mergeKeep_mk]
  simp [Kind.prim, Prim.or, show p1.undefined = true from h]

theorem Spec.union_undefined_right (A B : Kind) (h : B.prim.undefined = true) :
    (A.union B).prim.undefined = true := by
  obtain ⟨p1, a1, o1⟩ := A
  obtain ⟨p2, a2, o2⟩ := B
  rw [Kind.union, Kind.mergeKeep_mk]
  simp [Kind.prim, Prim.or, show p2.undefined = true from h]

theorem Unknown.sortedK_toKind (u : Unknown) (h : u.SortedK = true) : u.toKind.SortedK = true := by
  cases u with
  | exact k => cases k; exact h
  | infinite i =>
    rw [Unknown.toKind, Unknown.toExistingKind, Kind.ofInf]
    cases i.array <;> cases i.object <;> rfl

theorem KList.sortedK_eq_all : (m : KList) → m.SortedK = m.all fun _ => Kind.SortedK
  | .nil => rfl
  | .cons _ v m => by simp [KList.SortedK, KList.all, KList.sortedK_eq_all m]

theorem KList.hasNonAnyInf_eq_all : (m : KList) →
    (!m.hasNonAnyInf) = m.all fun _ k => !k.hasNonAnyInf
  | .nil => rfl
  | .cons _ v m => by
    simp only [KList.hasNonAnyInf, KList.all, Bool.not_or, KList.hasNonAnyInf_eq_all m]

theorem Unknown.infAny_toKind (u : Unknown) (h : u.hasNonAnyInf = false) :
    u.toKind.hasNonAnyInf = false := by
  cases u with
  | exact k => cases k; exact h
  | infinite i =>
    simp only [Unknown.hasNonAnyInf, Bool.not_eq_eq_eq_not, Bool.not_false] at h
    rw [Unknown.toKind, Unknown.toExistingKind, Kind.ofInf]
    cases i.array <;> cases i.object <;>
      simp [Kind.withoutUndefined, Kind.orUndefined, Kind.hasNonAnyInf, OCol.hasNonAnyInf,
        Col.hasNonAnyInf, KList.hasNonAnyInf, Unknown.hasNonAnyInf, h]

namespace Spec

/-- key-sorted known maps and `any` as only `Infinite` unknown, at every depth: the kinds on which
    `merge_keep` is sound (outside, `Unknown::merge` lets an `Infinite` unknown overwrite an `Exact`
    one). The same notion for the other four sorts of the kind tree. -/
def Tame (K : Kind) : Prop := K.SortedK = true ∧ K.hasNonAnyInf = false
def TameO (a : OCol) : Prop := a.SortedK = true ∧ a.hasNonAnyInf = false
def TameC (c : Col) : Prop := c.SortedK = true ∧ c.hasNonAnyInf = false
def TameL (m : KList) : Prop := m.SortedK = true ∧ m.hasNonAnyInf = false
def TameU (u : Unknown) : Prop := u.SortedK = true ∧ u.hasNonAnyInf = false

theorem tame_mk {p : Prim} {a o : OCol} : Tame (.mk p a o) ↔ TameO a ∧ TameO o := by
  simp only [Tame, TameO, Kind.SortedK, Kind.hasNonAnyInf, Bool.and_eq_true, Bool.or_eq_false_iff]
  exact and_and_and_comm

theorem tameC_mk {k : KList} {u : Unknown} :
    TameC (.mk k u) ↔ k.SortedKeys = true ∧ TameL k ∧ TameU u := by
  simp only [TameC, TameL, TameU, Col.SortedK, Col.hasNonAnyInf, Bool.and_eq_true, Bool.or_eq_false_iff]
  exact ⟨fun ⟨⟨⟨a, b⟩, c⟩, d, e⟩ => ⟨a, ⟨b, d⟩, c, e⟩, fun ⟨a, ⟨b, d⟩, c, e⟩ => ⟨⟨⟨a, b⟩, c⟩, d, e⟩⟩

theorem tameL_cons {k : Key} {v : Kind} {m : KList} : TameL (.cons k v m) ↔ Tame v ∧ TameL m := by
  simp only [Tame, TameL, KList.SortedK, KList.hasNonAnyInf, Bool.and_eq_true, Bool.or_eq_false_iff]
  exact and_and_and_comm

theorem tameU_infinite {i : Inf} : TameU (.infinite i) ↔ i.isAny = true := by
  simp [TameU, Unknown.SortedK, Unknown.hasNonAnyInf]

theorem Tame.orUndefined {K : Kind} (h : Tame K) : Tame K.orUndefined := by cases K; exact h

theorem Tame.withoutUndefined {K : Kind} (h : Tame K) : Tame K.withoutUndefined := by cases K; exact h

theorem tame_iff {K : Kind} : Tame K ↔ (K.SortedK && !K.hasNonAnyInf) = true := by simp [Tame]

theorem tameL_iff_all : (m : KList) →
    (TameL m ↔ m.all (fun _ K => K.SortedK && !K.hasNonAnyInf) = true)
  | .nil => by simp [TameL, KList.SortedK, KList.hasNonAnyInf, KList.all]
  | .cons _ v m => by
    rw [tameL_cons, tameL_iff_all m]
    simp [Tame, KList.all]

theorem TameL.get {m : KList} (h : TameL m) {q : Key} {K : Kind} (hq : m.get q = some K) : Tame K := by
  simpa [Tame] using KList.all_of_get _ m ((tameL_iff_all m).mp h) q K hq

theorem TameU.toKind {u : Unknown} (h : TameU u) : Tame u.toKind :=
  ⟨Unknown.sortedK_toKind u h.1, Unknown.infAny_toKind u h.2⟩

theorem TameC.sortedKeys {c : Col} (h : TameC c) : c.known.SortedKeys = true := by
  obtain ⟨k, u⟩ := c; exact (tameC_mk.mp h).1

theorem TameC.known {c : Col} (h : TameC c) : TameL c.known := by
  obtain ⟨k, u⟩ := c; exact (tameC_mk.mp h).2.1

theorem TameC.unknown {c : Col} (h : TameC c) : TameU c.unknown := by
  obtain ⟨k, u⟩ := c; exact (tameC_mk.mp h).2.2

theorem TameC.loc {c : Col} (h : TameC c) (q : Key) : Tame (c.loc q) := by
  cases hq : c.known.get q with
  | some K => rw [loc_of_get hq]; exact h.known.get hq
  | none => rw [loc_of_none hq]; exact h.unknown.toKind

theorem Tame.array {K : Kind} (h : Tame K) {c : Col} (hc : K.array = some c) : TameC c := by
  obtain ⟨p, o, rfl⟩ := Kind.eq_of_array hc
  exact (tame_mk.mp h).1

theorem Tame.object {K : Kind} (h : Tame K) {c : Col} (hc : K.object = some c) : TameC c := by
  obtain ⟨p, a, rfl⟩ := Kind.eq_of_object hc
  exact (tame_mk.mp h).2

mutual
  theorem mem_infAny : (v : Value) → mem v (infKind Inf.any) = true
    | .null => rfl
    | .bool _ => rfl
    | .int _ => rfl
    | .float _ => rfl
    | .bytes _ => rfl
    | .ts _ => rfl
    | .regex _ => rfl
    | .arr xs => by
      simp only [mem, infKind, Inf.any, if_true, Kind.hasArr, arrayD, Kind.array, Option.getD_some,
        Bool.true_and, Bool.and_eq_true]
      exact ⟨memList_infAny xs 0, by simp [absentIdxOk, Col.known, KList.keys]⟩
    | .obj m => by
      simp only [mem, infKind, Inf.any, if_true, Kind.hasObj, objectD, Kind.object, Option.getD_some,
        Bool.true_and, Bool.and_eq_true]
      exact ⟨memMap_infAny m, by simp [absentKeysOk, Col.known, KList.keys]⟩
  theorem memList_infAny : (xs : VList) → (i : Nat) →
      memList xs i (.mk .nil (.infinite Inf.any)) = true
    | .nil, _ => rfl
    | .cons x xs, i => by
      simp only [memList, Bool.and_eq_true]
      exact ⟨by simpa [slotKind, Col.known, KList.get, Col.unknown, unknownElemKind] using mem_infAny x,
        memList_infAny xs (i + 1)⟩
  theorem memMap_infAny : (m : VMap) → memMap m (.mk .nil (.infinite Inf.any)) = true
    | .nil => rfl
    | .cons k x m => by
      simp only [memMap, Bool.and_eq_true]
      exact ⟨by simpa [slotKind, Col.known, KList.get, Col.unknown, unknownElemKind] using mem_infAny x,
        memMap_infAny m⟩
end

theorem mem_any (v : Value) : mem v Kind.any = true := by
  have h := mem_infAny v
  have : Kind.any = (infKind Inf.any).orUndefined := by
    simp [Kind.any, infKind, Inf.any, Kind.orUndefined, Prim.all, Col.any, Unknown.any]
  rw [this, mem_orUndefined]; exact h

theorem inf_eq_any_of_isAny (i : Inf) (h : i.isAny = true) : i = Inf.any := by
  cases i
  simp only [Inf.isAny, Bool.and_eq_true] at h
  simp_all [Inf.any]

theorem inf_merge_isAny (l r : Inf) (h : l.isAny = true ∨ r.isAny = true) : (l.merge r).isAny = true := by
  simp only [Inf.isAny, Bool.and_eq_true] at h
  rcases h with h | h <;> simp [Inf.isAny, Inf.merge, h]

theorem mem_inf_of_isAny (i : Inf) (h : i.isAny = true) (v : Value) : mem v (infKind i) = true :=
  inf_eq_any_of_isAny i h ▸ mem_infAny v

theorem containsAnyDefined_of_mem (x : Value) (K : Kind) (h : mem x K = true) :
    K.containsAnyDefined = true := by
  cases hd : K.containsAnyDefined with
  | true => rfl
  | false =>
    have hu : K.isUndefined = true := by simpa [Kind.containsAnyDefined] using hd
    rw [mem_false_of_isUndefined x K hu] at h; cases h

theorem memOpt_toKind (u : Unknown) (g : Option Value) :
    memOpt g u.toKind = true ↔ ∀ x, g = some x → mem x (unknownElemKind u) = true := by
  cases g with
  | none => simpa [memOpt] using toKind_undefined u
  | some x => simp [memOpt, mem_unknown_toKind]

theorem locSub_toKind {u u' : Unknown}
    (h : ∀ x, mem x (unknownElemKind u) = true → mem x (unknownElemKind u') = true) :
    LocSub u.toKind u'.toKind :=
  fun g hg => (memOpt_toKind u' g).mpr fun x hx => h x ((memOpt_toKind u g).mp hg x hx)

theorem locSub_of_not_defined {A B : Kind} (hA : A.containsAnyDefined = false)
    (hB : B.prim.undefined = true) : LocSub A B
  | some x, h => absurd (containsAnyDefined_of_mem x A h) (by simp [hA])
  | none, _ => hB

theorem locSub_orUndefined (A : Kind) : LocSub A A.orUndefined
  | some x, h => (mem_orUndefined x A).trans h
  | none, _ => orUndefined_undefined A

/-- what the collection-level lemmas need from the kind-level merge function (`overwrite = false`). -/
structure FSound (f : Kind → Kind → Bool → Kind) : Prop where
  left : ∀ x y, Tame x → Tame y → LocSub x (f x y false)
  right : ∀ x y, Tame x → Tame y → LocSub y (f x y false)

/-- a tame `Infinite` unknown is `any`, and so is its merge with anything, with or without `overwrite`. -/
theorem unknown_merge_infinite (f : Kind → Kind → Bool → Kind) (u1 u2 : Unknown) (ow : Bool)
    (t1 : TameU u1) (t2 : TameU u2) (h : (u1.isExact && u2.isExact) = false) (u : Unknown) :
    LocSub u.toKind (Unknown.mergeWith f u1 u2 ow).toKind := by
  have hany : ∀ i : Inf, i.isAny = true → LocSub u.toKind (Unknown.infinite i).toKind :=
    fun i hi => locSub_toKind fun x _ => mem_inf_of_isAny i hi x
  match u1, u2, t1, t2, h with
  | .exact _, .exact _, _, _, h => cases h
  | .exact _, .infinite r, _, t2, _ => exact hany r (tameU_infinite.mp t2)
  | .infinite l, .exact _, t1, _, _ => exact hany l (tameU_infinite.mp t1)
  | .infinite l, .infinite r, t1, _, _ =>
    exact hany _ (inf_merge_isAny l r (Or.inl (tameU_infinite.mp t1)))

theorem unknown_merge_sound (f : Kind → Kind → Bool → Kind) (hf : FSound f) (u1 u2 : Unknown)
    (t1 : TameU u1) (t2 : TameU u2) :
    LocSub u1.toKind (Unknown.mergeWith f u1 u2 false).toKind ∧
    LocSub u2.toKind (Unknown.mergeWith f u1 u2 false).toKind := by
  have hinf := fun he => And.intro (unknown_merge_infinite f u1 u2 false t1 t2 he u1)
    (unknown_merge_infinite f u1 u2 false t1 t2 he u2)
  match u1, u2, t1, t2, hinf with
  | .exact l, .exact r, t1, t2, _ =>
    exact ⟨locSub_toKind fun _ => (hf.left l r t1 t2).elem, locSub_toKind fun _ => (hf.right l r t1 t2).elem⟩
  | .exact _, .infinite _, _, _, hinf => exact hinf rfl
  | .infinite _, _, _, _, hinf => exact hinf rfl

/-- the kind `Collection::merge(_, false)` stores for a key known on one side only: the known kind
    `a` merged with the other side's unknown kind `U`. -/
theorem merge_absent_sound (f : Kind → Kind → Bool → Kind) (hf : FSound f) (a U : Kind)
    (ta : Tame a) (tU : Tame U) :
    LocSub a (if U.containsAnyDefined = true then f a U false else a.orUndefined) ∧
    LocSub U (if U.containsAnyDefined = true then f a U false else a.orUndefined) := by
  split
  · exact ⟨hf.left a U ta tU, hf.right a U ta tU⟩
  · rename_i hd
    exact ⟨locSub_orUndefined a, locSub_of_not_defined (by simpa using hd) (orUndefined_undefined a)⟩

theorem mergeKnownSelf_false (f : Kind → Kind → Bool → Kind) (c2 : Col) (k : Key) (k1 : Kind) :
    Col.mergeKnownSelf f c2 false k k1 =
      (match c2.known.get k with
       | some k2 => f k1 k2 false
       | none => if c2.unknownKind.containsAnyDefined = true then f k1 c2.unknownKind false
                 else k1.orUndefined) := by
  unfold Col.mergeKnownSelf
  cases c2.known.get k <;> simp

theorem mergeKnownOther_false (f : Kind → Kind → Bool → Kind) (suk ok : Kind) :
    Col.mergeKnownOther f suk false ok =
      if suk.containsAnyDefined = true then f ok suk false else ok.orUndefined := by
  unfold Col.mergeKnownOther
  simp

theorem mergeWith_false_loc (f : Kind → Kind → Bool → Kind) (c1 c2 : Col) (q : Key)
    (hs : c2.known.SortedKeys = true) :
    (Col.mergeWith f c1 c2 false).loc q =
      (match c1.known.get q, c2.known.get q with
       | some a, some b => f a b false
       | some a, none =>
         if c2.unknown.toKind.containsAnyDefined = true then f a c2.unknown.toKind false else a.orUndefined
       | none, some b =>
         if c1.unknown.toKind.containsAnyDefined = true then f b c1.unknown.toKind false else b.orUndefined
       | none, none => (Unknown.mergeWith f c1.unknown c2.unknown false).toKind) := by
  unfold Col.loc
  rw [Col.mergeWith_known_get f c1 c2 false q hs]
  simp only [mergeKnownSelf_false, Col.unknownKind]
  cases c1.known.get q <;> cases c2.known.get q <;> simp only [Option.map, mergeKnownOther_false] <;> rfl

/-- **`Collection::merge(_, false)` includes both operands**, location by location. -/
theorem col_merge_sound (f : Kind → Kind → Bool → Kind) (hf : FSound f) (c1 c2 : Col)
    (t1 : TameC c1) (t2 : TameC c2) (q : Key) :
    LocSub (c1.loc q) ((Col.mergeWith f c1 c2 false).loc q) ∧
    LocSub (c2.loc q) ((Col.mergeWith f c1 c2 false).loc q) := by
  rw [mergeWith_false_loc f c1 c2 q t2.sortedKeys]
  cases h1 : c1.known.get q <;> cases h2 : c2.known.get q <;> simp only
  · rw [loc_of_none h1, loc_of_none h2]
    exact unknown_merge_sound f hf _ _ t1.unknown t2.unknown
  · rw [loc_of_none h1, loc_of_get h2]
    exact (merge_absent_sound f hf _ _ (t2.known.get h2) t1.unknown.toKind).symm
  · rw [loc_of_get h1, loc_of_none h2]
    exact merge_absent_sound f hf _ _ (t1.known.get h1) t2.unknown.toKind
  · rw [loc_of_get h1, loc_of_get h2]
    exact ⟨hf.left _ _ (t1.known.get h1) (t2.known.get h2), hf.right _ _ (t1.known.get h1) (t2.known.get h2)⟩

theorem ocol_merge_sound (f : Kind → Kind → Bool → Kind) (hf : FSound f) (a1 a2 : OCol)
    (t1 : TameO a1) (t2 : TameO a2) :
    OColSub a1 (OCol.mergeWith f a1 a2 false) ∧ OColSub a2 (OCol.mergeWith f a1 a2 false) := by
  match a1, a2, t1, t2 with
  | .none, .none, _, _ => exact ⟨trivial, trivial⟩
  | .none, .some c2, _, _ => exact ⟨trivial, ColSub.refl c2⟩
  | .some c1, .none, _, _ => exact ⟨ColSub.refl c1, trivial⟩
  | .some c1, .some c2, t1, t2 =>
    exact ⟨fun q => (col_merge_sound f hf c1 c2 t1 t2 q).1, fun q => (col_merge_sound f hf c1 c2 t1 t2 q).2⟩

/-- **`merge_keep(_, false)` with any fuel includes both operands**, for tame kinds. -/
theorem mergeKeepF_sound : (n : Nat) → FSound (Kind.mergeKeepF n)
  | 0 => ⟨fun _ _ _ _ => LocSub.intro (fun v _ => mem_any v) fun _ => rfl,
      fun _ _ _ _ => LocSub.intro (fun v _ => mem_any v) fun _ => rfl⟩
  | n + 1 => by
    have ih := mergeKeepF_sound n
    constructor <;> intro ⟨p1, a1, o1⟩ ⟨p2, a2, o2⟩ tx ty
    · exact locSub_mk (prim_sup_or_left p1 p2)
        (ocol_merge_sound _ ih a1 a2 (tame_mk.mp tx).1 (tame_mk.mp ty).1).1
        (ocol_merge_sound _ ih o1 o2 (tame_mk.mp tx).2 (tame_mk.mp ty).2).1
    · exact locSub_mk (prim_sup_or_right p1 p2)
        (ocol_merge_sound _ ih a1 a2 (tame_mk.mp tx).1 (tame_mk.mp ty).1).2
        (ocol_merge_sound _ ih o1 o2 (tame_mk.mp tx).2 (tame_mk.mp ty).2).2

theorem union_locSub_left {A B : Kind} (tA : Tame A) (tB : Tame B) : LocSub A (A.union B) :=
  (mergeKeepF_sound _).left A B tA tB

theorem union_locSub_right {A B : Kind} (tA : Tame A) (tB : Tame B) : LocSub B (A.union B) :=
  (mergeKeepF_sound _).right A B tA tB

end Spec
