import VrlProofs.Lemmas.KindSuperset

/-! The converse of `mem_of_superset_kindOf`: a member `v` of `K` makes `K.is_superset(Kind::from(v))`
    answer `Ok` – for well-formed kinds (`Kind.WF`: array slots hold index keys, keys strictly
    increasing) whose `Infinite` unknowns are all `any` (otherwise finding `D_superset_inf_vs_exact`). -/

namespace KList

theorem wf_get (isArr : Bool) (m : KList) (q : Key) (K : Kind) (hw : m.WF isArr = true)
    (h : m.get q = some K) : K.WF = true ∧ (isArr = true → q.isIdx = true) := by
  fun_induction get m q with
  | case1 => cases h
  | case2 =>
    simp only [KList.WF, Bool.and_eq_true, Bool.or_eq_true, Bool.not_eq_true'] at hw
    cases h
    exact ⟨hw.1.2, fun ha => hw.1.1.resolve_left (by simp [ha])⟩
  | case3 _ _ _ _ _ ih =>
    simp only [KList.WF, Bool.and_eq_true] at hw
    exact ih hw.2 h

end KList

theorem KList.infAny_get (m : KList) (q : Key) (K : Kind) (hs : m.hasNonAnyInf = false)
    (h : m.get q = some K) : K.hasNonAnyInf = false := by
  have ha : m.all (fun _ k => !k.hasNonAnyInf) = true := by
    rw [← KList.hasNonAnyInf_eq_all, hs]; rfl
  simpa using KList.all_of_get _ m ha q K h

theorem Unknown.wf_toKind (u : Unknown) (h : u.WF = true) : u.toKind.WF = true := by
  cases u with
  | exact k =>
    cases k with
    | mk p a o =>
      simpa [Unknown.toKind, Unknown.toExistingKind, Kind.withoutUndefined, Kind.orUndefined,
        Unknown.WF, Kind.WF] using h
  | infinite i =>
    simp only [Unknown.toKind, Unknown.toExistingKind, Kind.ofInf, Kind.withoutUndefined,
      Kind.orUndefined, Kind.WF]
    cases i.array <;> cases i.object <;>
      simp [OCol.WF, Col.WF, KList.WF, KList.SortedKeys, Unknown.WF]

namespace Spec

theorem isSupersetF_flat (n : Nat) (p q : Prim) (a o : OCol) :
    Kind.isSupersetF (n + 1) (.mk p a o) (.mk q .none .none) = p.sup q := by
  cases a <;> cases o <;> simp [Kind.isSupersetF, OCol.isSupersetWith]

theorem isSupersetF_undefined (n : Nat) (k : Kind) (h : k.prim.undefined = true) :
    Kind.isSupersetF (n + 1) k Kind.undefined = true := by
  obtain ⟨p, a, o⟩ := k
  rw [Kind.undefined, isSupersetF_flat]
  simp [Prim.sup, show p.undefined = true from h]

theorem ofKind_undefined : Unknown.ofKind Kind.undefined = .exact Kind.undefined := by decide

/-- the unknown of `K`'s collection is a superset of `Exact(undefined)`, the unknown of every
    `Kind::from(value)` collection. -/
theorem unknown_sup_undefined (n : Nat) (u : Unknown) (hi : u.hasNonAnyInf = false) :
    Unknown.isSupersetWith (Kind.isSupersetF (n + 1)) u (Unknown.ofKind Kind.undefined) = true := by
  rw [ofKind_undefined]
  cases u with
  | infinite i =>
    simp only [Unknown.hasNonAnyInf, Bool.not_eq_eq_eq_not, Bool.not_false] at hi
    simp [Unknown.isSupersetWith, hi]
  | exact l =>
    obtain ⟨p, a, o⟩ := l
    simp only [Unknown.isSupersetWith, Kind.withoutUndefined, Kind.undefined, isSupersetF_flat]
    simp [Prim.sup]

theorem col_superset_kinds (n : Nat) (k1 kv : KList) (u1 : Unknown) (iu : u1.hasNonAnyInf = false)
    (sk : k1.SortedKeys = true)
    (hall : kv.all (fun key ok =>
      match k1.get key with
      | some sk => Kind.isSupersetF (n + 1) sk ok
      | none => Kind.isSupersetF (n + 1) u1.toKind ok) = true)
    (habs : ∀ key sK, k1.get key = some sK → kv.contains key = false → sK.prim.undefined = true) :
    Col.isSupersetWith (Kind.isSupersetF (n + 1)) (.mk k1 u1) (Col.ofKnown kv) = true := by
  simp only [Col.isSupersetWith, Col.ofKnown, Col.known, Col.unknown, Col.unknownKind, Bool.and_eq_true]
  refine ⟨⟨unknown_sup_undefined n u1 iu, hall⟩, KList.all_of_forall_get k1 sk _ ?_⟩
  intro key sK hk
  cases hc : kv.contains key with
  | true => rfl
  | false =>
    rw [ofKind_undefined, show (Unknown.exact Kind.undefined).toKind = Kind.undefined from rfl,
      isSupersetF_undefined n sK (habs key sK hk hc)]
    rfl

theorem col_infAny {k : KList} {u : Unknown} (h : (Col.mk k u).hasNonAnyInf = false) :
    k.hasNonAnyInf = false ∧ u.hasNonAnyInf = false := by
  simpa [Col.hasNonAnyInf] using h

theorem kind_infAny {p : Prim} {a o : OCol} (h : (Kind.mk p a o).hasNonAnyInf = false) :
    a.hasNonAnyInf = false ∧ o.hasNonAnyInf = false := by
  simpa [Kind.hasNonAnyInf] using h

/-- the kinds on which a member passes the subtype test: every `Infinite` unknown is `any`, array
    collections hold index keys, keys strictly increasing. -/
def Good (K : Kind) : Prop := K.hasNonAnyInf = false ∧ K.WF = true

theorem good_col {p : Prim} {a o : OCol} (h : Good (.mk p a o)) :
    (∀ k u, a = .some (.mk k u) → k.hasNonAnyInf = false ∧ u.hasNonAnyInf = false ∧
      k.WF true = true ∧ k.SortedKeys = true ∧ u.WF = true) ∧
    (∀ k u, o = .some (.mk k u) → k.hasNonAnyInf = false ∧ u.hasNonAnyInf = false ∧
      k.WF false = true ∧ k.SortedKeys = true ∧ u.WF = true) := by
  obtain ⟨hi, hw⟩ := h
  obtain ⟨ia, io⟩ := kind_infAny hi
  simp only [Kind.WF, Bool.and_eq_true] at hw
  constructor
  · intro k u ha; subst ha
    obtain ⟨ik, iu⟩ := col_infAny ia
    have := hw.1
    simp only [OCol.WF, Col.WF, Bool.and_eq_true] at this
    exact ⟨ik, iu, this.1.1, this.1.2, this.2⟩
  · intro k u ho; subst ho
    obtain ⟨ik, iu⟩ := col_infAny io
    have := hw.2
    simp only [OCol.WF, Col.WF, Bool.and_eq_true] at this
    exact ⟨ik, iu, this.1.1, this.1.2, this.2⟩

theorem depth_kindsFrom_le : (xs : VList) → (i j : Nat) → (x : Value) → xs.getN j = some x →
    x.kindOf.depth ≤ (VList.kindsFrom xs i).depth
  | .nil, _, _, _, h => by simp [VList.getN] at h
  | .cons y ys, i, 0, x, h => by
    simp only [VList.getN, Option.some.injEq] at h; subst h
    simp only [VList.kindsFrom, KList.depth]; omega
  | .cons y ys, i, j + 1, x, h => by
    simp only [VList.getN] at h
    have := depth_kindsFrom_le ys (i + 1) j x h
    simp only [VList.kindsFrom, KList.depth]; omega

theorem depth_kindOf_arr (xs : VList) :
    (Value.arr xs).kindOf.depth = (VList.kindsFrom xs 0).depth + 1 := by
  have h0 : (Unknown.ofKind Kind.undefined).depth = 0 := by decide
  simp [Value.kindOf, Kind.ofArray, Kind.depth, OCol.depth, Col.ofKnown, Col.depth, h0]

theorem depth_kindOf_obj (m : VMap) : (Value.obj m).kindOf.depth = (VMap.kinds m).depth + 1 := by
  have h0 : (Unknown.ofKind Kind.undefined).depth = 0 := by decide
  simp [Value.kindOf, Kind.ofObject, Kind.depth, OCol.depth, Col.ofKnown, Col.depth, h0]

theorem key_eq_ofIdx {key : Key} (h : key.isIdx = true) : key = Key.ofIdx key.idx := by
  unfold Key.isIdx at h
  split at h
  · rfl
  · cases h

theorem slot_superset (n : Nat) (isArr : Bool) (k1 : KList) (u1 : Unknown) (key : Key) (x : Value)
    (ik : k1.hasNonAnyInf = false) (iu : u1.hasNonAnyInf = false) (wk : k1.WF isArr = true)
    (wu : u1.WF = true) (hx : mem x (slotKind (.mk k1 u1) key) = true)
    (ih : ∀ K, mem x K = true → Good K → Kind.isSupersetF n K x.kindOf = true) :
    (match k1.get key with
     | some sk => Kind.isSupersetF n sk x.kindOf
     | none => Kind.isSupersetF n u1.toKind x.kindOf) = true := by
  rw [slotKind_mk] at hx
  cases hk : k1.get key with
  | some sK =>
    rw [hk] at hx
    exact ih sK hx ⟨KList.infAny_get k1 _ sK ik hk, (KList.wf_get isArr k1 _ sK wk hk).1⟩
  | none =>
    rw [hk] at hx
    exact ih u1.toKind (by rw [mem_unknown_toKind]; exact hx) ⟨Unknown.infAny_toKind u1 iu, Unknown.wf_toKind u1 wu⟩

mutual
  /-- **membership implies the subtype test**, with fuel above the depth of `Kind::from(v)`:
      `is_superset` spends one level per kind, `depth` counts one per collection, so a container has
      `n = n' + 2`: one level for itself, `n' + 1` (a scalar needs one) for its elements. -/
  theorem superset_of_mem : (v : Value) → (n : Nat) → (K : Kind) → v.kindOf.depth + 1 ≤ n →
      mem v K = true → Good K → Kind.isSupersetF n K v.kindOf = true
    | .null, n + 1, .mk p a o, _, h, _ => by
      rw [Value.kindOf, Kind.null, isSupersetF_flat]; simp [Prim.sup, show p.null = true from h]
    | .bool _, n + 1, .mk p a o, _, h, _ => by
      rw [Value.kindOf, Kind.boolean, isSupersetF_flat]; simp [Prim.sup, show p.boolean = true from h]
    | .int _, n + 1, .mk p a o, _, h, _ => by
      rw [Value.kindOf, Kind.integer, isSupersetF_flat]; simp [Prim.sup, show p.integer = true from h]
    | .float _, n + 1, .mk p a o, _, h, _ => by
      rw [Value.kindOf, Kind.float, isSupersetF_flat]; simp [Prim.sup, show p.float = true from h]
    | .bytes _, n + 1, .mk p a o, _, h, _ => by
      rw [Value.kindOf, Kind.bytes, isSupersetF_flat]; simp [Prim.sup, show p.bytes = true from h]
    | .ts _, n + 1, .mk p a o, _, h, _ => by
      rw [Value.kindOf, Kind.timestamp, isSupersetF_flat]; simp [Prim.sup, show p.timestamp = true from h]
    | .regex _, n + 1, .mk p a o, _, h, _ => by
      rw [Value.kindOf, Kind.regex, isSupersetF_flat]; simp [Prim.sup, show p.regex = true from h]
    | .arr xs, n, .mk p a o, hn, h, hg => by
      rw [mem_arr_mk] at h
      rw [depth_kindOf_arr] at hn
      obtain ⟨n', rfl⟩ : ∃ n', n = n' + 2 := ⟨n - 2, by omega⟩
      match a, h with
      | .some (.mk k1 u1), h =>
        simp only [Bool.and_eq_true] at h
        obtain ⟨ik, iu, wk, sk, wu⟩ := (good_col hg).1 k1 u1 rfl
        have e3 := col_superset_kinds n' k1 (VList.kindsFrom xs 0) u1 iu sk
          (kinds_all_list xs 0 (n' + 1) k1 u1 (fun j x hj => by
            have := depth_kindsFrom_le xs 0 j x hj; omega) h.1 ik iu wk wu)
          (fun key sK hk hc => by
            -- an index key of `K` below the length would be among the value's keys
            refine (absentIdxOk_iff xs.length k1).mp h.2 key sK hk (Nat.le_of_not_lt fun hl => ?_)
            obtain ⟨x, hx⟩ := getN_some_of_lt xs key.idx hl
            have hg2 := kindsFrom_get xs 0 key.idx
            rw [Nat.zero_add, hx, ← key_eq_ofIdx ((KList.wf_get true k1 key sK wk hk).2 rfl)] at hg2
            simp [KList.contains, hg2] at hc)
        simp only [Value.kindOf, Kind.ofArray, Kind.isSupersetF, OCol.isSupersetWith, e3, Bool.and_true]
        cases o <;> simp [Prim.sup]
    | .obj m, n, .mk p a o, hn, h, hg => by
      rw [mem_obj_mk] at h
      rw [depth_kindOf_obj] at hn
      obtain ⟨n', rfl⟩ : ∃ n', n = n' + 2 := ⟨n - 2, by omega⟩
      match o, h with
      | .some (.mk k1 u1), h =>
        simp only [Bool.and_eq_true] at h
        obtain ⟨ik, iu, wk, sk, wu⟩ := (good_col hg).2 k1 u1 rfl
        have e3 := col_superset_kinds n' k1 (VMap.kinds m) u1 iu sk
          (kinds_all_map m (n' + 1) k1 u1 (by omega) h.1 ik iu wk wu)
          (fun key sK hk hc => by
            refine (absentKeysOk_iff m k1).mp h.2 key sK hk ?_
            cases hm : m.get key with
            | none => rfl
            | some x => simp [KList.contains, kinds_get m key, hm] at hc)
        simp only [Value.kindOf, Kind.ofObject, Kind.isSupersetF, OCol.isSupersetWith, e3, Bool.and_true]
        cases a <;> simp [Prim.sup]
  theorem kinds_all_list : (xs : VList) → (i n : Nat) → (k1 : KList) → (u1 : Unknown) →
      (∀ j x, xs.getN j = some x → x.kindOf.depth + 1 ≤ n) → memList xs i (.mk k1 u1) = true →
      k1.hasNonAnyInf = false → u1.hasNonAnyInf = false → k1.WF true = true → u1.WF = true →
      (VList.kindsFrom xs i).all (fun key ok =>
        match k1.get key with
        | some sk => Kind.isSupersetF n sk ok
        | none => Kind.isSupersetF n u1.toKind ok) = true
    | .nil, _, _, _, _, _, _, _, _, _, _ => rfl
    | .cons x xs, i, n, k1, u1, hd, hm, ik, iu, wk, wu => by
      simp only [memList, Bool.and_eq_true] at hm
      simp only [VList.kindsFrom, KList.all, Bool.and_eq_true]
      exact ⟨slot_superset n true k1 u1 _ x ik iu wk wu hm.1 fun K => superset_of_mem x n K (hd 0 x rfl),
        kinds_all_list xs (i + 1) n k1 u1 (fun j y hj => hd (j + 1) y (by simpa [VList.getN] using hj))
          hm.2 ik iu wk wu⟩
  theorem kinds_all_map : (m : VMap) → (n : Nat) → (k1 : KList) → (u1 : Unknown) →
      (VMap.kinds m).depth + 1 ≤ n → memMap m (.mk k1 u1) = true →
      k1.hasNonAnyInf = false → u1.hasNonAnyInf = false → k1.WF false = true → u1.WF = true →
      (VMap.kinds m).all (fun key ok =>
        match k1.get key with
        | some sk => Kind.isSupersetF n sk ok
        | none => Kind.isSupersetF n u1.toKind ok) = true
    | .nil, _, _, _, _, _, _, _, _, _ => rfl
    | .cons k x m, n, k1, u1, hd, hm, ik, iu, wk, wu => by
      simp only [memMap, Bool.and_eq_true] at hm
      simp only [VMap.kinds, KList.depth] at hd
      simp only [VMap.kinds, KList.all, Bool.and_eq_true]
      exact ⟨slot_superset n false k1 u1 k x ik iu wk wu hm.1 fun K => superset_of_mem x n K (by omega),
        kinds_all_map m n k1 u1 (by omega) hm.2 ik iu wk wu⟩
end

end Spec
