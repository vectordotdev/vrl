import VrlProofs.Lemmas.KindMem
import VrlProofs.Lemmas.C18
import VrlModel.C19

/-! One segment of `Kind::at_path`: field lookup, non-negative indices and negative indices into array
    kinds of exactly known length are sound; `upgrade_undefined` turns the kind of a location into
    the kind of what a read yields. A location is an optional value (`none` = absent), described by
    `memOpt`. -/

namespace Kind

theorem isExact_false_of_two (K : Kind)
    (h : (K.hasObj = true ∧ K.hasArr = true) ∨
      (K.prim.isEmpty = false ∧ (K.hasObj = true ∨ K.hasArr = true))) : K.isExact = false := by
  obtain ⟨p, a, o⟩ := K
  simp only [isExact, isBytes, isInteger, isFloat, isBoolean, isTimestamp, isRegex, isNull,
    isUndefined, isArray, isObject, isNever, onlyPrim, prim] at h ⊢
  cases a <;> cases o <;> simp [hasObj, hasArr] at h ⊢ <;> simp [h]

theorem prim_isEmpty_false_of_undefined (p : Prim) (h : p.undefined = true) : p.isEmpty = false := by
  simp [Prim.isEmpty, h]

theorem hasObj_of_object {K : Kind} {c : Col} (h : K.object = some c) : K.hasObj = true := by
  cases K with
  | mk p a o => cases o <;> simp [object] at h ⊢ <;> rfl

theorem hasArr_of_array {K : Kind} {c : Col} (h : K.array = some c) : K.hasArr = true := by
  cases K with
  | mk p a o => cases a <;> simp [array] at h ⊢ <;> rfl

theorem eq_of_array {K : Kind} {col : Col} (h : K.array = some col) :
    ∃ p o, K = .mk p (.some col) o := by
  obtain ⟨p, a, o⟩ := K
  cases a <;> simp only [array, Option.some.injEq] at h
  · cases h
  · exact ⟨p, o, by rw [h]⟩

theorem eq_of_object {K : Kind} {col : Col} (h : K.object = some col) :
    ∃ p a, K = .mk p a (.some col) := by
  obtain ⟨p, a, o⟩ := K
  cases o <;> simp only [object, Option.some.injEq] at h
  · cases h
  · exact ⟨p, a, by rw [h]⟩

theorem object_none_of_hasObj_false {K : Kind} (h : K.hasObj = false) : K.object = none := by
  cases K with
  | mk p a o => cases o <;> simp [hasObj] at h ⊢ <;> rfl

theorem array_none_of_hasArr_false {K : Kind} (h : K.hasArr = false) : K.array = none := by
  cases K with
  | mk p a o => cases a <;> simp [hasArr] at h ⊢ <;> rfl

theorem undefined_getSeg_undefined : (s : Seg) → Kind.undefined.getSeg s = Kind.undefined
  | .field _ => rfl
  | .index _ => rfl

theorem atPath_undefined : (p : Path) → Kind.undefined.atPath p = Kind.undefined
  | [] => rfl
  | s :: rest => by
    simp only [atPath, undefined_getSeg_undefined]
    rw [show Kind.undefined.isNever = false from rfl]
    simpa using atPath_undefined rest

/-- what `get_field` and the index lookup of `get_recursive` answer from a collection. -/
def lookup (K : Kind) (col : Col) (q : Key) : Kind :=
  if !K.isExact then (col.loc q).orUndefined else col.loc q

theorem getField_eq (K : Kind) (f : Key) :
    K.getField f = (match K.object with | none => Kind.undefined | some col => K.lookup col f) := rfl

theorem getIndexPos_eq (K : Kind) (col : Col) (j : Nat) :
    K.getIndexPos col j = K.lookup col (Key.ofIdx j) := rfl

end Kind

namespace Spec

theorem mem_obj_hasObj (m : VMap) (K : Kind) (h : mem (.obj m) K = true) : K.hasObj = true := by
  simp only [mem, Bool.and_eq_true] at h; exact h.1.1

theorem mem_arr_hasArr (a : VList) (K : Kind) (h : mem (.arr a) K = true) : K.hasArr = true := by
  simp only [mem, Bool.and_eq_true] at h; exact h.1.1

theorem mem_state (v : Value) (K : Kind) (h : mem v K = true) :
    (∃ m, v = .obj m ∧ K.hasObj = true) ∨ (∃ a, v = .arr a ∧ K.hasArr = true) ∨
    K.prim.isEmpty = false := by
  cases v with
  | obj m => exact .inl ⟨m, rfl, mem_obj_hasObj m K h⟩
  | arr a => exact .inr (.inl ⟨a, rfl, mem_arr_hasArr a K h⟩)
  | _ => refine .inr (.inr ?_); simp only [mem] at h; simp [Prim.isEmpty, h]

theorem prim_nonempty_of_mem_scalar (v : Value) (K : Kind) (h : mem v K = true)
    (ha : ∀ xs, v ≠ .arr xs) (ho : ∀ m, v ≠ .obj m) : K.prim.isEmpty = false :=
  ((mem_state v K h).resolve_left fun ⟨m, e, _⟩ => ho m e).resolve_left fun ⟨a, e, _⟩ => ha a e

theorem memOpt_state (c : Option Value) (K : Kind) (h : memOpt c K = true) :
    (∃ m, c = some (.obj m) ∧ K.hasObj = true) ∨ (∃ a, c = some (.arr a) ∧ K.hasArr = true) ∨
    K.prim.isEmpty = false := by
  cases c with
  | none => exact .inr (.inr (Kind.prim_isEmpty_false_of_undefined _ h))
  | some v =>
    exact (mem_state v K h).imp (fun ⟨m, e, hO⟩ => ⟨m, by rw [e], hO⟩)
      (Or.imp_left fun ⟨a, e, hA⟩ => ⟨a, by rw [e], hA⟩)

theorem memOpt_not_never (c : Option Value) (K : Kind) (h : memOpt c K = true) : K.isNever = false := by
  have hs : K.hasObj = true ∨ K.hasArr = true ∨ K.prim.isEmpty = false :=
    (memOpt_state c K h).imp (fun ⟨_, _, h⟩ => h) (Or.imp_left fun ⟨_, _, h⟩ => h)
  obtain ⟨p, a, o⟩ := K
  cases a <;> cases o <;> first | rfl | simpa [Kind.hasObj, Kind.hasArr, Kind.isNever, Kind.prim] using hs

theorem not_never_of_mem (v : Value) (K : Kind) (h : mem v K = true) : K.isNever = false :=
  memOpt_not_never (some v) K h

theorem not_exact_of_not_obj (c : Option Value) (K : Kind) (h : memOpt c K = true)
    (hO : K.hasObj = true) (hv : ¬ ∃ m, c = some (.obj m)) : K.isExact = false := by
  apply Kind.isExact_false_of_two K
  rcases memOpt_state c K h with ⟨m, hm, _⟩ | ⟨a, _, ha⟩ | hp
  · exact absurd ⟨m, hm⟩ hv
  · exact .inl ⟨hO, ha⟩
  · exact .inr ⟨hp, .inl hO⟩

theorem not_exact_of_not_arr (c : Option Value) (K : Kind) (h : memOpt c K = true)
    (hA : K.hasArr = true) (hv : ¬ ∃ a, c = some (.arr a)) : K.isExact = false := by
  apply Kind.isExact_false_of_two K
  rcases memOpt_state c K h with ⟨m, _, hm⟩ | ⟨a, ha, _⟩ | hp
  · exact .inl ⟨hm, hA⟩
  · exact absurd ⟨a, ha⟩ hv
  · exact .inr ⟨hp, .inr hA⟩

open Value (child optSorted)

theorem asMap_non_obj (c : Option Value) (h : ¬ ∃ m, c = some (.obj m)) : Value.asMap c = .nil := by
  cases c with
  | none => rfl
  | some v => cases v <;> first | rfl | (exact absurd ⟨_, rfl⟩ h)

theorem asList_non_arr (c : Option Value) (h : ¬ ∃ a, c = some (.arr a)) : Value.asList c = .nil := by
  cases c with
  | none => rfl
  | some v => cases v <;> first | rfl | (exact absurd ⟨_, rfl⟩ h)

theorem child_field_of_not_obj (c : Option Value) (f : Key) (hv : ¬ ∃ m, c = some (.obj m)) :
    child c (.field f) = none := by
  show (Value.asMap c).get f = none
  rw [asMap_non_obj c hv]; rfl

theorem child_index_of_not_arr (c : Option Value) (i : Int) (hv : ¬ ∃ a, c = some (.arr a)) :
    child c (.index i) = none := by
  show (Value.asList c).getIdx i = none
  rw [asList_non_arr c hv, VList.getIdx_nil]

theorem getN_none_length : (a : VList) → (n : Nat) → a.getN n = none → a.length ≤ n
  | .nil, _, _ => by simp [VList.length]
  | .cons _ _, 0, h => by simp [VList.getN] at h
  | .cons _ xs, n + 1, h => by
    simp only [VList.getN] at h
    have := getN_none_length xs n h
    simp only [VList.length]; omega

theorem memOpt_orUndefined (g : Option Value) (k : Kind) (h : memOpt g k = true ∨ g = none) :
    memOpt g k.orUndefined = true := by
  cases g with
  | some x => rw [memOpt, mem_orUndefined]; exact h.resolve_right nofun
  | none => exact orUndefined_undefined k

theorem ArrFits.at {xs : VList} {c : Col} (h : ArrFits xs c) (j : Nat) :
    memOpt (xs.getN j) (c.loc (Key.ofIdx j)) = true := by
  cases hj : xs.getN j with
  | some x => exact h.1 j x hj
  | none => exact h.2 _ (getN_none_length xs j hj)

theorem lookup_sound (K : Kind) (col : Col) (q : Key) (g : Option Value)
    (h : memOpt g (col.loc q) = true ∨ (K.isExact = false ∧ g = none)) :
    memOpt g (K.lookup col q) = true := by
  unfold Kind.lookup
  rcases h with h | ⟨hne, hg⟩
  · split
    · exact memOpt_orUndefined g _ (.inl h)
    · exact h
  · simp only [hne, Bool.not_false, if_true]
    exact memOpt_orUndefined g _ (.inr hg)

theorem getField_sound (c : Option Value) (K : Kind) (f : Key) (hs : optSorted c = true)
    (h : memOpt c K = true) : memOpt (child c (.field f)) (K.getField f) = true := by
  rw [Kind.getField_eq]
  cases hobj : K.object with
  | none =>
    -- the kind has no object state: the value is not an object, the read is absent
    rw [child_field_of_not_obj c f]
    · rfl
    · rintro ⟨m, rfl⟩
      obtain ⟨_, hc, _⟩ := (mem_obj_fits m K (VMap.sortedKeys_of_sorted m hs)).mp h
      rw [hobj] at hc; cases hc
  | some col =>
    apply lookup_sound
    by_cases hv : ∃ m, c = some (.obj m)
    · obtain ⟨m, rfl⟩ := hv
      obtain ⟨col', hc, hfit⟩ := (mem_obj_fits m K (VMap.sortedKeys_of_sorted m hs)).mp h
      rw [hobj] at hc; cases hc
      exact .inl (hfit f)
    · exact .inr ⟨not_exact_of_not_obj c K h (Kind.hasObj_of_object hobj) hv, child_field_of_not_obj c f hv⟩

theorem getIndexPos_sound (c : Option Value) (K : Kind) (col : Col) (j : Nat)
    (hK : K.array = some col) (h : memOpt c K = true) :
    memOpt ((Value.asList c).getN j) (K.getIndexPos col j) = true := by
  rw [Kind.getIndexPos_eq]
  apply lookup_sound
  by_cases hv : ∃ a, c = some (.arr a)
  · obtain ⟨a, rfl⟩ := hv
    obtain ⟨col', hc, hfit⟩ := (mem_arr_fits a K).mp h
    rw [hK] at hc; cases hc
    exact .inl (hfit.at j)
  · exact .inr ⟨not_exact_of_not_arr c K h (Kind.hasArr_of_array hK) hv, by rw [asList_non_arr c hv]; rfl⟩

theorem getIdx_nonneg (a : VList) (i : Int) (hi : 0 ≤ i) : a.getIdx i = a.getN i.toNat := by
  simp [VList.getIdx, VList.arrayIndex, hi]

theorem getIndex_noArray (c : Option Value) (K : Kind) (i : Int) (hK : K.array = none)
    (h : memOpt c K = true) : memOpt (child c (.index i)) (K.getIndex i) = true := by
  unfold Kind.getIndex
  rw [hK, child_index_of_not_arr c i]
  · rfl
  · rintro ⟨a, rfl⟩
    obtain ⟨_, hc, _⟩ := (mem_arr_fits a K).mp h
    rw [hK] at hc; cases hc

theorem getIndex_nonneg (K : Kind) (col : Col) (i : Int) (hi : 0 ≤ i) (hK : K.array = some col) :
    K.getIndex i = K.getIndexPos col i.toNat := by
  unfold Kind.getIndex
  rw [hK]
  simp [Int.not_lt.mpr hi]

theorem getIndex_sound_nonneg (c : Option Value) (K : Kind) (i : Int) (hi : 0 ≤ i)
    (h : memOpt c K = true) : memOpt (child c (.index i)) (K.getIndex i) = true := by
  cases hK : K.array with
  | none => exact getIndex_noArray c K i hK h
  | some col =>
    rw [getIndex_nonneg K col i hi hK, show child c (.index i) = (Value.asList c).getN i.toNat from getIdx_nonneg _ i hi]
    exact getIndexPos_sound c K col i.toNat hK h

end Spec

namespace KList

/-- the accumulator function of `largestKey`. -/
def maxStep (acc : Option Nat) (k : Key) (_ : Kind) : Option Nat :=
  match acc with
  | none => some k.idx
  | some m => some (max m k.idx)

theorem foldl_maxStep_ge : (m : KList) → (acc : Option Nat) →
    (∀ a, acc = some a → ∃ r, m.foldl maxStep acc = some r ∧ a ≤ r) ∧
    (∀ k, k ∈ m.keys → ∃ r, m.foldl maxStep acc = some r ∧ k.idx ≤ r)
  | .nil, acc => by
    constructor
    · intro a h; exact ⟨a, by simp [foldl, h], Nat.le_refl _⟩
    · intro k h; simp [keys] at h
  | .cons k v m, acc => by
    have ih := foldl_maxStep_ge m (maxStep acc k v)
    constructor
    · intro a h
      subst h
      obtain ⟨r, hr, hle⟩ := ih.1 (max a k.idx) rfl
      exact ⟨r, hr, Nat.le_trans (Nat.le_max_left ..) hle⟩
    · intro q hq
      simp only [keys, List.mem_cons] at hq
      rcases hq with rfl | hq
      · cases acc with
        | none =>
          obtain ⟨r, hr, hle⟩ := ih.1 q.idx rfl
          exact ⟨r, hr, hle⟩
        | some a =>
          obtain ⟨r, hr, hle⟩ := ih.1 (max a q.idx) rfl
          exact ⟨r, hr, Nat.le_trans (Nat.le_max_right ..) hle⟩
      · exact ih.2 q hq

theorem foldl_maxStep_attained : (m : KList) → (acc : Option Nat) → (r : Nat) →
    m.foldl maxStep acc = some r → acc = some r ∨ ∃ k, k ∈ m.keys ∧ k.idx = r
  | .nil, acc, r, h => by simp [foldl] at h; exact Or.inl h
  | .cons k v m, acc, r, h => by
    simp only [foldl] at h
    rcases foldl_maxStep_attained m _ r h with h1 | ⟨q, hq, hr⟩
    · cases acc with
      | none =>
        simp [maxStep] at h1
        exact Or.inr ⟨k, by simp [keys], h1⟩
      | some a =>
        simp only [maxStep, Option.some.injEq] at h1
        by_cases hak : a ≤ k.idx
        · exact Or.inr ⟨k, by simp [keys], by rw [← h1, Nat.max_eq_right hak]⟩
        · exact Or.inl (by rw [← h1, Nat.max_eq_left (Nat.le_of_not_le hak)])
    · exact Or.inr ⟨q, by simp [keys, hq], hr⟩

end KList

namespace Spec
open Value (child optSorted)

theorem keyLength_gt (c : Col) (k : Key) (h : k ∈ c.known.keys) : k.idx < c.keyLength := by
  obtain ⟨r, hr, hle⟩ := (KList.foldl_maxStep_ge c.known none).2 k h
  have : c.largestKey = some r := hr
  simp only [Col.keyLength, this]; omega

theorem keyLength_attained (c : Col) :
    c.keyLength = 0 ∨ ∃ k, k ∈ c.known.keys ∧ c.keyLength = k.idx + 1 := by
  unfold Col.keyLength
  cases hf : c.largestKey with
  | none => exact .inl rfl
  | some r =>
    rcases KList.foldl_maxStep_attained c.known none r hf with h1 | ⟨k, hk, hkr⟩
    · cases h1
    · exact .inr ⟨k, hk, by simp [hkr]⟩

theorem mem_false_of_isUndefined (x : Value) (K : Kind) (h : K.isUndefined = true) : mem x K = false := by
  cases K with
  | mk p a o =>
    simp only [Kind.isUndefined, Kind.onlyPrim, Kind.prim, Prim.isEmpty, Kind.hasArr, Kind.hasObj,
      Bool.and_eq_true, Bool.not_eq_true', Bool.or_eq_false_iff] at h
    cases a <;> cases o <;> simp at h
    cases x <;> simp [mem, Kind.prim, Kind.hasArr, Kind.hasObj, h]

theorem getN_some_of_lt : (a : VList) → (n : Nat) → n < a.length → ∃ x, a.getN n = some x
  | .nil, _, h => by simp [VList.length] at h
  | .cons x _, 0, _ => ⟨x, rfl⟩
  | .cons _ xs, n + 1, h => by
    simp only [VList.length] at h
    exact getN_some_of_lt xs n (by omega)

theorem known_idx_lt_length (a : VList) (col : Col)
    (habs : ∀ k K', col.known.get k = some K' → a.length ≤ k.idx → K'.prim.undefined = true)
    (hopt : col.known.any (fun _ v => v.prim.undefined) = false) (k : Key) (K' : Kind)
    (hk : col.known.get k = some K') : k.idx < a.length := by
  apply Nat.lt_of_not_le
  intro hl
  have := KList.any_false _ col.known hopt k K' hk
  rw [habs k K' hk hl] at this; cases this

theorem keyLength_le_length (a : VList) (K : Kind) (col : Col) (hK : K.array = some col)
    (h : mem (.arr a) K = true)
    (hopt : col.known.any (fun _ v => v.prim.undefined) = false) : col.keyLength ≤ a.length := by
  obtain ⟨col', hc, _, habs⟩ := (mem_arr_iff a K).mp h
  rw [hK] at hc; cases hc
  rcases keyLength_attained col with h0 | ⟨k, hk, hkl⟩
  · omega
  · cases hg : col.known.get k with
    | none => have := KList.get_isSome_of_mem_keys col.known k hk; simp [hg] at this
    | some K' => have := known_idx_lt_length a col habs hopt k K' hg; omega

/-- the length of a member of an array kind with no unknown elements and no optional known index
    is the length the kind computes (`largest key + 1`). -/
theorem length_eq_keyLength (a : VList) (K : Kind) (col : Col) (hK : K.array = some col)
    (h : mem (.arr a) K = true)
    (hopt : col.known.any (fun _ v => v.prim.undefined) = false)
    (hunk : col.unknownKind.containsAnyDefined = false) :
    a.length = col.keyLength := by
  apply Nat.le_antisymm _ (keyLength_le_length a K col hK h hopt)
  obtain ⟨col', hc, hfit, _⟩ := (mem_arr_fits a K).mp h
  rw [hK] at hc; cases hc
  cases hl : a.length with
  | zero => omega
  | succ n =>
    -- the last element sits at a known key, the unknown kind having no member
    obtain ⟨x, hx⟩ := getN_some_of_lt a n (by omega)
    have hxm := hfit n x hx
    have hknown : (col.known.get (Key.ofIdx n)).isSome = true := by
      cases hg : col.known.get (Key.ofIdx n) with
      | some _ => rfl
      | none =>
        rw [loc_of_none hg, mem_false_of_isUndefined x _
          (by simpa [Kind.containsAnyDefined, Col.unknownKind] using hunk)] at hxm
        cases hxm
    exact keyLength_gt col _ ((KList.contains_iff _ _).mp hknown)

theorem child_index_neg_arr (a : VList) (i : Int) (hi : i < 0) :
    child (some (.arr a)) (.index i) =
      if 0 ≤ (a.length : Int) + i then a.getN ((a.length : Int) + i).toNat else none := by
  show a.getIdx i = _
  simp only [VList.getIdx, VList.arrayIndex, Int.not_le.mpr hi, ge_iff_le, if_false]
  by_cases h0 : 0 ≤ (a.length : Int) + i <;> simp [h0]

theorem getIndex_neg_exact (K : Kind) (col : Col) (i : Int) (hi : i < 0) (hK : K.array = some col)
    (hunk : col.unknownKind.containsAnyDefined = false) :
    K.getIndex i =
      if col.keyLength ≥ (-i).toNat then K.getIndexPos col ((i + (col.keyLength : Int)).toNat)
      else Kind.undefined := by
  unfold Kind.getIndex
  rw [hK]
  simp only [hi, if_true, hunk, Bool.false_eq_true, if_false]

theorem getIndex_sound_negExact (c : Option Value) (K : Kind) (col : Col) (i : Int) (hi : i < 0)
    (hK : K.array = some col) (h : memOpt c K = true)
    (hopt : col.known.any (fun _ v => v.prim.undefined) = false)
    (hunk : col.unknownKind.containsAnyDefined = false) :
    memOpt (child c (.index i)) (K.getIndex i) = true := by
  rw [getIndex_neg_exact K col i hi hK hunk]
  by_cases hv : ∃ a, c = some (.arr a)
  · obtain ⟨a, rfl⟩ := hv
    rw [← length_eq_keyLength a K col hK h hopt hunk, child_index_neg_arr a i hi]
    by_cases hge : a.length ≥ (-i).toNat
    · rw [if_pos hge, if_pos (by omega), show (i + (a.length : Int)) = (a.length : Int) + i by omega]
      exact getIndexPos_sound (some (.arr a)) K col _ hK h
    · rw [if_neg hge, if_neg (by omega)]
      rfl
  · rw [child_index_of_not_arr c i hv]
    split
    · have := getIndexPos_sound c K col ((i + (col.keyLength : Int)).toNat) hK h
      rwa [asList_non_arr c hv] at this
    · rfl

theorem mem_orNull_of_mem (w : Value) (k : Kind) (h : mem w k = true) : mem w k.orNull = true := by
  obtain ⟨p, a, o⟩ := k
  exact mem_mono (by simp [Prim.sup]) (OColSub.refl a) (OColSub.refl o) w h

/-- `upgrade_undefined` of a location kind contains what a read yields at run time
    (`null` for an absent location). -/
theorem mem_upgradeUndefined (g : Option Value) (A : Kind) (h : memOpt g A = true) :
    mem (g.getD .null) A.upgradeUndefined = true := by
  have hn := memOpt_not_never g A h
  unfold Kind.upgradeUndefined
  rw [hn]
  simp only [Bool.false_eq_true, if_false]
  cases g with
  | some w =>
    simp only [memOpt, Option.getD_some] at h ⊢
    split
    · exact mem_orNull_of_mem w _ (by rw [mem_withoutUndefined]; exact h)
    · exact h
  | none =>
    simp only [memOpt] at h
    simp only [Option.getD_none, Kind.containsUndefined, h, Bool.true_or, if_true]
    cases A with
    | mk p a o => simp [mem, Kind.orNull, Kind.withoutUndefined, Kind.prim]

theorem mem_upgradeUndefined_of_mem (x : Value) (X : Kind) (h : mem x X = true) :
    mem x X.upgradeUndefined = true := by
  have := mem_upgradeUndefined (some x) X h
  simpa using this

end Spec
