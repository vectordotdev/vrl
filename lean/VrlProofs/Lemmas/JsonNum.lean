/-
  Lemmas about the number tokens of `VrlModel.Json`: the lexer reads back what `NumTok.render`
  writes, and the integer text round-trips.
-/
import VrlModel.Json
import VrlProofs.Lemmas.Digits

namespace Json
open Digits

def headIn (p : Nat → Bool) : List Nat → Bool
  | [] => false
  | c :: _ => p c

theorem headIn_append (p : Nat → Bool) (a b : List Nat) (h : headIn p a = true) :
    headIn p (a ++ b) = true := by
  cases a with
  | nil => cases h
  | cons c r => exact h

theorem length_pos_of_headIn (p : Nat → Bool) (a : List Nat) (h : headIn p a = true) : 1 ≤ a.length := by
  cases a with
  | nil => cases h
  | cons c r => exact Nat.succ_le_succ (Nat.zero_le _)

/-- a byte that would continue a number token: a digit, `.`, `e` or `E` -/
def numCont (c : Nat) : Bool := isDigit c || c == 46 || c == 101 || c == 69

theorem headIn_fracText (p : Nat → Bool) (h46 : p 46 = false) (frac : Option (List Nat)) (X : List Nat)
    (hX : headIn p X = false) : headIn p (fracText frac ++ X) = false := by
  cases frac with
  | none => exact hX
  | some fs => exact h46

theorem headIn_expText (p : Nat → Bool) (h101 : p 101 = false) (h69 : p 69 = false)
    (exp : Option (List Nat × List Nat)) (hw : wfExp exp = true) (X : List Nat)
    (hX : headIn p X = false) : headIn p (expText exp ++ X) = false := by
  match exp with
  | none => exact hX
  | some (pre, es) =>
    simp only [wfExp, Bool.and_eq_true, expPrefixes, List.contains_cons, List.contains_nil,
      Bool.or_false, Bool.or_eq_true, beq_iff_eq] at hw
    rcases hw.1.1 with rfl | rfl | rfl | rfl | rfl | rfl
    · exact h101
    · exact h69
    · exact h101
    · exact h101
    · exact h69
    · exact h69

theorem takeDigits_append : (ds rest : List Nat) → allDigits ds = true → headIn isDigit rest = false →
    takeDigits (ds ++ rest) = (ds, rest)
  | [], rest, _, hr => by
    cases rest with
    | nil => rfl
    | cons c r =>
      simp only [headIn] at hr
      simp [takeDigits, hr]
  | c :: ds, rest, hd, hr => by
    simp only [allDigits, Bool.and_eq_true] at hd
    have ih := takeDigits_append ds rest hd.2 hr
    simp [takeDigits, hd.1, ih]

theorem lexInt_append (int rest : List Nat) (hw : wfInt int = true) (hr : headIn isDigit rest = false) :
    lexInt (int ++ rest) = some (int, rest) := by
  cases int with
  | nil => simp [wfInt] at hw
  | cons c r =>
    simp only [wfInt, Bool.or_eq_true, Bool.and_eq_true, beq_iff_eq, decide_eq_true_eq, List.isEmpty_iff] at hw
    rcases hw with ⟨hc, hr0⟩ | ⟨⟨h1, h2⟩, h3⟩
    · subst hc; subst hr0
      cases rest with
      | nil => rfl
      | cons d r' =>
        simp only [headIn] at hr
        simp [lexInt, hr]
    · have hne : c ≠ 48 := by omega
      have ht := takeDigits_append r rest h3 hr
      simp [lexInt, hne, h1, h2, ht]

theorem lexFrac_append (frac : Option (List Nat)) (rest : List Nat) (hw : wfFrac frac = true)
    (hr : headIn isDigit rest = false) (hdot : frac = none → headIn (· == 46) rest = false) :
    lexFrac (fracText frac ++ rest) = some (frac, rest) := by
  cases frac with
  | none =>
    have hd := hdot rfl
    cases rest with
    | nil => rfl
    | cons c r =>
      simp only [headIn, beq_eq_false_iff_ne, ne_eq] at hd
      simp [fracText, lexFrac, hd]
  | some fs =>
    simp only [wfFrac, Bool.and_eq_true, Bool.not_eq_true', List.isEmpty_eq_false_iff] at hw
    have ht := takeDigits_append fs rest hw.2 hr
    cases fs with
    | nil => exact absurd rfl hw.1
    | cons a as =>
      rw [List.cons_append] at ht
      simp [fracText, lexFrac, ht]

theorem lexExpDigits_append (pre es rest : List Nat) (hne : es ≠ []) (hd : allDigits es = true)
    (hr : headIn isDigit rest = false) :
    lexExpDigits pre (es ++ rest) = some (some (pre, es), rest) := by
  have ht := takeDigits_append es rest hd hr
  cases es with
  | nil => exact absurd rfl hne
  | cons a as =>
    rw [List.cons_append] at ht
    simp [lexExpDigits, ht]

theorem lexExp_append (exp : Option (List Nat × List Nat)) (rest : List Nat) (hw : wfExp exp = true)
    (hr : headIn isDigit rest = false)
    (hexp : exp = none → headIn (fun c => c == 101 || c == 69) rest = false) :
    lexExp (expText exp ++ rest) = some (exp, rest) := by
  cases exp with
  | none =>
    have hd := hexp rfl
    cases rest with
    | nil => rfl
    | cons c r =>
      simp only [headIn, Bool.or_eq_false_iff, beq_eq_false_iff_ne, ne_eq] at hd
      simp [expText, lexExp, hd.1, hd.2]
  | some p =>
    obtain ⟨pre, es⟩ := p
    simp only [wfExp, Bool.and_eq_true, Bool.not_eq_true', List.isEmpty_eq_false_iff] at hw
    obtain ⟨⟨hp, hne⟩, hd⟩ := hw
    have hl := fun pre => lexExpDigits_append pre es rest hne hd hr
    cases es with
    | nil => exact absurd rfl hne
    | cons a as =>
      have ha : isDigit a = true := by simp only [allDigits, Bool.and_eq_true] at hd; exact hd.1
      have ha' : a ≠ 43 ∧ a ≠ 45 := by
        simp only [isDigit, Bool.and_eq_true, decide_eq_true_eq] at ha; omega
      simp only [expPrefixes, List.contains_cons, List.contains_nil, Bool.or_false, Bool.or_eq_true,
        beq_iff_eq] at hp
      simp only [List.cons_append] at hl
      rcases hp with h | h | h | h | h | h <;> subst h <;>
        simp [expText, lexExp, hl, ha'.1, ha'.2]

theorem wfInt_allDigits (int : List Nat) (hw : wfInt int = true) : allDigits int = true := by
  cases int with
  | nil => cases hw
  | cons c r =>
    simp only [wfInt, Bool.or_eq_true, Bool.and_eq_true, beq_iff_eq, decide_eq_true_eq, List.isEmpty_iff] at hw
    rcases hw with ⟨rfl, rfl⟩ | ⟨⟨h1, h2⟩, h3⟩
    · rfl
    · simp only [allDigits, isDigit, h3, Bool.and_true, Bool.and_eq_true, decide_eq_true_eq]; omega

theorem wfInt_head (int : List Nat) (hw : wfInt int = true) :
    ∃ c r, int = c :: r ∧ isDigit c = true := by
  have hd := wfInt_allDigits int hw
  cases int with
  | nil => cases hw
  | cons c r => exact ⟨c, r, rfl, (Bool.and_eq_true _ _ ▸ hd).1⟩

theorem lexNum_render (t : NumTok) (rest : List Nat) (hw : t.wf = true) (hr : headIn numCont rest = false) :
    lexNum (t.render ++ rest) = some (t, rest) := by
  obtain ⟨neg, int, frac, exp⟩ := t
  simp only [NumTok.wf, Bool.and_eq_true] at hw
  obtain ⟨⟨hi, hf⟩, he⟩ := hw
  obtain ⟨c, r, hint, hc⟩ := wfInt_head int hi
  have hc45 : c ≠ 45 := by
    simp only [isDigit, Bool.and_eq_true, decide_eq_true_eq] at hc; omega
  have hsign : lexSign (signText neg ++ (int ++ (fracText frac ++ expText exp)) ++ rest)
      = (neg, int ++ (fracText frac ++ (expText exp ++ rest))) := by
    subst hint
    cases neg <;> simp [signText, lexSign, hc45]
  obtain ⟨hnd, hdot, hee⟩ : headIn isDigit rest = false ∧ headIn (· == 46) rest = false ∧
      headIn (fun c => c == 101 || c == 69) rest = false := by
    cases rest with
    | nil => exact ⟨rfl, rfl, rfl⟩
    | cons c r => simpa only [headIn, numCont, Bool.or_eq_false_iff, and_assoc] using hr
  -- each part is followed by the next part, which starts with `.`, `e` or `E`, or by `rest`
  have h3 := lexExp_append exp rest he hnd fun _ => hee
  have hd2 := headIn_expText isDigit rfl rfl exp he rest hnd
  have h2 := lexFrac_append frac (expText exp ++ rest) hf hd2 fun _ =>
    headIn_expText (· == 46) rfl rfl exp he rest hdot
  have h1 := lexInt_append int _ hi (headIn_fracText isDigit rfl frac _ hd2)
  simp only [lexNum, NumTok.render, hsign, h1, h2, h3]

theorem allDigits_append (a b : List Nat) : allDigits (a ++ b) = (allDigits a && allDigits b) := by
  induction a with
  | nil => simp [allDigits]
  | cons c r ih => simp [allDigits, ih, Bool.and_assoc]

theorem digitsVal_snoc (ds : List Nat) (c : Nat) : digitsVal (ds ++ [c]) = digitsVal ds * 10 + (c - 48) := by
  simp [digitsVal, List.foldl_append]

theorem allDigits_ascii : (ds : List Nat) → allDigits ds = true → ∀ c ∈ ds, c < 128
  | [], _, c, hc => by simp at hc
  | d :: ds, h, c, hc => by
    simp only [allDigits, Bool.and_eq_true, isDigit, decide_eq_true_eq] at h
    simp only [List.mem_cons] at hc
    rcases hc with rfl | hc
    · omega
    · exact allDigits_ascii ds h.2 c hc

theorem render_ascii (t : NumTok) (hw : t.wf = true) : ∀ c ∈ t.render, c < 128 := by
  obtain ⟨neg, int, frac, exp⟩ := t
  simp only [NumTok.wf, Bool.and_eq_true] at hw
  obtain ⟨⟨hi, hf⟩, he⟩ := hw
  simp only [NumTok.render, List.forall_mem_append]
  refine ⟨?_, allDigits_ascii int (wfInt_allDigits int hi), ?_, ?_⟩
  · cases neg <;> decide
  · match frac with
    | none => exact fun _ h => nomatch h
    | some fs =>
      simp only [wfFrac, Bool.and_eq_true] at hf
      simp only [fracText, List.forall_mem_cons]
      exact ⟨by omega, allDigits_ascii fs hf.2⟩
  · match exp with
    | none => exact fun _ h => nomatch h
    | some (pre, es) =>
      simp only [wfExp, Bool.and_eq_true, List.contains_iff_mem] at he
      simp only [expText, List.forall_mem_append]
      exact ⟨(by decide : ∀ pre ∈ expPrefixes, ∀ c ∈ pre, c < 128) pre he.1.1, allDigits_ascii es he.2⟩

theorem showNatAux_eq : ∀ (f n : Nat) (acc : List Nat), n < f →
    showNatAux f n acc = (toDigits 10 n).map (48 + ·) ++ acc
  | f + 1, n, acc, _ => by
    rw [showNatAux]
    split
    · rename_i h; rw [toDigits_lt h]; rfl
    · rw [showNatAux_eq f _ _ (by omega), toDigits_ge (n := n) (by decide) (by omega),
        List.map_append, List.append_assoc]; rfl

theorem showNat_eq (n : Nat) : showNat n = (toDigits 10 n).map (48 + ·) := by
  rw [showNat, showNatAux_eq _ _ _ (Nat.lt_succ_self n), List.append_nil]

theorem digitsVal_showNat (n : Nat) : digitsVal (showNat n) = n := by
  rw [showNat_eq, digitsVal, ← List.foldl_map]
  exact ofDigits_map_toDigits (by decide) (48 + ·) (· - 48) (fun _ _ => Nat.add_sub_cancel_left 48 _) n

theorem allDigits_map (ds : List Nat) (h : ∀ d ∈ ds, d < 10) : allDigits (ds.map (48 + ·)) = true := by
  induction ds with
  | nil => rfl
  | cons d ds ih =>
    obtain ⟨h1, h2⟩ := List.forall_mem_cons.mp h
    simp only [List.map_cons, allDigits, isDigit, ih h2, Bool.and_true, Bool.and_eq_true, decide_eq_true_eq]
    omega

theorem wfInt_showNat (n : Nat) : wfInt (showNat n) = true := by
  have c := canon_toDigits (b := 10) (by decide) n
  rw [showNat_eq]
  cases hd : toDigits 10 n with
  | nil => exact absurd hd c.ne_nil
  | cons d t =>
    rw [hd] at c
    obtain ⟨h1, h2⟩ := List.forall_mem_cons.mp c.lt
    by_cases h0 : d = 0
    · subst h0
      cases c.zero_cons
      rfl
    · simp only [List.map_cons, wfInt, allDigits_map t h2, Bool.and_true, Bool.or_eq_true,
        Bool.and_eq_true, decide_eq_true_eq]
      omega

theorem intTok_wf (i : Int) : (intTok i).wf = true := by
  simp [NumTok.wf, intTok, wfInt_showNat, wfFrac, wfExp]

/-- an `i64` comes back from its text as the same integer, whatever the float conversion is -/
theorem numOfTok_intTok (parseF : List Nat → Option Nat) (i : Int) (h : i64Ok i = true) :
    numOfTok parseF (intTok i) = some (Num.int i) := by
  simp only [i64Ok, Bool.and_eq_true, decide_eq_true_eq] at h
  simp only [numOfTok, intTok, NumTok.isFloat, Option.isSome_none, Bool.or_self, Bool.false_eq_true,
    ↓reduceIte, digitsVal_showNat, i64Max]
  by_cases hneg : i < 0
  · have h1 : 0 < i.natAbs ∧ i.natAbs ≤ 9223372036854775807 + 1 := by omega
    have h2 : -(i.natAbs : Int) = i := by omega
    simp [hneg, h1, h2]
  · have h1 : i.natAbs ≤ 9223372036854775807 := by omega
    have h2 : (i.natAbs : Int) = i := by omega
    simp [hneg, h1, h2]

end Json
