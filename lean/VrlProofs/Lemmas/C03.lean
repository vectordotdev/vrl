/-
  Lemmas for C03: the kind states (`Tag`) behind masks and kinds, argument checking of a call
  (`checkArgs`) vs. run-time values, membership in the kinds the type_defs build (`anyArray`,
  `anyObject`, `restrictArray`, …).
-/
import VrlModel.C03
import VrlProofs.Props.C19

namespace C03
open Spec

def Tag.bit : Tag → Nat
  | .bytes => 2 | .integer => 4 | .float => 8 | .boolean => 16 | .object => 32 | .array => 64
  | .timestamp => 128 | .regex => 256 | .null => 512

theorem kindBit_eq (v : Value) : kindBit v = (tagOf v).bit := by cases v <;> rfl

def Tag.isNum : Tag → Bool
  | .integer => true
  | .float => true
  | _ => false

theorem tag_bytes : {v : Value} → tagOf v = .bytes → ∃ b, v = .bytes b
  | .bytes b, _ => ⟨b, rfl⟩
theorem tag_int : {v : Value} → tagOf v = .integer → ∃ i, v = .int i
  | .int i, _ => ⟨i, rfl⟩
theorem tag_float : {v : Value} → tagOf v = .float → ∃ f, v = .float f
  | .float f, _ => ⟨f, rfl⟩
theorem tag_bool : {v : Value} → tagOf v = .boolean → ∃ b, v = .bool b
  | .bool b, _ => ⟨b, rfl⟩
theorem tag_regex : {v : Value} → tagOf v = .regex → ∃ p, v = .regex p
  | .regex p, _ => ⟨p, rfl⟩

theorem tag_array : {v : Value} → tagOf v = .array → ∃ xs, v = .arr xs
  | .arr xs, _ => ⟨xs, rfl⟩
theorem tag_object : {v : Value} → tagOf v = .object → ∃ m, v = .obj m
  | .obj m, _ => ⟨m, rfl⟩

/-- for the one-state masks: `mBytes` is `Tag.bytes.bit` by `rfl`, and so on. -/
theorem tag_of_bit {t : Tag} {v : Value} (h : hasBit t.bit (kindBit v) = true) : tagOf v = t := by
  rw [kindBit_eq] at h
  revert h
  cases t <;> cases tagOf v <;> decide

theorem hasBit_of_tag {m : Nat} {v : Value} {t : Tag} (ht : tagOf v = t) (h : hasBit m t.bit = true) :
    hasBit m (kindBit v) = true := by
  rw [kindBit_eq, ht]; exact h

/-- the state of a kind in which the values of tag `t` live: `contains_*` without its `never` clause. -/
def hasTag (k : Kind) : Tag → Bool
  | .bytes => k.prim.bytes | .integer => k.prim.integer | .float => k.prim.float
  | .boolean => k.prim.boolean | .timestamp => k.prim.timestamp | .regex => k.prim.regex
  | .null => k.prim.null | .array => k.hasArr | .object => k.hasObj

theorem mem_hasTag {v : Value} {k : Kind} (h : mem v k = true) : hasTag k (tagOf v) = true := by
  cases v <;> first | exact h | (simp only [mem, Bool.and_eq_true] at h; exact h.1.1)

theorem hasTag_paramKind (m : Nat) (t : Tag) : hasTag (paramKind m) t = hasBit m t.bit := by
  cases t
  case array =>
    show (paramKind m).hasArr = hasBit m 64
    unfold paramKind
    cases hasBit m 64 <;> rfl
  case object =>
    show (paramKind m).hasObj = hasBit m 32
    unfold paramKind
    cases hasBit m 32 <;> rfl
  all_goals rfl

theorem mem_paramKind (m : Nat) (v : Value) (h : mem v (paramKind m) = true) :
    hasBit m (kindBit v) = true := by
  rw [kindBit_eq, ← hasTag_paramKind]; exact mem_hasTag h

/-- all values of every slot are key-sorted (`BTreeMap` invariant of every real `Value`). -/
def SlotsSorted : Slots → Bool
  | [] => true
  | none :: vs => SlotsSorted vs
  | some v :: vs => v.Sorted && SlotsSorted vs

/-- the literal arguments are key-sorted values (what the compiler holds in a `Literal`). -/
def LitsSorted : ASlots → Bool
  | [] => true
  | some (.lit v) :: as => v.Sorted && LitsSorted as
  | _ :: as => LitsSorted as

theorem paramKind_noExactAny (m : Nat) :
    (paramKind m).anyUnknown Unknown.exactIsAny = false := by
  unfold paramKind
  cases hasBit m 64 <;> cases hasBit m 32 <;> rfl

def Arg.Sorted : Arg → Bool
  | .lit v => v.Sorted
  | .dyn _ => true

theorem litsSorted_head {a : Arg} {as : ASlots} (h : LitsSorted (some a :: as) = true) :
    a.Sorted = true ∧ LitsSorted as = true := by
  cases a with
  | lit w => exact Bool.and_eq_true_iff.mp h
  | dyn k => exact ⟨rfl, h⟩

theorem admits_mem {a : Arg} {v : Value} (hl : a.Sorted = true) (h : a.admits v = true) :
    mem v a.kind = true := by
  cases a with
  | lit w =>
    cases of_decide_eq_true h
    exact Spec.mem_kindOf v hl
  | dyn k => exact h

theorem admits_exact (p : Param) (a : Arg) (v : Value) (hl : a.Sorted = true)
    (hc : checkArg p a = .exact) (ha : a.admits v = true) : hasBit p.mask (kindBit v) = true := by
  have hsup : (paramKind p.mask).isSuperset a.kind = true := by
    simp only [checkArg] at hc
    split at hc
    · cases hc
    · split at hc
      · cases hc
      · rename_i h; simpa using h
  exact mem_paramKind _ _
    (((Spec.isSupersetF_sound _).sub _ _ (paramKind_noExactAny _) hsup).elem (admits_mem hl ha))

/-- run-time typing of the slots against the parameter table -/
def TypesOk : List Param → Slots → Bool
  | [], [] => true
  | p :: ps, none :: vs => !p.required && TypesOk ps vs
  | p :: ps, some v :: vs => hasBit p.mask (kindBit v) && TypesOk ps vs
  | _, _ => false

/-- what `checkArgs` establishes even for arguments of unknown validity -/
def ShapeOk : List Param → Slots → Bool
  | [], [] => true
  | p :: ps, none :: vs => !p.required && ShapeOk ps vs
  | _ :: ps, some _ :: vs => ShapeOk ps vs
  | _, _ => false

/-- by recursion on `Admits`, which pairs the slots off -/
theorem checkArgs_admits {as : ASlots} {vs : Slots} (ha : Admits as vs = true) {ps : List Param}
    {b : Bool} (hc : checkArgs ps as = some b) :
    ShapeOk ps vs = true ∧ (b = false → LitsSorted as = true → TypesOk ps vs = true) := by
  induction as, vs using Admits.induct generalizing ps b with
  | case1 => cases ps with  -- no slot on either side
    | nil => exact ⟨rfl, fun _ _ => rfl⟩
    | cons => cases hc
  | case2 as vs ih => cases ps with  -- an absent argument, no value
    | nil => cases hc
    | cons p ps =>
      cases hr : p.required <;> simp only [checkArgs, hr] at hc
      · simp only [ShapeOk, TypesOk, hr, Bool.not_false, Bool.true_and]
        exact ih ha hc
      · cases hc
  | case3 a as v vs ih => cases ps with  -- an argument `a`, a value `v`
    | nil => cases hc
    | cons p ps =>
      simp only [Admits, Bool.and_eq_true] at ha
      cases hr : checkArgs ps as with
      | none => cases hca : checkArg p a <;> simp [checkArgs, hr, hca] at hc
      | some b' =>
        have ih := ih ha.2 hr
        refine ⟨ih.1, fun hb hl => ?_⟩
        obtain ⟨hl0, hl⟩ := litsSorted_head hl
        subst hb
        cases hca : checkArg p a with
        | invalid => simp only [checkArgs, hr, hca, reduceCtorEq] at hc  -- the call is rejected
        | unknownValidity =>  -- `b` is `true`
          simp only [checkArgs, hr, hca, Option.some.injEq, reduceCtorEq] at hc
        | exact =>
          simp only [checkArgs, hr, hca, Option.some.injEq] at hc
          subst hc
          simp only [TypesOk, Bool.and_eq_true]
          exact ⟨admits_exact p a v hl0 hca ha.1, ih.2 rfl hl⟩
  | case4 as vs h1 h2 h3 => simp [Admits] at ha  -- the slots do not pair off

theorem typesOk_of_checkArgs (ps : List Param) (as : ASlots) (vs : Slots) (hl : LitsSorted as = true)
    (hc : checkArgs ps as = some false) (ha : Admits as vs = true) : TypesOk ps vs = true :=
  (checkArgs_admits ha hc).2 rfl hl

theorem shapeOk_of_checkArgs : (ps : List Param) → (as : ASlots) → (vs : Slots) → (b : Bool) →
    checkArgs ps as = some b → Admits as vs = true → ShapeOk ps vs = true :=
  fun _ _ _ _ hc ha => (checkArgs_admits ha hc).1

theorem mem_arr_anyArray (xs : VList) : mem (.arr xs) anyArray = true := by
  simp only [mem, anyArray, Kind.ofArray, Kind.hasArr, arrayD, Kind.array, Option.getD_some,
    Bool.true_and, Bool.and_eq_true, Col.any, Unknown.any]
  exact ⟨Spec.memList_infAny xs 0, by simp [absentIdxOk, Col.known, KList.keys]⟩

theorem mem_obj_anyObject (m : VMap) : mem (.obj m) anyObject = true := by
  simp only [mem, anyObject, Kind.ofObject, Kind.hasObj, objectD, Kind.object, Option.getD_some,
    Bool.true_and, Bool.and_eq_true, Col.any, Unknown.any]
  exact ⟨Spec.memMap_infAny m, by simp [absentKeysOk, Col.known, KList.keys]⟩

def Tag.kind : Tag → Kind
  | .bytes => Kind.bytes | .integer => Kind.integer | .float => Kind.float
  | .boolean => Kind.boolean | .timestamp => Kind.timestamp | .regex => Kind.regex
  | .null => Kind.null | .array => anyArray | .object => anyObject

theorem mem_tag_kind {v : Value} {t : Tag} (h : tagOf v = t) : mem v t.kind = true := by
  subst h
  cases v
  case arr xs => exact mem_arr_anyArray xs
  case obj m => exact mem_obj_anyObject m
  all_goals rfl

theorem mem_arr_restrictArray (xs : VList) (k : Kind) (h : mem (.arr xs) k = true) :
    mem (.arr xs) (restrictArray k) = true := by
  cases k with
  | mk p a o =>
    cases a with
    | none => simp [mem, Kind.hasArr] at h
    | some c =>
      simpa [mem, restrictArray, Kind.array, Kind.ofArray, Kind.hasArr, arrayD] using h

theorem mem_obj_restrictObject (m : VMap) (k : Kind) (h : mem (.obj m) k = true) :
    mem (.obj m) (restrictObject k) = true := by
  cases k with
  | mk p a o =>
    cases o with
    | none => simp [mem, Kind.hasObj] at h
    | some c =>
      simpa [mem, restrictObject, Kind.object, Kind.ofObject, Kind.hasObj, objectD] using h

end C03
