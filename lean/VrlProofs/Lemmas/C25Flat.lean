/-
  flatten / unflatten (C25): what `flatten` yields for an object in the domain `flatOKM` (by
  induction along the object spine), and how the grouping by heads of `do_unflatten_entries`
  takes it apart again.
-/
import VrlProofs.Lemmas.C25Total
import VrlProofs.Lemmas.C25Map

namespace Conv.Flat
open C25

/-- an entry of a nested object, seen from the object around it: the key gets `p ++ sep` in front -/
def pfx (sep p : Key) (e : Key × Value) : Key × Value := (p ++ sep ++ e.1, e.2)

/-- what `flatten` (no `except`) yields for the object `m` -/
abbrev F (sep : Key) (m : VMap) : Entries := flattenMap sep [] none m

/-- … and for one field `k: v` of it -/
def fieldEntries (sep k : Key) : Value → Entries
  | .obj m' => (F sep m').map (pfx sep k)
  | v => [(k, v)]

def isObj : Value → Bool
  | .obj _ => true
  | _ => false

theorem obj_or_leaf (v : Value) : (∃ m, v = .obj m) ∨ isObj v = false := by
  cases v <;> simp [isObj]

/-- induction along the object spine: the fields of an object, and the fields of those fields
    that are objects themselves (arrays are leaves for `flatten`) -/
theorem spine_induction {P : VMap → Prop} (nil : P .nil)
    (cons : ∀ k v rest, (∀ m', v = .obj m' → P m') → P rest → P (.cons k v rest)) : ∀ m, P m
  | .nil => nil
  | .cons k v rest =>
    cons k v rest (fun m' _ => spine_induction nil cons m') (spine_induction nil cons rest)
termination_by m => sizeOf m
decreasing_by
  · subst_vars; simp; omega
  · simp; omega

theorem flattenField_leaf (sep : Key) (except : List Key) (key : Key) (keep : Bool) (v : Value)
    (h : isObj v = false) : flattenField sep except key keep v = [(key, v)] := by
  cases v <;> simp_all [flattenField, isObj]

theorem flattenMap_some (sep : Key) (m : VMap) :
    ∀ p, flattenMap sep [] (some p) m = (flattenMap sep [] none m).map (pfx sep p) := by
  induction m using spine_induction with
  | nil => intro p; rfl
  | cons k v rest ihv ih =>
    intro p
    have hc : ([] : List Key).contains k = false := rfl
    simp only [flattenMap, newKey, List.map_append, hc, ih p]
    congr 1
    rcases obj_or_leaf v with ⟨m', rfl⟩ | hv
    · simp only [flattenField, Bool.false_eq_true, ↓reduceIte]
      rw [ihv m' rfl (p ++ sep ++ k), ihv m' rfl k]
      simp [List.map_map, pfx, Function.comp_def]
    · rw [flattenField_leaf _ _ _ _ v hv, flattenField_leaf _ _ _ _ v hv]; rfl

theorem flattenField_pfx (sep p k : Key) : (v : Value) →
      flattenField sep [] (p ++ sep ++ k) false v = (flattenField sep [] k false v).map (pfx sep p) :=
  fun v => by
    have h := flattenMap_some sep (.cons k v .nil) p
    have hc : ([] : List Key).contains k = false := rfl
    simpa [flattenMap, newKey, hc] using h

theorem flattenField_eq (sep k : Key) (v : Value) :
    flattenField sep [] k false v = fieldEntries sep k v := by
  cases v <;> simp [flattenField, fieldEntries, flattenMap_some]

theorem F_cons (sep k : Key) (v : Value) (rest : VMap) :
    F sep (.cons k v rest) = fieldEntries sep k v ++ F sep rest := by
  have hc : ([] : List Key).contains k = false := rfl
  simp only [F, flattenMap, newKey, hc]
  rw [← flattenField_eq]

theorem fieldEntries_leaf (sep k : Key) (v : Value) (h : isObj v = false) :
    fieldEntries sep k v = [(k, v)] := by
  cases v <;> simp_all [fieldEntries, isObj]

theorem F_leaf (sep : Key) (m : VMap) : ∀ e ∈ F sep m, isObj e.2 = false := by
  induction m using spine_induction with
  | nil => intro e he; simp [F, flattenMap] at he
  | cons k v rest ihv ih =>
    intro e he
    rw [F_cons, List.mem_append] at he
    rcases he with he | he
    · rcases obj_or_leaf v with ⟨m', rfl⟩ | hv
      · obtain ⟨e', he', rfl⟩ := List.mem_map.mp he
        exact ihv m' rfl e' he'
      · rw [fieldEntries_leaf sep k v hv, List.mem_singleton] at he
        rw [he]; exact hv
    · exact ih e he

/- Three facts below (`_ne_nil`, `_nodup`, `chain_`) come in the same three steps: the fact about a
   field, given it for the object the field may hold (`_of`); the fact about an object, by
   `spine_induction` with that step; the fact about a field outright. -/

theorem fieldEntries_ne_nil_of (sep k : Key) (v : Value)
    (ih : ∀ m', v = .obj m' → m'.isEmpty = false → flatOKM sep m' = true → F sep m' ≠ [])
    (hok : flatOKV sep v = true) : fieldEntries sep k v ≠ [] := by
  rcases obj_or_leaf v with ⟨m', rfl⟩ | hv
  · simp only [flatOKV, Bool.and_eq_true, Bool.not_eq_true'] at hok
    simpa [fieldEntries] using ih m' rfl hok.1 hok.2
  · simp [fieldEntries_leaf sep k v hv]

theorem F_ne_nil (sep : Key) (m : VMap) : m.isEmpty = false → flatOKM sep m = true → F sep m ≠ [] := by
  induction m using spine_induction with
  | nil => intro h; simp [VMap.isEmpty] at h
  | cons k v rest ihv _ =>
    intro _ hok h
    simp only [flatOKM, Bool.and_eq_true] at hok
    rw [F_cons] at h
    exact fieldEntries_ne_nil_of sep k v ihv hok.1.1.2 (List.append_eq_nil_iff.mp h).1

theorem fieldEntries_ne_nil (sep k : Key) (v : Value) (hok : flatOKV sep v = true) :
    fieldEntries sep k v ≠ [] :=
  fieldEntries_ne_nil_of sep k v (fun m' _ => F_ne_nil sep m') hok

theorem triplesOf_field_leaf (sep k : Key) (v : Value) (hne : sep ≠ []) (hk : sepFree sep k = true)
    (hv : isObj v = false) : triplesOf sep (fieldEntries sep k v) = [(k, none, v)] := by
  rw [fieldEntries_leaf sep k v hv]
  simp [triplesOf, headRest_free sep k hne hk]

theorem triplesOf_field_obj (sep k : Key) (m' : VMap) (hk : sepFree sep k = true) :
    triplesOf sep (fieldEntries sep k (.obj m')) = (F sep m').map fun e => (k, some e.1, e.2) := by
  simp only [triplesOf, fieldEntries, List.map_map]
  apply List.map_congr_left
  intro e _
  simp only [pfx, Function.comp_apply]
  rw [headRest_join sep k e.1 hk]

theorem triplesOf_field_head (sep k : Key) (v : Value) (hne : sep ≠ []) (hk : sepFree sep k = true) :
    ∀ t ∈ triplesOf sep (fieldEntries sep k v), t.1 = k := by
  intro t ht
  by_cases hv : isObj v = true
  · cases v <;> simp [isObj] at hv
    rw [triplesOf_field_obj sep k _ hk] at ht
    obtain ⟨e, _, rfl⟩ := List.mem_map.mp ht
    rfl
  · rw [triplesOf_field_leaf sep k v hne hk (by simpa using hv)] at ht
    simp at ht
    rw [ht]

theorem triplesOf_append (sep : Key) (a b : Entries) :
    triplesOf sep (a ++ b) = triplesOf sep a ++ triplesOf sep b := by
  simp [triplesOf]

/-- grouping by head: the triples with head `h` are those of the field `h`, if there is one -/
theorem filter_head (sep : Key) (hne : sep ≠ []) : (m : VMap) → flatOKM sep m = true → (h : Key) →
    (triplesOf sep (F sep m)).filter (fun t => t.1 == h) =
      match m.get h with
      | some v => triplesOf sep (fieldEntries sep h v)
      | none => []
  | .nil, _, h => by simp [F, flattenMap, triplesOf, VMap.get]
  | .cons k v rest, hok, h => by
    simp only [flatOKM, Bool.and_eq_true] at hok
    obtain ⟨⟨⟨hk, _hv⟩, hgt⟩, hrest⟩ := hok
    rw [F_cons, triplesOf_append, List.filter_append, filter_head sep hne rest hrest h]
    -- the triples of the field `k` all have head `k`: they pass the filter together or not at all
    have hhead := triplesOf_field_head sep k v hne hk
    by_cases hkh : k = h
    · subst hkh
      rw [List.filter_eq_self.mpr fun t ht => by simp [hhead t ht],
        VMap.get_none_of_allGt rest k hgt]
      simp [VMap.get]
    · rw [List.filter_eq_nil_iff.mpr fun t ht => by simp [hhead t ht, hkh]]
      simp [VMap.get, hkh]

theorem get_flatOK (sep : Key) (m : VMap) (h : Key) (v : Value) (hok : flatOKM sep m = true)
    (hg : m.get h = some v) : flatOKV sep v = true ∧ sepFree sep h = true := by
  revert hg hok
  fun_induction VMap.get m h with
  | case1 => intro _ hg; cases hg -- nil
  | case2 w rest k => -- hit
    intro hok hg; cases hg
    simp only [flatOKM, Bool.and_eq_true] at hok
    exact ⟨hok.1.1.2, hok.1.1.1⟩
  | case3 k w rest h hne ih => -- miss
    intro hok hg
    simp only [flatOKM, Bool.and_eq_true] at hok
    exact ih hok.2 hg

theorem field_sub_F (sep : Key) (m : VMap) (h : Key) (v : Value) (hg : m.get h = some v) :
    ∀ e ∈ fieldEntries sep h v, e ∈ F sep m := by
  revert hg
  fun_induction VMap.get m h with
  | case1 => intro hg; cases hg -- nil
  | case2 => -- hit
    intro hg e he; cases hg
    rw [F_cons, List.mem_append]
    exact Or.inl he
  | case3 k w rest h hne ih => -- miss
    intro hg e he
    rw [F_cons, List.mem_append]
    exact Or.inr (ih hg e he)

theorem head_of_mem_field (sep k : Key) (v : Value) (hne : sep ≠ []) (hk : sepFree sep k = true)
    (e : Key × Value) (he : e ∈ fieldEntries sep k v) : (headRest sep e.1).1 = k := by
  apply triplesOf_field_head sep k v hne hk ((headRest sep e.1).1, (headRest sep e.1).2, e.2)
  simp only [triplesOf, List.mem_map]
  exact ⟨e, he, rfl⟩

theorem head_mem_iff (sep : Key) (hne : sep ≠ []) (m : VMap) (hok : flatOKM sep m = true) (h : Key) :
    h ∈ (triplesOf sep (F sep m)).map (·.1) ↔ ∃ v, m.get h = some v := by
  constructor
  · intro hm
    obtain ⟨t, ht, rfl⟩ := List.mem_map.mp hm
    cases hg : m.get t.1 with
    | some v => exact ⟨v, rfl⟩
    | none =>
      have : t ∈ (triplesOf sep (F sep m)).filter (fun t' => t'.1 == t.1) := by
        simp [List.mem_filter, ht]
      rw [filter_head sep hne m hok, hg] at this
      cases this
  · intro ⟨v, hv⟩
    -- the field `h` has an entry, it is among those of `m`, and its head is `h`
    obtain ⟨hvok, hk⟩ := get_flatOK sep m h v hok hv
    obtain ⟨e, he⟩ := List.exists_mem_of_ne_nil _ (fieldEntries_ne_nil sep h v hvok)
    rw [← head_of_mem_field sep h v hne hk e he]
    exact List.mem_map.mpr ⟨_, List.mem_map.mpr ⟨e, field_sub_F sep m h v hv e he, rfl⟩, rfl⟩

theorem head_of_mem_F (sep : Key) (hne : sep ≠ []) (m : VMap) (hok : flatOKM sep m = true)
    (e : Key × Value) (he : e ∈ F sep m) : ∃ v, m.get (headRest sep e.1).1 = some v := by
  apply (head_mem_iff sep hne m hok _).mp
  simp only [triplesOf, List.map_map, List.mem_map, Function.comp_apply]
  exact ⟨e, he, rfl⟩

theorem field_nodup_of (sep k : Key) (v : Value)
    (ih : ∀ m', v = .obj m' → flatOKM sep m' = true → ((F sep m').map (·.1)).Nodup)
    (hok : flatOKV sep v = true) : ((fieldEntries sep k v).map (·.1)).Nodup := by
  rcases obj_or_leaf v with ⟨m', rfl⟩ | hv
  · simp only [flatOKV, Bool.and_eq_true] at hok
    -- prefixing with `k ++ sep` is injective
    have : (fieldEntries sep k (.obj m')).map (·.1) = ((F sep m').map (·.1)).map (k ++ sep ++ ·) := by
      simp [fieldEntries, pfx, List.map_map, Function.comp_def]
    rw [this]
    simp only [List.Nodup, List.pairwise_map]
    exact (List.pairwise_map.mp (ih m' rfl hok.2)).imp fun hab heq =>
      hab (List.append_cancel_left heq)
  · simp [fieldEntries_leaf sep k v hv]

theorem F_nodup (sep : Key) (hne : sep ≠ []) (m : VMap) :
    flatOKM sep m = true → ((F sep m).map (·.1)).Nodup := by
  induction m using spine_induction with
  | nil => intro _; simp [F, flattenMap]
  | cons k v rest ihv ih =>
    intro hok
    simp only [flatOKM, Bool.and_eq_true] at hok
    obtain ⟨⟨⟨hk, hv⟩, hgt⟩, hrest⟩ := hok
    rw [F_cons, List.map_append, List.nodup_append]
    refine ⟨field_nodup_of sep k v ihv hv, ih hrest, ?_⟩
    -- an entry of the field `k` has head `k`, an entry of the other fields has another head
    intro a ha b hb hab
    obtain ⟨e1, he1, rfl⟩ := List.mem_map.mp ha
    obtain ⟨e2, he2, hb2⟩ := List.mem_map.mp hb
    have h1 := head_of_mem_field sep k v hne hk e1 he1
    obtain ⟨w, hw⟩ := head_of_mem_F sep hne rest hrest e2 he2
    rw [hb2, ← hab, h1, VMap.get_none_of_allGt rest k hgt] at hw
    cases hw

theorem field_nodup (sep : Key) (hne : sep ≠ []) (k : Key) : (v : Value) → flatOKV sep v = true →
      ((fieldEntries sep k v).map (·.1)).Nodup :=
  fun v => field_nodup_of sep k v fun m' _ => F_nodup sep hne m'

theorem chain_field_of (sep : Key) (hne : sep ≠ []) (k : Key) (v : Value)
    (ih : ∀ m', v = .obj m' → flatOKM sep m' = true →
      ∀ e, F sep m' = [e] → nestSingle (splitAll sep e.1) e.2 = .obj m')
    (hk : sepFree sep k = true) (hok : flatOKV sep v = true) (e : Key × Value)
    (h : fieldEntries sep k v = [e]) :
    nestSingle (splitAll sep e.1) e.2 = .obj (.cons k v .nil) := by
  rcases obj_or_leaf v with ⟨m', rfl⟩ | hv
  · simp only [flatOKV, Bool.and_eq_true] at hok
    simp only [fieldEntries, List.map_eq_singleton_iff] at h
    obtain ⟨e2, hF, rfl⟩ := h
    simp only [pfx]
    rw [splitAll_of_split sep _ k e2.1 hne (splitOnce_join sep k e2.1 hk), nestSingle,
      ih m' rfl hok.2 e2 hF]
  · rw [fieldEntries_leaf sep k v hv, List.cons.injEq] at h
    rw [← h.1, splitAll_of_none sep k hne (splitOnce_free sep k hne hk)]
    rfl

/-- `do_unflatten_entry` (split at every separator, nest) rebuilds an object that flattened to
    a single entry. -/
theorem chain_map (sep : Key) (hne : sep ≠ []) (m' : VMap) : flatOKM sep m' = true →
    ∀ e, F sep m' = [e] → nestSingle (splitAll sep e.1) e.2 = .obj m' := by
  induction m' using spine_induction with
  | nil => intro _ e h; simp [F, flattenMap] at h
  | cons k v rest ihv _ =>
    intro hok e h
    simp only [flatOKM, Bool.and_eq_true] at hok
    obtain ⟨⟨⟨hk, hv⟩, _hgt⟩, hrest⟩ := hok
    -- the single entry belongs to the field `k`, and there is no other field
    rw [F_cons, List.append_eq_singleton_iff] at h
    rcases h with ⟨hf, _⟩ | ⟨hf, hFrest⟩
    · exact absurd hf (fieldEntries_ne_nil_of sep k v (fun m' _ => F_ne_nil sep m') hv)
    · have hrnil : rest = .nil := by
        cases rest with
        | nil => rfl
        | cons k2 v2 r2 => exact absurd hFrest (F_ne_nil sep _ rfl hrest)
      subst hrnil
      exact chain_field_of sep hne k v ihv hk hv e hf

theorem chain_field (sep : Key) (hne : sep ≠ []) (k : Key) : (v : Value) → sepFree sep k = true →
      flatOKV sep v = true → ∀ e, fieldEntries sep k v = [e] →
      nestSingle (splitAll sep e.1) e.2 = .obj (.cons k v .nil) :=
  fun v hk hok e h => chain_field_of sep hne k v (fun m' _ => chain_map sep hne m') hk hok e h

theorem sortedKeys_of_flatOKM (sep : Key) : (m : VMap) → flatOKM sep m = true → m.SortedKeys = true
  | .nil, _ => rfl
  | .cons k v rest, hok => by
    simp only [flatOKM, Bool.and_eq_true] at hok
    rw [VMap.sortedKeys_cons]
    exact ⟨hok.1.2, sortedKeys_of_flatOKM sep rest hok.2⟩

end Conv.Flat
