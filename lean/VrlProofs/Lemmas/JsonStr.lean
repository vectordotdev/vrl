/-
  Lemmas about strings in `VrlModel.Json`: the string parser reads back what `quote` writes; the
  escaped text of a UTF-8 string is UTF-8; lossy conversion is the identity on UTF-8.
-/
import VrlModel.Json

namespace Json

theorem validUtf8_1 (b : Nat) (rest : List Nat) (h : b < 128) :
    validUtf8 (b :: rest) = validUtf8 rest := by
  rw [validUtf8.eq_def]; simp [h]

theorem validUtf8_2 (b c : Nat) (r : List Nat) (h : 194 ≤ b ∧ b ≤ 223) :
    validUtf8 (b :: c :: r) = (isCont c && validUtf8 r) := by
  have h1 : ¬ b < 128 := by omega
  rw [validUtf8.eq_def]; simp [h, h1]

theorem validUtf8_3 (b c d : Nat) (r : List Nat) (h : 224 ≤ b ∧ b ≤ 239) :
    validUtf8 (b :: c :: d :: r) = (second3 b c && isCont d && validUtf8 r) := by
  have h1 : ¬ b < 128 := by omega
  have h2 : ¬ (194 ≤ b ∧ b ≤ 223) := by omega
  rw [validUtf8.eq_def]; simp [h, h1, h2]

theorem validUtf8_4 (b c d e : Nat) (r : List Nat) (h : 240 ≤ b ∧ b ≤ 244) :
    validUtf8 (b :: c :: d :: e :: r) = (second4 b c && isCont d && isCont e && validUtf8 r) := by
  have h1 : ¬ b < 128 := by omega
  have h2 : ¬ (194 ≤ b ∧ b ≤ 223) := by omega
  have h3 : ¬ (224 ≤ b ∧ b ≤ 239) := by omega
  rw [validUtf8.eq_def]; simp [h, h1, h2, h3]

theorem validUtf8_cases (x : Nat) (rest : List Nat) (h : validUtf8 (x :: rest) = true) :
    (x < 128 ∧ validUtf8 rest = true) ∨
    (∃ c r, rest = c :: r ∧ (194 ≤ x ∧ x ≤ 223) ∧ isCont c = true ∧ validUtf8 r = true) ∨
    (∃ c d r, rest = c :: d :: r ∧ (224 ≤ x ∧ x ≤ 239) ∧ second3 x c = true ∧ isCont d = true ∧
      validUtf8 r = true) ∨
    (∃ c d e r, rest = c :: d :: e :: r ∧ (240 ≤ x ∧ x ≤ 244) ∧ second4 x c = true ∧ isCont d = true ∧
      isCont e = true ∧ validUtf8 r = true) := by
  generalize hs : x :: rest = s at h
  revert h
  -- `simp` closes the branches where `validUtf8` is `false` and nests all conjunctions to the right
  fun_cases validUtf8 s <;> cases hs <;> simp only [Bool.and_eq_true, and_assoc, reduceCtorEq, false_imp_iff]
  next hb => exact fun h => .inl ⟨hb, h⟩
  next hb => exact fun h => .inr (.inl ⟨_, _, rfl, hb.1, hb.2, h⟩)
  next hb => exact fun h => .inr (.inr (.inl ⟨_, _, _, rfl, hb.1, hb.2, h⟩))
  next hb => exact fun h => .inr (.inr (.inr ⟨_, _, _, _, rfl, hb.1, hb.2, h⟩))

theorem validUtf8_induction {p : List Nat → Prop} (nil : p [])
    (one : ∀ b r, b < 128 → p r → p (b :: r))
    (two : ∀ b c r, 194 ≤ b ∧ b ≤ 223 → isCont c = true → p r → p (b :: c :: r))
    (three : ∀ b c d r, 224 ≤ b ∧ b ≤ 239 → second3 b c = true → isCont d = true → p r →
      p (b :: c :: d :: r))
    (four : ∀ b c d e r, 240 ≤ b ∧ b ≤ 244 → second4 b c = true → isCont d = true →
      isCont e = true → p r → p (b :: c :: d :: e :: r)) :
    ∀ s, validUtf8 s = true → p s := by
  intro s
  fun_induction validUtf8 s with
  | case1 => exact fun _ => nil
  | case2 b r hb ih => exact fun h => one b r hb (ih h)
  | case3 b _ hb c r ih =>
    rw [Bool.and_eq_true]; exact fun h => two b c r hb h.1 (ih h.2)
  | case5 b _ _ hb c d r ih =>
    simp only [Bool.and_eq_true]; exact fun h => three b c d r hb h.1.1 h.1.2 (ih h.2)
  | case7 b _ _ _ hb c d e r ih =>
    simp only [Bool.and_eq_true]; exact fun h => four b c d e r hb h.1.1.1 h.1.1.2 h.1.2 (ih h.2)
  -- the other branches are the truncated or malformed sequences, where `validUtf8` is `false`
  | case4 | case6 | case8 | case9 => exact fun h => nomatch h

theorem validUtf8_append (a b : List Nat) : validUtf8 a = true → validUtf8 (a ++ b) = validUtf8 b := by
  refine validUtf8_induction (p := fun a => validUtf8 (a ++ b) = validUtf8 b) rfl ?_ ?_ ?_ ?_ a
  · intro x r hx ih; rw [List.cons_append, validUtf8_1 _ _ hx, ih]
  · intro x c r hx hc ih; simp only [List.cons_append]; rw [validUtf8_2 _ _ _ hx, hc, ih]; rfl
  · intro x c d r hx hc hd ih; simp only [List.cons_append]; rw [validUtf8_3 _ _ _ _ hx, hc, hd, ih]; rfl
  · intro x c d e r hx hc hd he ih
    simp only [List.cons_append]; rw [validUtf8_4 _ _ _ _ _ hx, hc, hd, he, ih]; rfl

theorem utf8Lossy_1 (b : Nat) (rest : List Nat) (h : b < 128) :
    utf8Lossy (b :: rest) = b :: utf8Lossy rest := by
  rw [utf8Lossy.eq_def]; simp [h]

theorem utf8Lossy_2 (b c : Nat) (r : List Nat) (h : 194 ≤ b ∧ b ≤ 223) (hc : isCont c = true) :
    utf8Lossy (b :: c :: r) = b :: c :: utf8Lossy r := by
  have h1 : ¬ b < 128 := by omega
  rw [utf8Lossy.eq_def]; simp [h, h1, hc]

theorem utf8Lossy_3 (b c d : Nat) (r : List Nat) (h : 224 ≤ b ∧ b ≤ 239) (hc : second3 b c = true)
    (hd : isCont d = true) : utf8Lossy (b :: c :: d :: r) = b :: c :: d :: utf8Lossy r := by
  have h1 : ¬ b < 128 := by omega
  have h2 : ¬ (194 ≤ b ∧ b ≤ 223) := by omega
  rw [utf8Lossy.eq_def]; simp [h, h1, h2, hc, hd]

theorem utf8Lossy_4 (b c d e : Nat) (r : List Nat) (h : 240 ≤ b ∧ b ≤ 244) (hc : second4 b c = true)
    (hd : isCont d = true) (he : isCont e = true) :
    utf8Lossy (b :: c :: d :: e :: r) = b :: c :: d :: e :: utf8Lossy r := by
  have h1 : ¬ b < 128 := by omega
  have h2 : ¬ (194 ≤ b ∧ b ≤ 223) := by omega
  have h3 : ¬ (224 ≤ b ∧ b ≤ 239) := by omega
  rw [utf8Lossy.eq_def]; simp [h, h1, h2, h3, hc, hd, he]

theorem utf8Lossy_valid : (s : List Nat) → validUtf8 s = true → utf8Lossy s = s :=
  validUtf8_induction rfl
    (fun b r hb ih => by rw [utf8Lossy_1 b r hb, ih])
    (fun b c r hb hc ih => by rw [utf8Lossy_2 b c r hb hc, ih])
    (fun b c d r hb hc hd ih => by rw [utf8Lossy_3 b c d r hb hc hd, ih])
    (fun b c d e r hb hc hd he ih => by rw [utf8Lossy_4 b c d e r hb hc hd he, ih])

theorem validUtf8_ascii_append : (a b : List Nat) → (∀ c ∈ a, c < 128) →
    validUtf8 (a ++ b) = validUtf8 b
  | [], _, _ => rfl
  | c :: a, b, h => by
    rw [List.cons_append, validUtf8_1 _ _ (h c (List.mem_cons_self ..)),
      validUtf8_ascii_append a b fun x hx => h x (List.mem_cons_of_mem _ hx)]

theorem validUtf8_of_ascii (a : List Nat) (h : ∀ c ∈ a, c < 128) : validUtf8 a = true := by
  have := validUtf8_ascii_append a [] h
  simpa [validUtf8] using this

theorem hexVal_hexLower : ∀ n, n < 16 → hexVal (hexLower n) = some n := by
  decide +kernel

theorem hexLower_lt (n : Nat) (h : n < 16) : hexLower n < 128 := by
  fun_cases hexLower n <;> omega

theorem hex4_u00 (b : Nat) (hb : b < 32) (X : List Nat) :
    hex4 (48 :: 48 :: hexLower (b / 16) :: hexLower (b % 16) :: X) = some (b, X) := by
  have h0 : hexVal 48 = some 0 := by decide
  have hv : ((0 * 16 + 0) * 16 + b / 16) * 16 + b % 16 = b := by omega
  simp only [hex4, h0, hexVal_hexLower (b / 16) (by omega), hexVal_hexLower (b % 16) (by omega), hv]

theorem parseEscape_u00 (b : Nat) (hb : b < 32) (X : List Nat) :
    parseEscape (117 :: 48 :: 48 :: hexLower (b / 16) :: hexLower (b % 16) :: X) = some ([b], X) := by
  have hn1 : ¬ (56320 ≤ b ∧ b ≤ 57343) := by omega
  have hn2 : b < 55296 ∨ 56319 < b := by omega
  have hn3 : b < 128 := by omega
  simp [parseEscape, parseUnicode, hex4_u00 b hb X, hn1, hn2, encodeUtf8, hn3]

/-- the byte itself, or a backslash and an ASCII text `t` that `parseEscape` turns back into the
    byte in front of any input `X` -/
theorem escapeByte_spec (b : Nat) :
    (32 ≤ b ∧ b ≠ 34 ∧ b ≠ 92 ∧ escapeByte b = [b]) ∨
    (b < 128 ∧ ∃ t, escapeByte b = 92 :: t ∧ (∀ c ∈ t, c < 128) ∧
      ∀ X, parseEscape (t ++ X) = some ([b], X)) := by
  -- the seven two-character escapes, the other control bytes, the bytes that are copied
  fun_cases escapeByte b
  case case1 h => subst h; exact .inr ⟨by decide, [34], rfl, by decide, fun _ => rfl⟩
  case case2 h => subst h; exact .inr ⟨by decide, [92], rfl, by decide, fun _ => rfl⟩
  case case3 h => subst h; exact .inr ⟨by decide, [98], rfl, by decide, fun _ => rfl⟩
  case case4 h => subst h; exact .inr ⟨by decide, [116], rfl, by decide, fun _ => rfl⟩
  case case5 h => subst h; exact .inr ⟨by decide, [110], rfl, by decide, fun _ => rfl⟩
  case case6 h => subst h; exact .inr ⟨by decide, [102], rfl, by decide, fun _ => rfl⟩
  case case7 h => subst h; exact .inr ⟨by decide, [114], rfl, by decide, fun _ => rfl⟩
  case case8 h32 =>
    refine .inr ⟨by omega, _, rfl, ?_, parseEscape_u00 b h32⟩
    have h1 := hexLower_lt (b / 16) (by omega)
    have h2 := hexLower_lt (b % 16) (by omega)
    intro c hc
    simp only [List.mem_cons, List.not_mem_nil, or_false] at hc
    omega
  case case9 h34 h92 _ _ _ _ _ h32 => exact .inl ⟨by omega, h34, h92, rfl⟩

theorem escapeByte_length_pos (b : Nat) : 1 ≤ (escapeByte b).length := by
  rcases escapeByte_spec b with ⟨_, _, _, he⟩ | ⟨_, t, he, _⟩ <;> rw [he] <;> simp

theorem escapeByte_high (b : Nat) (hb : 128 ≤ b) : escapeByte b = [b] := by
  rcases escapeByte_spec b with h | h
  · exact h.2.2.2
  · omega

theorem escape_high (b : Nat) (r : List Nat) (hb : 128 ≤ b) : escape (b :: r) = b :: escape r := by
  rw [escape, escapeByte_high b hb]; rfl

theorem escapeByte_ascii (b : Nat) (hb : b < 128) : ∀ c ∈ escapeByte b, c < 128 := by
  intro c hc
  rcases escapeByte_spec b with ⟨_, _, _, he⟩ | ⟨_, t, he, ht, _⟩ <;> rw [he] at hc
  · rw [List.mem_singleton] at hc; omega
  · rcases List.mem_cons.mp hc with rfl | hc
    · decide
    · exact ht c hc

theorem parseStrBody_step (b : Nat) (f : Nat) (X : List Nat) :
    parseStrBody (f + 1) (escapeByte b ++ X) =
      match parseStrBody f X with
      | none => none
      | some (t, r) => some (b :: t, r) := by
  rcases escapeByte_spec b with ⟨h32, h34, h92, he⟩ | ⟨_, t, he, _, hp⟩ <;> rw [he]
  · rw [List.cons_append, List.nil_append, parseStrBody, if_neg h34, if_neg h92,
      if_neg (Nat.not_lt.mpr h32)]
    rfl
  · rw [List.cons_append, parseStrBody, if_neg (by decide), if_pos rfl, hp X]
    rfl

theorem parseStrBody_escape : (s rest : List Nat) → (f : Nat) → (escape s ++ 34 :: rest).length < f →
    parseStrBody f (escape s ++ 34 :: rest) = some (s, rest)
  | [], rest, f + 1, _ => by rw [escape, List.nil_append, parseStrBody, if_pos rfl]
  | b :: bs, rest, f + 1, hf => by
    have hpos := escapeByte_length_pos b
    simp only [escape, List.append_assoc, List.length_append] at hf
    rw [escape, List.append_assoc, parseStrBody_step,
      parseStrBody_escape bs rest f (by simp only [List.length_append]; omega)]

theorem parseStr_escape (s rest : List Nat) (hv : validUtf8 s = true) :
    parseStr (escape s ++ 34 :: rest) = some (s, rest) := by
  unfold parseStr
  rw [parseStrBody_escape s rest _ (Nat.lt_succ_self _)]
  simp [hv]

theorem isCont_ge (c : Nat) (h : isCont c = true) : 128 ≤ c := by
  simp only [isCont, Bool.and_eq_true, decide_eq_true_eq] at h; omega

theorem second3_ge (b c : Nat) (h : second3 b c = true) : 128 ≤ c := by
  revert h
  fun_cases second3 b c <;> simp only [isCont, Bool.and_eq_true, decide_eq_true_eq] <;> omega

theorem second4_ge (b c : Nat) (h : second4 b c = true) : 128 ≤ c := by
  revert h
  fun_cases second4 b c <;> simp only [isCont, Bool.and_eq_true, decide_eq_true_eq] <;> omega

/-- ASCII bytes become ASCII text, all others are copied -/
theorem validUtf8_escape : (s : List Nat) → validUtf8 s = true → validUtf8 (escape s) = true :=
  validUtf8_induction rfl
    (fun b r hb ih => by rw [escape, validUtf8_ascii_append _ _ (escapeByte_ascii b hb), ih])
    (fun b c r hb hc ih => by
      rw [escape_high b _ (by omega), escape_high c _ (isCont_ge c hc), validUtf8_2 _ _ _ hb, hc, ih]; rfl)
    (fun b c d r hb hc hd ih => by
      rw [escape_high b _ (by omega), escape_high c _ (second3_ge b c hc), escape_high d _ (isCont_ge d hd),
        validUtf8_3 _ _ _ _ hb, hc, hd, ih]; rfl)
    (fun b c d e r hb hc hd he ih => by
      rw [escape_high b _ (by omega), escape_high c _ (second4_ge b c hc), escape_high d _ (isCont_ge d hd),
        escape_high e _ (isCont_ge e he), validUtf8_4 _ _ _ _ _ hb, hc, hd, he, ih]; rfl)

theorem validUtf8_quote (s : List Nat) (h : validUtf8 s = true) : validUtf8 (quote s) = true := by
  unfold quote
  rw [validUtf8_1 _ _ (by omega), validUtf8_append _ _ (validUtf8_escape s h)]
  decide

end Json
