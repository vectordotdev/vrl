/-
  Lemmas about the punycode glue model (split/join on '.', "xn--" detection, the label-wise decoder
  on joined dot-free labels) used by C22.
-/
import VrlModel.Codec.Param
import VrlProofs.Lemmas.C22Utf8

namespace Codec

theorem map_eq_self {α : Type} {f : α → α} {l : List α} (h : ∀ x ∈ l, f x = x) : l.map f = l :=
  (List.map_congr_left h).trans (List.map_id l)

end Codec

namespace Codec.Punycode

theorem splitDot_ne_nil : ∀ s : Bytes, splitDot s ≠ []
  | [] => by simp [splitDot]
  | b :: rest => by
    unfold splitDot
    split
    · simp
    · have := splitDot_ne_nil rest
      split <;> simp

theorem splitDot_cons (b : Nat) (rest : Bytes) : ∃ p ps, splitDot rest = p :: ps ∧
    splitDot (b :: rest) = if b = dot then [] :: p :: ps else (b :: p) :: ps :=
  match h : splitDot rest, splitDot_ne_nil rest with
  | p :: ps, _ => ⟨p, ps, rfl, by rw [splitDot, h]⟩

theorem joinDot_cons_cons (p q : Bytes) (ps : List Bytes) :
    joinDot (p :: q :: ps) = p ++ dot :: joinDot (q :: ps) := rfl

theorem joinDot_splitDot : ∀ s : Bytes, joinDot (splitDot s) = s
  | [] => rfl
  | b :: rest => by
    obtain ⟨p, ps, hr, hb⟩ := splitDot_cons b rest
    have ih := hr ▸ joinDot_splitDot rest
    rw [hb]
    split
    · exact congr (congrArg _ ‹b = dot›.symm) ih
    · cases ps <;> exact congrArg (b :: ·) ih

theorem splitDot_no_dot : ∀ (s : Bytes), ∀ l ∈ splitDot s, dot ∉ l
  | [] => by simp [splitDot]
  | b :: rest => by
    obtain ⟨p, ps, hr, hb⟩ := splitDot_cons b rest
    have ih := List.forall_mem_cons.mp (hr ▸ splitDot_no_dot rest)
    rw [hb]
    split
    · exact List.forall_mem_cons.mpr ⟨List.not_mem_nil, List.forall_mem_cons.mpr ih⟩
    · exact List.forall_mem_cons.mpr ⟨fun h => (List.mem_cons.mp h).elim (‹¬b = dot› ·.symm) ih.1, ih.2⟩

theorem splitDot_append_dot (p : Bytes) (hp : dot ∉ p) (rest : Bytes) :
    splitDot (p ++ dot :: rest) = p :: splitDot rest := by
  induction p with
  | nil => simp [splitDot]
  | cons a t ih =>
    have ha : a ≠ dot := fun h => hp (by simp [h])
    have ht : dot ∉ t := fun h => hp (by simp [h])
    rw [List.cons_append, splitDot, if_neg ha, ih ht]

theorem splitDot_of_no_dot (p : Bytes) (hp : dot ∉ p) : splitDot p = [p] := by
  induction p with
  | nil => rfl
  | cons a t ih =>
    have ha : a ≠ dot := fun h => hp (by simp [h])
    have ht : dot ∉ t := fun h => hp (by simp [h])
    rw [splitDot, if_neg ha, ih ht]

theorem splitDot_joinDot : ∀ (ls : List Bytes), ls ≠ [] → (∀ l ∈ ls, dot ∉ l) →
    splitDot (joinDot ls) = ls
  | [], h, _ => absurd rfl h
  | [p], _, h => by
    simp only [joinDot]
    exact splitDot_of_no_dot p (h p (by simp))
  | p :: q :: ps, _, h => by
    rw [joinDot_cons_cons, splitDot_append_dot p (h p (by simp))]
    rw [splitDot_joinDot (q :: ps) (by simp) (fun l hl => h l (by simp [hl]))]

theorem hasPrefixAnywhere_cons (b : Nat) (rest : Bytes) :
    hasPrefixAnywhere (b :: rest) = (prefix_.isPrefixOf (b :: rest) || hasPrefixAnywhere rest) := rfl

theorem hasPrefixAnywhere_of_isPrefix (l : Bytes) (h : prefix_.isPrefixOf l = true) :
    hasPrefixAnywhere l = true := by
  cases l with
  | nil => simp [prefix_] at h
  | cons b rest => rw [hasPrefixAnywhere_cons, h]; rfl

theorem hasPrefixAnywhere_append_left (x y : Bytes) (h : hasPrefixAnywhere y = true) :
    hasPrefixAnywhere (x ++ y) = true := by
  induction x with
  | nil => exact h
  | cons a t ih => rw [List.cons_append, hasPrefixAnywhere_cons, ih]; simp

theorem mem_joinDot {l : Bytes} : ∀ {ls : List Bytes}, l ∈ ls → ∃ x y, joinDot ls = x ++ (l ++ y)
  | [p], h => ⟨[], [], by rw [List.mem_singleton.mp h]; simp [joinDot]⟩
  | p :: q :: ps, h => by
    rcases List.mem_cons.mp h with rfl | h
    · exact ⟨[], _, rfl⟩
    · obtain ⟨x, y, e⟩ := mem_joinDot h
      exact ⟨p ++ dot :: x, y, by rw [joinDot_cons_cons, e]; simp⟩

theorem no_prefix_of_join (ls : List Bytes) (h : hasPrefixAnywhere (joinDot ls) = false) :
    ∀ l ∈ ls, prefix_.isPrefixOf l = false := fun l hl => by
  obtain ⟨x, y, e⟩ := mem_joinDot hl
  refine Bool.eq_false_iff.mpr fun hp => ?_
  have hp' : prefix_.isPrefixOf (l ++ y) = true :=
    List.isPrefixOf_iff_prefix.mpr (List.prefix_append_of_prefix (List.isPrefixOf_iff_prefix.mp hp))
  rw [e, hasPrefixAnywhere_append_left x _ (hasPrefixAnywhere_of_isPrefix _ hp')] at h
  cases h

theorem isAscii_iff (l : Bytes) : isAscii l = true ↔ ∀ x ∈ l, x < 128 := by
  simp [isAscii]

theorem isAscii_joinDot : ∀ (ls : List Bytes), (∀ l ∈ ls, isAscii l = true) → isAscii (joinDot ls) = true
  | [], _ => rfl
  | [p], h => h p (by simp)
  | p :: q :: ps, h => by
    rw [joinDot_cons_cons]
    have hp := h p (by simp)
    have ih := isAscii_joinDot (q :: ps) (fun l hl => h l (by simp [hl]))
    simp only [isAscii, List.all_append, List.all_cons, Bool.and_eq_true] at hp ih ⊢
    exact ⟨hp, by decide, ih⟩

theorem isAscii_prefix : isAscii prefix_ = true := by decide
theorem dot_not_in_prefix : dot ∉ prefix_ := by decide

theorem drop_prefix_append (e : Bytes) : (prefix_ ++ e).drop 4 = e := List.drop_left' rfl

/-- When the decoder returns the text unchanged for want of any "xn--", no label starts with that
    prefix, and those `decLabel` leaves alone. -/
theorem decode_joinDot (P : Prim) {ls : List Bytes} (hne : ls ≠ []) (hdot : ∀ l ∈ ls, dot ∉ l)
    (hu : Utf8.lossy (joinDot ls) = joinDot ls) :
    decode P (joinDot ls) false = .ok (joinDot (ls.map (decLabel P))) := by
  simp only [decode, hu, Bool.false_eq_true, ↓reduceIte]
  split
  · rename_i hno
    have hall := no_prefix_of_join ls (by simpa using hno)
    rw [map_eq_self fun l hl => by simp [decLabel, hall l hl]]
  · rw [splitDot_joinDot ls hne hdot]

end Codec.Punycode
