/-
  C03: value-level facts about the collection-typed functions (`array object pop push append slice split
  keys values flatten compact unique to_entries from_entries unflatten`) and the numeric ones (`abs floor ceil
  round mod`), and membership in the kinds their type_defs build.
-/
import VrlProofs.Lemmas.C03Tags
import VrlProofs.Lemmas.Arith

namespace C03
open Spec
open Str (R)

theorem abs_pres {v r : Value} (h : ofRes (Conv.Num.abs v) = .ok r) :
    (tagOf v).isNum = true ∧ tagOf r = tagOf v := by
  revert h
  fun_cases Conv.Num.abs v <;> intro h <;> cases h <;> exact ⟨rfl, rfl⟩

theorem roundFn_pres {m : Round.Mode} {p : Int → Nat} {v : Value} {o : Option Value} {r : Value}
    (h : Round.roundFn m p v o = .ok r) : (tagOf v).isNum = true ∧ tagOf r = tagOf v := by
  revert h
  fun_cases Round.roundFn m p v o <;> intro h <;> cases h <;> exact ⟨rfl, rfl⟩

theorem mem_num {v : Value} (k : Kind) (hn : (tagOf v).isNum = true) : mem v k = hasTag k (tagOf v) := by
  cases v <;> first | rfl | cases hn

theorem mem_intOrFloat {v : Value} (hn : (tagOf v).isNum = true) : mem v intOrFloat = true := by
  cases v <;> first | rfl | cases hn

theorem num_bit {v : Value} (hn : (tagOf v).isNum = true) : hasBit (mInteger + mFloat) (kindBit v) = true := by
  rw [kindBit_eq]
  revert hn
  cases tagOf v <;> decide

theorem floatResult_tag {x : Option Nat} {r : Value} (h : Arith.floatResult x = .ok r) :
    tagOf r = .float := by
  obtain ⟨_, _, _, rfl⟩ := Arith.floatResult_eq_ok h
  rfl

theorem ofArith_ok {x : Arith.Res Value} {r : Value} (h : ofArith x = .ok r) : x = .ok r := by
  cases x <;> cases h; rfl

theorem tryRem_ok {v m r : Value} (h : ofArith (Arith.tryRem v m) = .ok r) :
    (tagOf v).isNum = true ∧
    ((∃ i, m = .int i ∧ i ≠ 0 ∧ tagOf r = tagOf v) ∨ ∃ f, m = .float f ∧ tagOf r = .float) := by
  revert h
  -- `try_rem`: integer modulus (1 zero; 2-4 integer, float, other dividend), float modulus (5-8,
  -- the same), 9 other modulus
  fun_cases Arith.tryRem v m <;> intro h
  case case2 hi _ => cases h; exact ⟨rfl, .inl ⟨_, rfl, hi, rfl⟩⟩
  case case3 hi _ => exact ⟨rfl, .inl ⟨_, rfl, hi, floatResult_tag (ofArith_ok h)⟩⟩
  case case6 | case7 => exact ⟨rfl, .inr ⟨_, rfl, floatResult_tag (ofArith_ok h)⟩⟩
  all_goals cases h

theorem mem_arr_congr (xs : VList) {K K' : Kind} (h : K.array = K'.array) :
    mem (.arr xs) K = mem (.arr xs) K' := by
  cases K with
  | mk p a o =>
    cases K' with
    | mk p' a' o' =>
      cases a <;> cases a' <;> simp [Kind.array] at h
      · simp [mem, Kind.hasArr]
      · subst h; simp [mem, Kind.hasArr, arrayD, Kind.array]

theorem mem_bytes (b : List Nat) (K : Kind) : mem (.bytes b) K = K.prim.bytes := rfl

/-! ### `Kind::union` with `never` on the left (`slice`); `Kind.fuel` is a successor, so the first
    step of `union` computes -/

theorem never_union_prim : (k : Kind) → (Kind.never.union k).prim = k.prim
  | .mk p _ _ => by cases p; rfl

theorem never_union_array : (k : Kind) → (Kind.never.union k).array = k.array
  | .mk _ a _ => by cases a <;> rfl

theorem getN_ofList : (l : List Value) → (j : Nat) → (Coll.ofList l).getN j = l[j]?
  | [], _ => rfl
  | _ :: _, 0 => rfl
  | _ :: l, j + 1 => getN_ofList l j

theorem getN_toList : (xs : VList) → (j : Nat) → (Coll.toList xs)[j]? = xs.getN j
  | .nil, _ => rfl
  | .cons _ _, 0 => rfl
  | .cons _ xs, j + 1 => getN_toList xs j

theorem getN_popList : (xs : VList) → (j : Nat) → (x : Value) → (popList xs).getN j = some x →
    xs.getN j = some x
  | .nil, _, _, h => nomatch h
  | .cons _ .nil, _, _, h => nomatch h
  | .cons _ (.cons _ _), 0, _, h => h
  | .cons _ (.cons w ws), j + 1, x, h => getN_popList (.cons w ws) j x h

/-- an array kind all of whose known indices may be absent (in particular: no known index). -/
def _root_.Col.knownOptional (c : Col) : Bool := c.known.all fun _ K => K.prim.undefined

theorem slotKind_none {c : Col} {k : Key} (h : c.known.get k = none) :
    slotKind c k = unknownElemKind c.unknown := by
  simp [slotKind, h]

theorem mem_arr_of_noKnown (ys : VList) (K : Kind) (c : Col) (hc : K.array = some c)
    (hk : c.known = .nil)
    (h : ∀ j x, ys.getN j = some x → mem x (unknownElemKind c.unknown) = true) :
    mem (.arr ys) K = true := by
  rw [mem_arr_iff]
  refine ⟨c, hc, ?_, ?_⟩
  · intro j x hj
    rw [slotKind_none (by simp [hk, KList.get])]
    exact h j x hj
  · intro k K' hg
    simp [hk, KList.get] at hg

theorem mem_elem_of_noKnown {xs : VList} {K : Kind} {c : Col} (hm : mem (.arr xs) K = true)
    (hc : K.array = some c) (hk : c.known = .nil) {j : Nat} {x : Value} (hj : xs.getN j = some x) :
    mem x (unknownElemKind c.unknown) = true := by
  rw [mem_arr_iff] at hm
  obtain ⟨c', hc', h1, _⟩ := hm
  rw [hc] at hc'; cases hc'
  have := h1 j x hj
  rwa [slotKind_none (by simp [hk, KList.get])] at this

theorem mem_arr_bytesCol (ys : VList) (h : ∀ j x, ys.getN j = some x → tagOf x = .bytes) :
    mem (.arr ys) (Kind.ofArray (Col.fromUnknown Kind.bytes)) = true := by
  apply mem_arr_of_noKnown ys _ (Col.fromUnknown Kind.bytes) rfl rfl
  intro j x hj
  have := h j x hj
  rw [show unknownElemKind (Col.fromUnknown Kind.bytes).unknown = Kind.bytes by decide]
  cases x <;> simp [tagOf] at this; rfl

theorem getN_bytesArr : (ps : List (List Nat)) → (j : Nat) → (x : Value) →
    (Str.bytesArr ps).getN j = some x → tagOf x = .bytes
  | [], _, _, h => nomatch h
  | _ :: _, 0, _, h => by cases h; rfl
  | _ :: ps, j + 1, x, h => getN_bytesArr ps j x h

theorem getN_rawBytesArr : (ps : List (List Nat)) → (j : Nat) → (x : Value) →
    (rawBytesArr ps).getN j = some x → tagOf x = .bytes
  | [], _, _, h => nomatch h
  | _ :: _, 0, _, h => by cases h; rfl
  | _ :: ps, j + 1, x, h => getN_rawBytesArr ps j x h

theorem getN_keysArr : (ks : List (List Nat)) → (j : Nat) → (x : Value) →
    (Coll.ofList (ks.map Value.bytes)).getN j = some x → tagOf x = .bytes
  | [], _, _, h => nomatch h
  | _ :: _, 0, _, h => by cases h; rfl
  | _ :: ks, j + 1, x, h => getN_keysArr ks j x h

theorem splitV_ok {E : Env} {v p : Value} {l : Option Value} {r : Value} (h : splitV E v p l = .ok r) :
    ∃ ys, r = .arr ys ∧ ∀ j x, ys.getN j = some x → tagOf x = .bytes := by
  revert h
  -- 1: `Str.split` answers; 2: the regex branch; 3: no other shape
  fun_cases splitV E v p l <;> intro h
  case case1 hs =>
    subst h
    revert hs
    fun_cases Str.split v p l <;> intro hs <;> cases hs
    exact ⟨_, rfl, getN_bytesArr _⟩
  case case2 => cases h; exact ⟨_, rfl, getN_rawBytesArr _⟩
  case case3 => cases h

theorem keys_ok {v r : Value} (h : Coll.keys v = .ok r) :
    ∃ ys, r = .arr ys ∧ ∀ j x, ys.getN j = some x → tagOf x = .bytes := by
  cases v
  case obj => cases h; exact ⟨_, rfl, getN_keysArr _⟩
  all_goals cases h

theorem popV_ok {v r : Value} (h : popV v = .ok r) : ∃ xs, v = .arr xs ∧ r = .arr (popList xs) := by
  cases v
  case arr => cases h; exact ⟨_, rfl, rfl⟩
  all_goals cases h

theorem values_ok {v r : Value} (h : Coll.values v = .ok r) :
    ∃ m, v = .obj m ∧ r = .arr (Coll.ofList (Coll.valuesL m)) := by
  cases v
  case obj => cases h; exact ⟨_, rfl, rfl⟩
  all_goals cases h

theorem pushV_ok {v x r : Value} (h : pushV v x = .ok r) :
    ∃ a, v = .arr a ∧ r = .arr (a.append (.cons x .nil)) := by
  cases v
  case arr => cases h; exact ⟨_, rfl, rfl⟩
  all_goals cases h

theorem appendV_ok {v w r : Value} (h : appendV v w = .ok r) :
    ∃ a b, v = .arr a ∧ w = .arr b ∧ r = .arr (a.append b) := by
  unfold appendV at h
  split at h
  · cases h; exact ⟨_, _, rfl, rfl, rfl⟩
  · cases h

theorem slice_ok {v s : Value} {e : Option Value} {r : Value} (h : Coll.slice v s e = .ok r) :
    (∃ b b', v = .bytes b ∧ r = .bytes b') ∨
    (∃ xs i n, v = .arr xs ∧ r = .arr (Coll.ofList (((Coll.toList xs).drop i).take n))) := by
  revert h
  -- the two branches that return a value: a string, an array
  fun_cases Coll.slice v s e <;> intro h <;> cases h
  · exact .inl ⟨_, _, rfl, rfl⟩
  · exact .inr ⟨_, _, _, rfl, rfl⟩

theorem getN_slice (xs : VList) (i n j : Nat) (x : Value)
    (h : (Coll.ofList (((Coll.toList xs).drop i).take n)).getN j = some x) :
    xs.getN (i + j) = some x := by
  rw [getN_ofList] at h
  rw [List.getElem?_take] at h
  split at h
  · rw [List.getElem?_drop, getN_toList] at h; exact h
  · cases h

theorem compact_ok {v : Value} {a b c d e f : Option Value} {r : Value}
    (h : Coll.compact v a b c d e f = .ok r) :
    (∃ m m', v = .obj m ∧ r = .obj m') ∨ (∃ xs ys, v = .arr xs ∧ r = .arr ys) := by
  revert h
  fun_cases Coll.compact v a b c d e f <;> intro h <;> cases h
  · exact .inl ⟨_, _, rfl, rfl⟩
  · exact .inr ⟨_, _, rfl, rfl⟩

theorem flattenV_ok {v : Value} {s e : Option Value} {r : Value} (h : flattenV v s e = .ok r) :
    (∃ m m', v = .obj m ∧ r = .obj m') ∨ (∃ xs ys, v = .arr xs ∧ r = .arr ys) := by
  revert h
  fun_cases flattenV v s e <;> intro h
  case case1 =>
    have h := ofRes_ok h
    revert h
    fun_cases Conv.Flat.flatten v (s.getD (.bytes [46])) _ <;> intro h <;> cases h
    · exact .inr ⟨_, _, rfl, rfl⟩
    · exact .inl ⟨_, _, rfl, rfl⟩
  case case2 => cases h

theorem unique_tag {v r : Value} (h : Coll.unique v = .ok r) : tagOf r = .array := by
  cases v <;> ok_tag h

theorem toEntries_tag {v r : Value} (h : ofRes (Conv.toEntries v) = .ok r) : tagOf r = .array := by
  have h := ofRes_ok h
  cases v <;> ok_tag h

theorem fromEntriesLoop_tag (xs : VList) (acc : VMap) (r : Value)
    (h : Conv.fromEntriesLoop xs acc = .ok r) : tagOf r = .object := by
  revert h
  fun_induction Conv.fromEntriesLoop xs acc <;> intro h
  case case2 ih => exact ih h
  all_goals ok_tag h

theorem fromEntries_tag {v r : Value} (h : ofRes (Conv.fromEntries v) = .ok r) : tagOf r = .object := by
  have h := ofRes_ok h
  cases v
  case arr => exact fromEntriesLoop_tag _ _ _ h
  all_goals cases h

theorem unflattenV_tag {v : Value} {s o : Option Value} {r : Value} (h : unflattenV v s o = .ok r) :
    tagOf r = .object := by
  have h := ofRes_ok h
  revert h
  fun_cases Conv.Flat.unflatten v (s.getD (.bytes [46])) (o.getD (.bool true)) <;> intro h <;> ok_tag h

theorem mem_of_tag_array {r : Value} (h : tagOf r = .array) : mem r anyArray = true :=
  mem_tag_kind h

theorem mem_of_tag_object {r : Value} (h : tagOf r = .object) : mem r anyObject = true :=
  mem_tag_kind h

end C03
