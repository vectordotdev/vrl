/-
  What the parser of `VrlModel.Json` does with the text the printer writes: `parse_pv` and its
  companions say that it reads the value back exactly when the value nests less deep than the
  parser's budget, and rejects the text otherwise.  By structural recursion over the mutual
  `Value`/`VList`/`VMap`, for both printer modes, any indentation level, any continuation `rest`
  that does not continue a number, and any float primitives satisfying `FloatTextOK` on the floats
  of the value.  Any text that opens as many brackets as the budget is rejected (`parseValue_deep`).
-/
import VrlProofs.Lemmas.Value
import VrlProofs.Lemmas.JsonNum
import VrlProofs.Lemmas.JsonStr

namespace VMap

theorem fromRawAux_cons (k : List Nat) (v : Value) : (m acc : VMap) → allGt k m = true →
    fromRawAux (.cons k v acc) m = .cons k v (fromRawAux acc m)
  | .nil, _, _ => rfl
  | .cons l w m, acc, h => by
    rw [allGt_cons] at h
    rw [fromRawAux, insert_cons_of_lt v w acc h.1, fromRawAux_cons k v m _ h.2, fromRawAux]

theorem fromRaw_sorted : (m : VMap) → m.SortedKeys = true → fromRaw m = m
  | .nil, _ => rfl
  | .cons k v m, h => by
    rw [sortedKeys_cons] at h
    have ih := fromRaw_sorted m h.2
    unfold fromRaw at ih ⊢
    rw [fromRawAux, VMap.insert, fromRawAux_cons k v m .nil h.1, ih]

end VMap

namespace Json

theorem allGt_mapFloatsM (g : Nat → Nat) (k : List Nat) : (m : VMap) →
    VMap.allGt k (mapFloatsM g m) = VMap.allGt k m
  | .nil => rfl
  | .cons l x m => by simp [mapFloatsM, VMap.allGt, allGt_mapFloatsM g k m]

theorem sortedKeys_mapFloatsM (g : Nat → Nat) : (m : VMap) →
    (mapFloatsM g m).SortedKeys = m.SortedKeys
  | .nil => rfl
  | .cons k x m => by simp [mapFloatsM, VMap.SortedKeys, allGt_mapFloatsM, sortedKeys_mapFloatsM g m]

theorem sortedKeys_of_repr : (m : VMap) → jsonReprM m = true → m.SortedKeys = true
  | .nil, _ => rfl
  | .cons k x m, h => by
    simp only [jsonReprM, Bool.and_eq_true] at h
    simp [VMap.SortedKeys, h.1.2, sortedKeys_of_repr m h.2]

theorem skipWs_spaces : (n : Nat) → (X : List Nat) → skipWs (List.replicate n 32 ++ X) = skipWs X
  | 0, _ => rfl
  | n + 1, X => by
    simp only [List.replicate_succ, List.cons_append, skipWs]
    simp [isWs, skipWs_spaces n X]

theorem skipWs_nl (pretty : Bool) (lvl : Nat) (X : List Nat) : skipWs (nl pretty lvl ++ X) = skipWs X := by
  cases pretty
  · rfl
  · simp only [nl, ↓reduceIte, List.cons_append, skipWs]
    simp [isWs, skipWs_spaces]

def numStart (c : Nat) : Bool := c == 45 || isDigit c

def valueStart (c : Nat) : Bool :=
  c == 110 || c == 116 || c == 102 || c == 34 || c == 91 || c == 123 || numStart c

theorem ne_of_test (p : Nat → Bool) {c k : Nat} (h : p c = true) (hk : p k = false) : c ≠ k :=
  fun e => by rw [e, hk] at h; cases h

theorem skipWs_start (s : List Nat) (h : headIn valueStart s = true) : skipWs s = s := by
  cases s with
  | nil => rfl
  | cons c r =>
    have hw : isWs c = false := by
      simp only [isWs, Bool.or_eq_false_iff, beq_eq_false_iff_ne]
      exact ⟨⟨⟨ne_of_test valueStart h rfl, ne_of_test valueStart h rfl⟩, ne_of_test valueStart h rfl⟩,
        ne_of_test valueStart h rfl⟩
    rw [skipWs, hw]; rfl

theorem render_head (t : NumTok) (hw : t.wf = true) : headIn numStart t.render = true := by
  obtain ⟨neg, int, frac, exp⟩ := t
  simp only [NumTok.wf, Bool.and_eq_true] at hw
  obtain ⟨c, r, rfl, hc⟩ := wfInt_head int hw.1.1
  cases neg
  · simp [NumTok.render, signText, headIn, numStart, hc]
  · rfl

theorem headIn_numStart (s : List Nat) (h : headIn numStart s = true) : headIn valueStart s = true := by
  cases s with
  | nil => cases h
  | cons c r => simp only [headIn] at h ⊢; simp [valueStart, h]

theorem pv_head (P : Prims) (pretty : Bool) (lvl : Nat) (v : Value) (hr : jsonRepr v = true)
    (hf : AllFloats (FloatTextOK P) v) : headIn valueStart (pv P pretty lvl v) = true := by
  cases v with
  | null => rw [pv]; rfl
  | bool b => cases b <;> (rw [pv]; rfl)
  | int i => rw [pv]; exact headIn_numStart _ (render_head _ (intTok_wf i))
  | float b =>
    simp only [jsonRepr, Bool.and_eq_true] at hr
    obtain ⟨t, hw, _, hshow, _⟩ := hf
    rw [pv, showFloat, if_pos hr.2, hshow]; exact headIn_numStart _ (render_head t hw)
  | bytes b => rw [pv]; rfl
  | ts t => simp [jsonRepr] at hr
  | regex r => simp [jsonRepr] at hr
  | arr xs => rw [pv]; rfl
  | obj m => rw [pv]; rfl

section dispatch
variable (pf : List Nat → Option Nat) (jv : Bool)

theorem parseValue_null {f d : Nat} {rest : List Nat} :
    parseValue pf jv (f + 1) d (110 :: 117 :: 108 :: 108 :: rest) = some (Value.null, rest) := by
  rw [parseValue]; simp [skipWs, isWs, stripPrefix]

theorem parseValue_true {f d : Nat} {rest : List Nat} :
    parseValue pf jv (f + 1) d (116 :: 114 :: 117 :: 101 :: rest) = some (Value.bool true, rest) := by
  rw [parseValue]; simp [skipWs, isWs, stripPrefix]

theorem parseValue_false {f d : Nat} {rest : List Nat} :
    parseValue pf jv (f + 1) d (102 :: 97 :: 108 :: 115 :: 101 :: rest) = some (Value.bool false, rest) := by
  rw [parseValue]; simp [skipWs, isWs, stripPrefix]

theorem parseValue_num {f d : Nat} {s r' : List Nat} {t : NumTok} (n : Num)
    (hc : headIn numStart s = true)
    (hl : lexNum s = some (t, r')) (hn : numOfTok pf t = some n) :
    parseValue pf jv (f + 1) d s = some (numToValue jv n, r') := by
  have hws := skipWs_start s (headIn_numStart s hc)
  cases s with
  | nil => cases hc
  | cons c r =>
    have hne : c ≠ 110 ∧ c ≠ 116 ∧ c ≠ 102 :=
      ⟨ne_of_test numStart hc rfl, ne_of_test numStart hc rfl, ne_of_test numStart hc rfl⟩
    simp only [headIn, numStart, Bool.or_eq_true, beq_iff_eq] at hc
    rw [parseValue]
    simp only [hws, if_neg hne.1, if_neg hne.2.1, if_neg hne.2.2, if_pos hc, hl, hn, Option.map_some]

theorem parseValue_str {f d : Nat} {r r' b : List Nat} (hp : parseStr r = some (b, r')) :
    parseValue pf jv (f + 1) d (34 :: r) = some (Value.bytes b, r') := by
  rw [parseValue]; simp [skipWs, isWs, isDigit, hp]

theorem parseValue_arr_eq (f d : Nat) (r : List Nat) :
    parseValue pf jv (f + 1) d (91 :: r) =
      if d ≤ 1 then none else (parseElems pf jv f (d - 1) r true).map fun p => (Value.arr p.1, p.2) := by
  rw [parseValue]
  cases he : parseElems pf jv f (d - 1) r true <;> by_cases h : d ≤ 1 <;> simp [skipWs, isWs, isDigit, h, he]

theorem parseValue_obj_eq (f d : Nat) (r : List Nat) :
    parseValue pf jv (f + 1) d (123 :: r) =
      if d ≤ 1 then none
      else (parseMembers pf jv f (d - 1) r true).map fun p => (Value.obj (VMap.fromRaw p.1), p.2) := by
  rw [parseValue]
  cases he : parseMembers pf jv f (d - 1) r true <;> by_cases h : d ≤ 1 <;> simp [skipWs, isWs, isDigit, h, he]

theorem parseValue_space : (f d : Nat) → (X : List Nat) →
    parseValue pf jv f d (32 :: X) = parseValue pf jv f d X
  | 0, _, _ => by rw [parseValue, parseValue]
  | f + 1, d, X => by rw [parseValue, parseValue]; simp [skipWs, isWs]

theorem parseElems_close {f d : Nat} {s rest : List Nat} {first : Bool} (hs : skipWs s = 93 :: rest) :
    parseElems pf jv (f + 1) d s first = some (VList.nil, rest) := by
  rw [parseElems, hs]; simp

/-- One step of `parseElems` in front of an element: `s0` is the text of the element, reached directly
    at the first position and behind a comma and the blanks of `r0` otherwise.  `p`, `q` say whether
    the value and the remaining elements are read. -/
theorem parseElems_cons (first : Bool) {f d : Nat} {s r0 s0 s1 s2 : List Nat} {v : Value} {vs : VList}
    {p q : Prop} [Decidable p] [Decidable q]
    (hs : skipWs s = bif first then s0 else 44 :: r0) (hr : skipWs r0 = s0)
    (h0 : headIn valueStart s0 = true)
    (hv : parseValue pf jv f d s0 = if p then some (v, s1) else none)
    (hvs : parseElems pf jv f d s1 false = if q then some (vs, s2) else none) :
    parseElems pf jv (f + 1) d s first = if p ∧ q then some (VList.cons v vs, s2) else none := by
  cases s0 with
  | nil => cases h0
  | cons c r =>
    have hne : c ≠ 93 := ne_of_test valueStart h0 rfl
    rw [parseElems, hs]
    cases first <;> by_cases hp : p <;> by_cases hq : q <;> simp [elemStart, hr, hne, hv, hvs, hp, hq]

/-- The step on the printer's layout of an element (`A` the text of the value, `B` what follows it),
    with the fuel of the whole: the value and the remaining elements are shorter, so what is left
    suffices for both.  The text comes as an equation `hs` so that the caller can bring what the
    printer wrote into this shape. -/
theorem parseElems_printed (first pretty : Bool) {f d lvl : Nat} {s A B s2 : List Nat} {v : Value}
    {vs : VList} {p q : Prop} [Decidable p] [Decidable q]
    (hs : s = bif first then nl pretty lvl ++ (A ++ B) else 44 :: (nl pretty lvl ++ (A ++ B)))
    (hA : headIn valueStart A = true) (hfuel : 2 * s.length + 2 ≤ f + 1)
    (hv : 2 * (A ++ B).length + 1 ≤ f → parseValue pf jv f d (A ++ B) = if p then some (v, B) else none)
    (hvs : 2 * B.length + 2 ≤ f → parseElems pf jv f d B false = if q then some (vs, s2) else none) :
    parseElems pf jv (f + 1) d s first = if p ∧ q then some (VList.cons v vs, s2) else none := by
  subst hs
  have hlen := length_pos_of_headIn _ A hA
  have hf : 2 * (A ++ B).length + 1 ≤ f ∧ 2 * B.length + 2 ≤ f := by
    cases first <;> simp only [cond_true, cond_false, List.length_append, List.length_cons] at hfuel ⊢ <;> omega
  have hc := headIn_append _ A B hA
  have hr : skipWs (nl pretty lvl ++ (A ++ B)) = A ++ B := by rw [skipWs_nl, skipWs_start _ hc]
  refine parseElems_cons pf jv first ?_ hr hc (hv hf.1) (hvs hf.2)
  cases first
  · rfl
  · exact hr

theorem parseMembers_close {f d : Nat} {s rest : List Nat} {first : Bool} (hs : skipWs s = 125 :: rest) :
    parseMembers pf jv (f + 1) d s first = some (VMap.nil, rest) := by
  rw [parseMembers, hs]; simp

/-- one step of `parseMembers` in front of a member: `s0` is what follows the opening quote of the key -/
theorem parseMembers_cons (first : Bool) {f d : Nat} {s r0 s0 s1 s2 s3 s4 k : List Nat} {v : Value} {m : VMap}
    {p q : Prop} [Decidable p] [Decidable q]
    (hs : skipWs s = bif first then 34 :: s0 else 44 :: r0) (hr : skipWs r0 = 34 :: s0)
    (hk : parseStr s0 = some (k, s1)) (hc : skipWs s1 = 58 :: s2)
    (hv : parseValue pf jv f d s2 = if p then some (v, s3) else none)
    (hm : parseMembers pf jv f d s3 false = if q then some (m, s4) else none) :
    parseMembers pf jv (f + 1) d s first = if p ∧ q then some (VMap.cons k v m, s4) else none := by
  rw [parseMembers, hs]
  cases first <;> by_cases h1 : p <;> by_cases h2 : q <;> simp [keyStart, hr, hk, hc, hv, hm, h1, h2]

/-- the step on the printer's layout of a member `"k": A`, with the fuel of the whole -/
theorem parseMembers_printed (first pretty : Bool) {f d lvl : Nat} {s A B s4 k : List Nat}
    {v : Value} {m : VMap} {p q : Prop} [Decidable p] [Decidable q]
    (hs : s = bif first then nl pretty lvl ++ (quote k ++ (colon pretty ++ (A ++ B)))
      else 44 :: (nl pretty lvl ++ (quote k ++ (colon pretty ++ (A ++ B)))))
    (hk : validUtf8 k = true) (hA : headIn valueStart A = true) (hfuel : 2 * s.length + 2 ≤ f + 1)
    (hv : 2 * (A ++ B).length + 1 ≤ f → parseValue pf jv f d (A ++ B) = if p then some (v, B) else none)
    (hm : 2 * B.length + 2 ≤ f → parseMembers pf jv f d B false = if q then some (m, s4) else none) :
    parseMembers pf jv (f + 1) d s first = if p ∧ q then some (VMap.cons k v m, s4) else none := by
  subst hs
  have hlen := length_pos_of_headIn _ A hA
  have hf : 2 * (A ++ B).length + 1 ≤ f ∧ 2 * B.length + 2 ≤ f := by
    cases first <;> simp only [cond_true, cond_false, List.length_append, List.length_cons] at hfuel ⊢ <;> omega
  -- after the colon the parser sees the value, behind a space in pretty mode
  obtain ⟨Y, hY, hpY⟩ : ∃ Y, colon pretty ++ (A ++ B) = 58 :: Y ∧
      parseValue pf jv f d Y = parseValue pf jv f d (A ++ B) := by
    cases pretty
    · exact ⟨_, rfl, rfl⟩
    · exact ⟨_, rfl, parseValue_space pf jv f d _⟩
  have hr : skipWs (nl pretty lvl ++ (quote k ++ (colon pretty ++ (A ++ B))))
      = 34 :: (escape k ++ 34 :: 58 :: Y) := by
    rw [skipWs_nl, hY]; simp [quote, skipWs, isWs]
  refine parseMembers_cons pf jv first ?_ hr (parseStr_escape k _ hk) rfl (hpY.trans (hv hf.1)) (hm hf.2)
  cases first
  · rfl
  · exact hr

end dispatch

section deep
variable (pf : List Nat → Option Nat) (jv : Bool)

theorem parseElems_first_none (f d : Nat) (s : List Nat) (hc : headIn valueStart s = true)
    (h : parseValue pf jv f d s = none) : parseElems pf jv (f + 1) d s true = none := by
  rw [parseElems, skipWs_start s hc]
  cases s with
  | nil => rfl
  | cons c r => simp [show c ≠ 93 from ne_of_test valueStart hc rfl, elemStart, h]

theorem parseValue_deep : (n d f : Nat) → (X : List Nat) → d ≤ n + 1 →
    parseValue pf jv f d (List.replicate (n + 1) 91 ++ X) = none
  | _, _, 0, _, _ => by rw [parseValue]
  | 0, d, f + 1, X, h => (parseValue_arr_eq pf jv f d X).trans (if_pos h)
  | n + 1, d, f + 1, X, h => by
    rw [List.replicate_succ, List.cons_append, parseValue_arr_eq]
    cases f with
    | zero => rw [parseElems]; exact ite_self _
    | succ f =>
      rw [parseElems_first_none pf jv f _ _ rfl (parseValue_deep n (d - 1) f X (by omega))]
      exact ite_self _
end deep

theorem not_numCont_pl (P : Prims) (pretty : Bool) (lvl : Nat) (xs : VList) (rest : List Nat) :
    headIn numCont (pl P pretty lvl xs ++ rest) = false := by
  cases xs with
  | nil => rw [pl]; cases pretty <;> rfl
  | cons x xs => rw [pl]; rfl

theorem not_numCont_pm (P : Prims) (pretty : Bool) (lvl : Nat) (m : VMap) (rest : List Nat) :
    headIn numCont (pm P pretty lvl m ++ rest) = false := by
  cases m with
  | nil => rw [pm]; cases pretty <;> rfl
  | cons k x m => rw [pm]; rfl

theorem readBack_of (P : Prims) (b : Nat) (t : NumTok) (y : Nat) (hshow : P.showF b = t.render)
    (hy : P.parseF t.render = some y) : readBack P b = y := by
  simp [readBack, hshow, hy]

theorem budget_step {α β : Type} {n d : Nat} (h : ¬ d ≤ 1) (a : α) (g : α → β) :
    (if n < d - 1 then some a else none).map g = if n + 1 < d then some (g a) else none := by
  have hi : n < d - 1 ↔ n + 1 < d := by omega
  simp only [hi]
  split <;> rfl

/- `0 < d`: with `d = 0` a scalar is still read, since only brackets look at the budget.  `first` is
   the parser's own flag: the text after `[` or `{` when it is set, the text after an element or
   member when it is not.
   Fuel: a container is a bracket and a list, and needs one call more than the list:
   `2 * (len + 1) + 1 = (2 * len + 2) + 1`.  A list `nl ++ A ++ B` needs one call more than the value
   at `A ++ B` (`2 * len + 2 ≥ (2 * len + 1) + 1`) and than the rest `B` (`A` has a byte).  `fuelFor`
   is the bound of a list, so it covers a whole document. -/
mutual
  theorem parse_pv (P : Prims) (jv : Bool) (pretty : Bool) : (v : Value) → (lvl f d : Nat) → (rest : List Nat) →
      jsonRepr v = true → AllFloats (FloatTextOK P) v → 0 < d → headIn numCont rest = false →
      2 * (pv P pretty lvl v ++ rest).length + 1 ≤ f →
      parseValue P.parseF jv f d (pv P pretty lvl v ++ rest) =
        if depth v < d then some (mapFloats (readBack P) v, rest) else none
    | _, _, 0, _, _, _, _, _, _, hfuel => by omega
    | .null, lvl, f + 1, d, rest, _, _, hd, _, _ => by
      rw [pv, mapFloats]; exact (parseValue_null _ _).trans (if_pos hd).symm
    | .bool true, lvl, f + 1, d, rest, _, _, hd, _, _ => by
      rw [pv, mapFloats]; exact (parseValue_true _ _).trans (if_pos hd).symm
    | .bool false, lvl, f + 1, d, rest, _, _, hd, _, _ => by
      rw [pv, mapFloats]; exact (parseValue_false _ _).trans (if_pos hd).symm
    | .int i, lvl, f + 1, d, rest, hr, _, hd, hsep, _ => by
      rw [pv, mapFloats, showInt]
      exact (parseValue_num _ _ (Num.int i) (headIn_append _ _ _ (render_head _ (intTok_wf i)))
        (lexNum_render (intTok i) rest (intTok_wf i) hsep) (numOfTok_intTok _ i hr)).trans (if_pos hd).symm
    | .float b, lvl, f + 1, d, rest, hr, hf, hd, hsep, _ => by
      simp only [jsonRepr, Bool.and_eq_true] at hr
      obtain ⟨t, hw, hfl, hshow, hsome⟩ := hf
      obtain ⟨y, hy⟩ := Option.isSome_iff_exists.mp hsome
      rw [pv, mapFloats, showFloat, if_pos hr.2, hshow, readBack_of P b t y hshow hy]
      exact (parseValue_num _ _ (Num.flt y) (headIn_append _ _ _ (render_head t hw))
        (lexNum_render t rest hw hsep) (by simp [numOfTok, hfl, hy])).trans (if_pos hd).symm
    | .bytes b, lvl, f + 1, d, rest, hr, _, hd, _, _ => by
      rw [pv, mapFloats, utf8Lossy_valid b hr, quote]
      simp only [List.cons_append, List.append_assoc, List.nil_append]
      exact (parseValue_str _ _ (parseStr_escape b rest hr)).trans (if_pos hd).symm
    | .ts _, _, _ + 1, _, _, hr, _, _, _, _ => by simp [jsonRepr] at hr
    | .regex _, _, _ + 1, _, _, hr, _, _, _, _ => by simp [jsonRepr] at hr
    | .arr xs, lvl, f + 1, d, rest, hr, hf, hd, _, hfuel => by
      rw [pv, List.cons_append] at hfuel ⊢
      rw [List.length_cons] at hfuel
      rw [mapFloats, depth, parseValue_arr_eq]
      by_cases h1 : d ≤ 1
      · rw [if_pos h1, if_neg (by omega)]
      · rw [if_neg h1, show parseElems P.parseF jv f (d - 1) (pl0 P pretty lvl xs ++ rest) true = _ from
          parse_elems P jv pretty true xs lvl f (d - 1) rest hr hf (by omega)
            (show 2 * (pl0 P pretty lvl xs ++ rest).length + 2 ≤ f by omega)]
        exact budget_step h1 _ _
    | .obj m, lvl, f + 1, d, rest, hr, hf, hd, _, hfuel => by
      rw [pv, List.cons_append] at hfuel ⊢
      rw [List.length_cons] at hfuel
      rw [mapFloats, depth, parseValue_obj_eq]
      by_cases h1 : d ≤ 1
      · rw [if_pos h1, if_neg (by omega)]
      · rw [if_neg h1, show parseMembers P.parseF jv f (d - 1) (pm0 P pretty lvl m ++ rest) true = _ from
          parse_members P jv pretty true m lvl f (d - 1) rest hr hf (by omega)
            (show 2 * (pm0 P pretty lvl m ++ rest).length + 2 ≤ f by omega)]
        refine (budget_step h1 _ _).trans ?_
        simp only [VMap.fromRaw_sorted _ ((sortedKeys_mapFloatsM _ m).trans (sortedKeys_of_repr m hr))]
  theorem parse_elems (P : Prims) (jv : Bool) (pretty : Bool) (first : Bool) : (xs : VList) → (lvl f d : Nat) →
      (rest : List Nat) → jsonReprL xs = true → AllFloatsL (FloatTextOK P) xs → 0 < d →
      2 * ((bif first then pl0 P pretty lvl xs else pl P pretty lvl xs) ++ rest).length + 2 ≤ f →
      parseElems P.parseF jv f d ((bif first then pl0 P pretty lvl xs else pl P pretty lvl xs) ++ rest) first =
        if depthL xs < d then some (mapFloatsL (readBack P) xs, rest) else none
    | _, _, 0, _, _, _, _, _, hfuel => by omega
    | .nil, lvl, f + 1, d, rest, _, _, hd, _ => by
      rw [mapFloatsL]
      refine (parseElems_close _ _ ?_).trans (if_pos hd).symm
      cases first
      · rw [cond_false, pl, List.append_assoc, skipWs_nl]; rfl
      · rw [cond_true, pl0]; rfl
    | .cons x xs, lvl, f + 1, d, rest, hr, hf, hd, hfuel => by
      simp only [jsonReprL, Bool.and_eq_true] at hr
      rw [mapFloatsL, depthL]; simp only [Nat.max_lt]
      exact parseElems_printed _ _ first pretty (lvl := lvl + 1)
        (by cases first <;> simp only [cond_true, cond_false, pl0, pl, List.cons_append, List.append_assoc])
        (pv_head P pretty (lvl + 1) x hr.1 hf.1) hfuel
        (parse_pv P jv pretty x (lvl + 1) f d _ hr.1 hf.1 hd (not_numCont_pl P pretty lvl xs rest))
        (parse_elems P jv pretty false xs lvl f d rest hr.2 hf.2 hd)
  theorem parse_members (P : Prims) (jv : Bool) (pretty : Bool) (first : Bool) : (m : VMap) → (lvl f d : Nat) →
      (rest : List Nat) → jsonReprM m = true → AllFloatsM (FloatTextOK P) m → 0 < d →
      2 * ((bif first then pm0 P pretty lvl m else pm P pretty lvl m) ++ rest).length + 2 ≤ f →
      parseMembers P.parseF jv f d ((bif first then pm0 P pretty lvl m else pm P pretty lvl m) ++ rest) first =
        if depthM m < d then some (mapFloatsM (readBack P) m, rest) else none
    | _, _, 0, _, _, _, _, _, hfuel => by omega
    | .nil, lvl, f + 1, d, rest, _, _, hd, _ => by
      rw [mapFloatsM]
      refine (parseMembers_close _ _ ?_).trans (if_pos hd).symm
      cases first
      · rw [cond_false, pm, List.append_assoc, skipWs_nl]; rfl
      · rw [cond_true, pm0]; rfl
    | .cons k x m, lvl, f + 1, d, rest, hr, hf, hd, hfuel => by
      simp only [jsonReprM, Bool.and_eq_true] at hr
      rw [mapFloatsM, depthM]; simp only [Nat.max_lt]
      exact parseMembers_printed _ _ first pretty (lvl := lvl + 1)
        (by cases first <;> simp only [cond_true, cond_false, pm0, pm, List.cons_append, List.append_assoc]) hr.1.1.1
        (pv_head P pretty (lvl + 1) x hr.1.1.2 hf.1) hfuel
        (parse_pv P jv pretty x (lvl + 1) f d _ hr.1.1.2 hf.1 hd (not_numCont_pm P pretty lvl m rest))
        (parse_members P jv pretty false m lvl f d rest hr.2 hf.2 hd)
end

theorem parse_pl0 (P : Prims) (jv : Bool) (pretty : Bool) : (xs : VList) → (lvl f d : Nat) → (rest : List Nat) →
    jsonReprL xs = true → AllFloatsL (FloatTextOK P) xs → depthL xs < d →
    2 * (pl0 P pretty lvl xs ++ rest).length + 2 ≤ f →
    parseElems P.parseF jv f d (pl0 P pretty lvl xs ++ rest) true = some (mapFloatsL (readBack P) xs, rest) :=
  fun xs lvl f d rest hr hf hd h =>
    (parse_elems P jv pretty true xs lvl f d rest hr hf (by omega) h).trans (if_pos hd)

theorem parse_pl (P : Prims) (jv : Bool) (pretty : Bool) : (xs : VList) → (lvl f d : Nat) → (rest : List Nat) →
    jsonReprL xs = true → AllFloatsL (FloatTextOK P) xs → depthL xs < d →
    2 * (pl P pretty lvl xs ++ rest).length + 2 ≤ f →
    parseElems P.parseF jv f d (pl P pretty lvl xs ++ rest) false = some (mapFloatsL (readBack P) xs, rest) :=
  fun xs lvl f d rest hr hf hd h =>
    (parse_elems P jv pretty false xs lvl f d rest hr hf (by omega) h).trans (if_pos hd)

theorem parse_pm0 (P : Prims) (jv : Bool) (pretty : Bool) : (m : VMap) → (lvl f d : Nat) → (rest : List Nat) →
    jsonReprM m = true → AllFloatsM (FloatTextOK P) m → depthM m < d →
    2 * (pm0 P pretty lvl m ++ rest).length + 2 ≤ f →
    parseMembers P.parseF jv f d (pm0 P pretty lvl m ++ rest) true = some (mapFloatsM (readBack P) m, rest) :=
  fun m lvl f d rest hr hf hd h =>
    (parse_members P jv pretty true m lvl f d rest hr hf (by omega) h).trans (if_pos hd)

theorem parse_pm (P : Prims) (jv : Bool) (pretty : Bool) : (m : VMap) → (lvl f d : Nat) → (rest : List Nat) →
    jsonReprM m = true → AllFloatsM (FloatTextOK P) m → depthM m < d →
    2 * (pm P pretty lvl m ++ rest).length + 2 ≤ f →
    parseMembers P.parseF jv f d (pm P pretty lvl m ++ rest) false = some (mapFloatsM (readBack P) m, rest) :=
  fun m lvl f d rest hr hf hd h =>
    (parse_members P jv pretty false m lvl f d rest hr hf (by omega) h).trans (if_pos hd)

end Json
