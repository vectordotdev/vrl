/-
  unflatten (C25): with a non-empty separator the depth bound of the model is never exhausted
  (`unflattenEntries` is never `none`, the model's `.panic` outcome): every level passes down keys
  shorter by at least the separator. The empty separator is refused with `.err`.
-/
import VrlProofs.Lemmas.C25Split
import VrlModel.C25

namespace Conv.Flat

/-- what a triple hands down to the next level: its rest with its value, if it has a rest -/
def φ (t : Triple) : Option (Key × Value) := t.2.1.map fun r => (r, t.2.2)

def tripleOf (sep : Key) (e : Key × Value) : Triple :=
  ((headRest sep e.1).1, (headRest sep e.1).2, e.2)

theorem triplesOf_eq (sep : Key) (es : Entries) : triplesOf sep es = es.map (tripleOf sep) := rfl

/-- the measure that falls from level to level: key bytes and value weights of all entries -/
def mu (es : Entries) : Nat := (es.map fun e => e.1.length + 1 + weight e.2).sum

theorem mu_cons (e : Key × Value) (es : Entries) : mu (e :: es) = e.1.length + 1 + weight e.2 + mu es := by
  simp [mu]

theorem mu_toList : (m : VMap) → mu (toList m) = weightM m
  | .nil => rfl
  | .cons k v rest => by simp [toList, mu_cons, weightM, mu_toList rest]

theorem weight_le_mu (es : Entries) (e : Key × Value) (he : e ∈ es) : weight e.2 + 1 ≤ mu es := by
  induction es with
  | nil => simp at he
  | cons a es ih =>
    rw [mu_cons]
    rcases List.mem_cons.mp he with h | h
    · subst h; omega
    · have := ih h; omega

theorem phi_triple (sep : Key) (hne : sep ≠ []) (e : Key × Value) :
    φ (tripleOf sep e) = none ∨
      ∃ r, φ (tripleOf sep e) = some (r, e.2) ∧ r.length + 1 ≤ e.1.length := by
  cases hso : splitOnce sep e.1 with
  | none => left; simp [φ, tripleOf, headRest, hso]
  | some p =>
    obtain ⟨hd, r⟩ := p
    right
    exact ⟨r, by simp [φ, tripleOf, headRest, hso], splitOnce_rest_lt sep e.1 hd r hne hso⟩

/-- the rests passed down for one head are smaller than the entries they come from, by at
    least one byte (of the separator) each -/
theorem mu_rests (sep : Key) (hne : sep ≠ []) (h : Key) : ∀ (es : Entries),
    mu (((triplesOf sep es).filter fun t => t.1 == h).filterMap φ) +
      (((triplesOf sep es).filter fun t => t.1 == h).filterMap φ).length ≤ mu es := by
  intro es
  induction es with
  | nil => simp [triplesOf, mu]
  | cons e es ih =>
    rw [triplesOf_eq] at ih ⊢
    rw [List.map_cons, mu_cons, List.filter_cons]
    split
    · rw [List.filterMap_cons]
      rcases phi_triple sep hne e with hp | ⟨r, hp, hlen⟩
      · rw [hp]; simp only; omega
      · rw [hp]
        simp only [List.length_cons]
        rw [mu_cons]
        simp only
        omega
    · omega

theorem mapM_isSome {α β : Type} (f : α → Option β) : (l : List α) →
    (∀ x ∈ l, (f x).isSome = true) → (l.mapM f).isSome = true
  | [], _ => rfl
  | a :: l, h => by
    have h1 := h a (by simp)
    have h2 := mapM_isSome f l (fun x hx => h x (by simp [hx]))
    obtain ⟨b, hb⟩ := Option.isSome_iff_exists.mp h1
    obtain ⟨bs, hbs⟩ := Option.isSome_iff_exists.mp h2
    simp [List.mapM_cons, hb, hbs]

theorem leafWith_isSome (recur : Entries → Option VMap) (fuel : Nat)
    (hrec : ∀ es', mu es' < fuel → (recur es').isSome = true) (r : Bool) (v : Value)
    (hv : weight v ≤ fuel) : (leafWith recur r v).isSome = true := by
  unfold leafWith
  cases r with
  | false => rfl
  | true =>
    cases v with
    | obj m =>
      simp only [↓reduceIte, Option.isSome_map]
      apply hrec
      rw [mu_toList]
      simp only [weight] at hv
      omega
    | _ => rfl

theorem unflattenStep_isSome (sep : Key) (hne : sep ≠ []) (r : Bool) (fuel : Nat)
    (recur : Entries → Option VMap) (hrec : ∀ es', mu es' < fuel → (recur es').isSome = true)
    (es : Entries) (hmu : mu es < fuel + 1) : (unflattenStep recur sep r es).isSome = true := by
  unfold unflattenStep
  simp only [Option.isSome_map]
  apply mapM_isSome
  intro h hh
  simp only [Option.isSome_map]
  -- a value of the group is a value of an entry
  have hval : ∀ t ∈ (triplesOf sep es).filter (fun t => t.1 == h), weight t.2.2 ≤ fuel := by
    intro t ht
    obtain ⟨e, he, rfl⟩ := List.mem_map.mp (List.mem_filter.mp ht).1
    have := weight_le_mu es e he
    show weight e.2 ≤ fuel
    omega
  have hrests := mu_rests sep hne h es
  -- `h` is the head of some entry, so there is one
  have hfuel : 1 ≤ fuel := by
    cases es with
    | nil => simp [triplesOf, dedup] at hh
    | cons e es => rw [mu_cons] at hmu; omega
  have hthird : (recur (((triplesOf sep es).filter fun t => t.1 == h).filterMap φ)).isSome = true := by
    apply hrec
    cases hl : (((triplesOf sep es).filter fun t => t.1 == h).filterMap φ) with
    | nil => simp [mu]; omega
    | cons a l => rw [hl] at hrests; simp only [List.length_cons] at hrests; omega
  cases hg : (triplesOf sep es).filter (fun t => t.1 == h) with
  | nil =>
    rw [hg] at hthird
    simp only [groupValueWith, Option.isSome_map]
    exact hthird
  | cons t1 ts =>
    cases ts with
    | nil =>
      have hv := hval t1 (by rw [hg]; simp)
      obtain ⟨a, ro, v⟩ := t1
      cases ro with
      | none => simpa [groupValueWith] using leafWith_isSome recur fuel hrec r v hv
      | some rest =>
        simp only [groupValueWith, Option.isSome_map]
        exact leafWith_isSome recur fuel hrec r v hv
    | cons t2 ts =>
      rw [hg] at hthird
      simp only [groupValueWith, Option.isSome_map]
      exact hthird

theorem unflattenEntries_isSome (sep : Key) (hne : sep ≠ []) (r : Bool) : ∀ (fuel : Nat) (es : Entries),
    mu es < fuel → (unflattenEntries fuel sep r es).isSome = true := by
  intro fuel
  induction fuel with
  | zero => intro es h; omega
  | succ fuel ih =>
    intro es h
    simp only [unflattenEntries]
    exact unflattenStep_isSome sep hne r fuel _ ih es h

end Conv.Flat
