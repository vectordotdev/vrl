/-
  C26, sanity of the specification: `dropDefaults` yields a normal form — the result is still
  shaped and sorted, and dropping defaults again changes nothing.
-/
import VrlProofs.Lemmas.C26

namespace Proto

/-- what `dropDefaults` preserves for the value `x` of field `f` -/
def DDOK (pool : Pool) (f : Field) (x : Value) : Prop :=
  defect pool f (dropDefaults pool f x) = none ∧
  dropDefaults pool f (dropDefaults pool f x) = dropDefaults pool f x ∧
  isDefaultValue pool f (dropDefaults pool f x) = isDefaultValue pool f x ∧
  (dropDefaults pool f x).Sorted = true

theorem ddOK_of_fixed {pool : Pool} {f : Field} {x : Value} (hdd : dropDefaults pool f x = x)
    (hs : x.Sorted = true) (hd : defect pool f x = none) : DDOK pool f x := by
  unfold DDOK
  rw [hdd]
  exact ⟨hd, hdd, rfl, hs⟩

theorem allGt_ddEntries' (pool : Pool) (vk : Kind) (m : VMap) (k : List Nat) (h : VMap.allGt k m = true) :
    VMap.allGt k (ddEntries pool vk m) = true := allGt_ddEntries pool vk m k h

mutual
  theorem dd_field (pool : Pool) (f : Field) (x : Value) (hs : x.Sorted = true)
      (hd : defect pool f x = none) : DDOK pool f x := by
    cases shape_of_defect hd with
    | scalar hc => exact ddOK_of_fixed (dropDefaults_scalar hc _) hs hd
    | enum hc => exact ddOK_of_fixed (by rcases hc with rfl | rfl <;> rfl) hs hd
    | @list _ _ k a hl =>
      obtain ⟨h1, h2, _, h4⟩ := dd_list pool k a hs hl
      exact ⟨h1, congrArg Value.arr h2, by cases a <;> rfl, h4⟩
    | @map _ _ k ks m he =>
      obtain ⟨h1, h2, h4⟩ := dd_entries pool ks k m hs he
      exact ⟨h1, congrArg Value.obj h2, by cases m <;> rfl, h4⟩
    | @message _ _ _ _ md m hc hmd hm =>
      obtain ⟨h1, h2, h4⟩ := dd_map pool md.fields m hs hm
      unfold DDOK
      rw [dropDefaults_message hc hmd, dropDefaults_message hc hmd, h2]
      exact ⟨(defect_message hc hmd _).trans h1, rfl, by rcases hc with rfl | rfl <;> rfl, h4⟩
  theorem dd_list (pool : Pool) : (k : Kind) → (a : VList) → a.Sorted = true → defectList pool k a = none →
      defectList pool k (ddList pool k a) = none ∧ ddList pool k (ddList pool k a) = ddList pool k a ∧
      (ddList pool k a).isEmpty = a.isEmpty ∧ (ddList pool k a).Sorted = true
    | k, .nil, _, _ => ⟨rfl, rfl, rfl, rfl⟩
    | k, .cons x xs, hs, hd => by
      have hs := VList.sorted_cons.mp hs
      obtain ⟨hdx, hd⟩ := defectList_cons.mp hd
      obtain ⟨h1, h2, _, h4⟩ := dd_field pool (Field.plain k) x hs.1 hdx
      obtain ⟨g1, g2, _, g4⟩ := dd_list pool k xs hs.2 hd
      refine ⟨defectList_cons.mpr ⟨h1, g1⟩, ?_, rfl, ?_⟩
      · simp only [ddList, h2, g2]
      · simp only [ddList, VList.Sorted, h4, g4, Bool.and_self]
  theorem dd_entries (pool : Pool) : (ks : Scalar) → (vk : Kind) → (m : VMap) → m.Sorted = true →
      defectEntries pool ks vk m = none →
      defectEntries pool ks vk (ddEntries pool vk m) = none ∧
      ddEntries pool vk (ddEntries pool vk m) = ddEntries pool vk m ∧ (ddEntries pool vk m).Sorted = true
    | ks, vk, .nil, _, _ => ⟨rfl, rfl, rfl⟩
    | ks, vk, .cons k x rest, hs, hd => by
      obtain ⟨hsx, hgt, hsr⟩ := VMap.sorted_cons.mp hs
      obtain ⟨hcan, hdx, hd⟩ := defectEntries_cons.mp hd
      obtain ⟨h1, h2, _, h4⟩ := dd_field pool (Field.plain vk) x hsx hdx
      obtain ⟨g1, g2, g4⟩ := dd_entries pool ks vk rest hsr hd
      refine ⟨defectEntries_cons.mpr ⟨hcan, h1, g1⟩, ?_, ?_⟩
      · simp only [ddEntries, h2, g2]
      · simp only [ddEntries, VMap.Sorted, h4, g4, allGt_ddEntries pool vk rest k hgt, Bool.and_self]
  theorem dd_map (pool : Pool) : (fields : List Field) → (m : VMap) → m.Sorted = true →
      defectMap pool fields m = none →
      defectMap pool fields (ddMap pool fields m) = none ∧
      ddMap pool fields (ddMap pool fields m) = ddMap pool fields m ∧ (ddMap pool fields m).Sorted = true
    | fields, .nil, _, _ => ⟨rfl, rfl, rfl⟩
    | fields, .cons k x rest, hs, hd => by
      obtain ⟨hsx, hgt, hsr⟩ := VMap.sorted_cons.mp hs
      obtain ⟨f, hfk, hdx, hd⟩ := defectMap_cons.mp hd
      obtain ⟨h1, h2, h3, h4⟩ := dd_field pool f x hsx hdx
      obtain ⟨g1, g2, g4⟩ := dd_map pool fields rest hsr hd
      have hde : ∀ y, ddEntry pool fields k y =
          if isDefaultValue pool f y = true then none else some (dropDefaults pool f y) :=
        fun y => by simp only [ddEntry, hfk]
      rw [ddMap_cons, hde]
      cases hdv : isDefaultValue pool f x with
      | true => exact ⟨g1, g2, g4⟩
      | false =>
        simp only [Bool.false_eq_true, if_false]
        refine ⟨defectMap_cons.mpr ⟨f, hfk, h1, g1⟩, ?_, ?_⟩
        · simp only [ddMap_cons, hde, h3, hdv, Bool.false_eq_true, if_false, h2, g2]
        · simp only [VMap.Sorted, h4, g4, allGt_ddMap pool fields rest k hgt, Bool.and_self]
end

end Proto
