import VrlModel.Lang.TypeSpec
import VrlProofs.Props.C19

/-! Kind-level facts used by the soundness proof of the type inference (C01/C02/C12): result
    membership `memR`, the C19 theorems about `Kind::union` under the decidable side condition
    `Lang.unionOk` of `Lang.checks`, exact primitive kinds, `is_superset` on results, results under
    `or_null` / `or_bytes` / `without_null`. -/

namespace Spec

/-- a result value seen as an optional location content: `null` under a kind that admits
    `undefined` may stand for "absent". -/
def asOpt (v : Value) (K : Kind) : Option Value := if mem v K then some v else none

theorem memR_iff (v : Value) (K : Kind) :
    memR v K = true ↔ mem v K = true ∨ (v = .null ∧ K.prim.undefined = true) := by
  unfold memR
  cases v <;> simp [BEq.beq, Value.beq]

theorem memOpt_asOpt {v : Value} {K : Kind} (h : memR v K = true) : memOpt (asOpt v K) K = true := by
  unfold asOpt
  cases hm : mem v K with
  | true => simpa [memOpt] using hm
  | false =>
    rcases (memR_iff v K).mp h with h1 | ⟨_, h2⟩
    · rw [hm] at h1; cases h1
    · simpa [memOpt] using h2

theorem asOpt_getD {v : Value} {K : Kind} (h : memR v K = true) : (asOpt v K).getD .null = v := by
  unfold asOpt
  cases hm : mem v K with
  | true => simp
  | false =>
    rcases (memR_iff v K).mp h with h1 | ⟨h2, _⟩
    · rw [hm] at h1; cases h1
    · simp [h2]

theorem mem_upgrade_of_memR {v : Value} {K : Kind} (h : memR v K = true) :
    mem v K.upgradeUndefined = true := by
  have := mem_upgradeUndefined (asOpt v K) K (memOpt_asOpt h)
  rwa [asOpt_getD h] at this

theorem memR_never {v : Value} {K : Kind} (h : K.isNever = true) : memR v K = false := by
  cases hr : memR v K with
  | false => rfl
  | true =>
    have := memOpt_not_never _ _ (memOpt_asOpt hr)
    rw [h] at this; cases this

theorem tame_of_unionOk {A B : Kind} (ok : Lang.unionOk A B = true) : Tame A ∧ Tame B := by
  simp only [Lang.unionOk, Bool.and_eq_true, Bool.not_eq_true'] at ok
  exact ⟨⟨ok.1.1.1, ok.1.2⟩, ok.1.1.2, ok.2⟩

theorem mem_union_left' {v : Value} {A B : Kind} (ok : Lang.unionOk A B = true) (h : mem v A = true) :
    mem v (A.union B) = true :=
  (union_locSub_left (tame_of_unionOk ok).1 (tame_of_unionOk ok).2).elem h

theorem mem_union_right' {v : Value} {A B : Kind} (ok : Lang.unionOk A B = true) (h : mem v B = true) :
    mem v (A.union B) = true :=
  (union_locSub_right (tame_of_unionOk ok).1 (tame_of_unionOk ok).2).elem h

theorem memR_union_left {v : Value} {A B : Kind} (ok : Lang.unionOk A B = true) (h : memR v A = true) :
    memR v (A.union B) = true :=
  (union_locSub_left (tame_of_unionOk ok).1 (tame_of_unionOk ok).2).memR h

theorem memR_union_right {v : Value} {A B : Kind} (ok : Lang.unionOk A B = true) (h : memR v B = true) :
    memR v (A.union B) = true :=
  (union_locSub_right (tame_of_unionOk ok).1 (tame_of_unionOk ok).2).memR h

/-- the primitive state a scalar belongs to -/
def valFlag : Value → Prim → Bool
  | .null, p => p.null
  | .bool _, p => p.boolean
  | .int _, p => p.integer
  | .float _, p => p.float
  | .bytes _, p => p.bytes
  | .ts _, p => p.timestamp
  | .regex _, p => p.regex
  | _, _ => false

theorem mem_prim_change {v : Value} {p p' : Prim} {a o : OCol} (h : mem v (.mk p a o) = true)
    (hf : valFlag v p = true → valFlag v p' = true) : mem v (.mk p' a o) = true := by
  cases v <;> first | exact hf h | (cases a <;> cases o <;> exact h)

/-- a kind made of the states `rest` and at most one more (`is_bytes`, `is_integer`, …, with
    `rest` empty): a result of the kind has a state of the kind that is not in `rest` -/
theorem memR_onlyPrim {v : Value} {K : Kind} {rest : Prim} (hk : K.onlyPrim rest = true)
    (h : memR v K = true) :
    (valFlag v K.prim = true ∨ (v = .null ∧ K.prim.undefined = true)) ∧ valFlag v rest = false ∧
      rest.undefined = false := by
  simp only [Kind.onlyPrim, Bool.and_eq_true, Bool.not_eq_true'] at hk
  obtain ⟨⟨he, ha⟩, ho⟩ := hk
  simp only [Prim.isEmpty, Bool.not_eq_true', Bool.or_eq_false_iff] at he
  obtain ⟨⟨⟨⟨⟨⟨⟨e1, e2⟩, e3⟩, e4⟩, e5⟩, e6⟩, e7⟩, e8⟩ := he
  refine ⟨?_, ?_, e8⟩
  · rcases (memR_iff v K).mp h with h | h
    · left
      cases v <;> first | exact h | (simp [mem, ha, ho] at h)
    · exact Or.inr h
  · cases v <;> first | rfl | assumption

theorem memR_isBoolean {v : Value} {K : Kind} (hk : K.isBoolean = true) (h : memR v K = true) :
    ∃ b, v = .bool b := by
  obtain ⟨h1 | ⟨-, h1⟩, h2, h3⟩ := memR_onlyPrim hk h
  · cases v <;> first | exact ⟨_, rfl⟩ | exact nomatch h2.symm.trans h1
  · exact nomatch h3.symm.trans h1

theorem memR_isNull {v : Value} {K : Kind} (hk : K.isNull = true) (h : memR v K = true) :
    v = .null := by
  obtain ⟨h1 | ⟨h0, -⟩, h2, -⟩ := memR_onlyPrim hk h
  · cases v <;> first | rfl | exact nomatch h2.symm.trans h1
  · exact h0

theorem memR_isBytes {v : Value} {K : Kind} (hk : K.isBytes = true) (h : memR v K = true) :
    ∃ b, v = .bytes b := by
  obtain ⟨h1 | ⟨-, h1⟩, h2, h3⟩ := memR_onlyPrim hk h
  · cases v <;> first | exact ⟨_, rfl⟩ | exact nomatch h2.symm.trans h1
  · exact nomatch h3.symm.trans h1

theorem memR_isInteger {v : Value} {K : Kind} (hk : K.isInteger = true) (h : memR v K = true) :
    ∃ i, v = .int i := by
  obtain ⟨h1 | ⟨-, h1⟩, h2, h3⟩ := memR_onlyPrim hk h
  · cases v <;> first | exact ⟨_, rfl⟩ | exact nomatch h2.symm.trans h1
  · exact nomatch h3.symm.trans h1

theorem memR_isFloat {v : Value} {K : Kind} (hk : K.isFloat = true) (h : memR v K = true) :
    ∃ b, v = .float b := by
  obtain ⟨h1 | ⟨-, h1⟩, h2, h3⟩ := memR_onlyPrim hk h
  · cases v <;> first | exact ⟨_, rfl⟩ | exact nomatch h2.symm.trans h1
  · exact nomatch h3.symm.trans h1

theorem memR_isTimestamp {v : Value} {K : Kind} (hk : K.isTimestamp = true) (h : memR v K = true) :
    ∃ t, v = .ts t := by
  obtain ⟨h1 | ⟨-, h1⟩, h2, h3⟩ := memR_onlyPrim hk h
  · cases v <;> first | exact ⟨_, rfl⟩ | exact nomatch h2.symm.trans h1
  · exact nomatch h3.symm.trans h1

theorem memR_isObject {v : Value} {K : Kind} (hk : K.isObject = true) (h : memR v K = true) :
    ∃ m, v = .obj m := by
  simp only [Kind.isObject, Bool.and_eq_true, Bool.not_eq_true', Prim.isEmpty, Bool.or_eq_false_iff] at hk
  obtain ⟨⟨⟨⟨⟨⟨⟨⟨e1, e2⟩, e3⟩, e4⟩, e5⟩, e6⟩, e7⟩, e8⟩, ha⟩ := hk
  rcases (memR_iff v K).mp h with h | ⟨-, h⟩
  · cases v <;> first | exact ⟨_, rfl⟩ | (simp [mem, *] at h)
  · exact nomatch e8.symm.trans h

theorem mem_prim_only (v : Value) (p : Prim) : mem v (.mk p .none .none) = true →
    (match v with
     | .null => p.null | .bool _ => p.boolean | .int _ => p.integer | .float _ => p.float
     | .bytes _ => p.bytes | .ts _ => p.timestamp | .regex _ => p.regex
     | .arr _ => false | .obj _ => false) = true := by
  intro h
  cases v with
  | arr _ | obj _ => simp [mem, Kind.hasArr, Kind.hasObj] at h
  | _ => simpa [mem, Kind.prim] using h

/-- `is_superset` on results (`undefined` is a state like the others for it) -/
theorem memR_of_isSuperset {v : Value} {A K : Kind}
    (hA : A.anyUnknown Unknown.exactIsAny = false) (hs : A.isSuperset K = true)
    (h : memR v K = true) : memR v A = true :=
  ((isSupersetF_sound _).sub A K hA hs).memR h

end Spec

namespace Lang
open Spec

theorem memR_float (b : Nat) {K : Kind} (h : K.prim.float = true) : memR (.float b) K = true := by
  simp [memR, mem, h]
theorem memR_int (i : Int) {K : Kind} (h : K.prim.integer = true) : memR (.int i) K = true := by
  simp [memR, mem, h]
theorem memR_bytes (b : List Nat) {K : Kind} (h : K.prim.bytes = true) : memR (.bytes b) K = true := by
  simp [memR, mem, h]
theorem memR_bool (b : Bool) {K : Kind} (h : K.prim.boolean = true) : memR (.bool b) K = true := by
  simp [memR, mem, h]

theorem mem_withoutNull {v : Value} {K : Kind} (h : mem v K = true) (hn : v ≠ .null) :
    mem v K.withoutNull = true := by
  cases K
  exact mem_prim_change h (by cases v <;> first | exact id | exact absurd rfl hn)

theorem mem_orBytes_of_mem (w : Value) (k : Kind) (h : mem w k = true) : mem w k.orBytes = true := by
  cases k
  exact mem_prim_change h (by cases w <;> first | exact id | exact fun _ => rfl)

theorem memR_orBytes {v : Value} {K : Kind} (h : memR v K = true) : memR v K.orBytes = true := by
  rcases (memR_iff v K).mp h with h1 | ⟨h1, h2⟩
  · exact memR_of_mem (mem_orBytes_of_mem v K h1)
  · refine (memR_iff _ _).mpr (Or.inr ⟨h1, ?_⟩)
    cases K; exact h2

theorem orBytes_bytes (K : Kind) : K.orBytes.prim.bytes = true := by cases K; rfl

theorem memR_orNull {v : Value} {K : Kind} (h : memR v K = true) : memR v K.orNull = true := by
  rcases (memR_iff v K).mp h with h1 | ⟨h1, _⟩
  · exact memR_of_mem (mem_orNull_of_mem v K h1)
  · subst h1
    cases K; rfl

theorem memR_null_orNull (K : Kind) : memR .null K.orNull = true := by cases K; rfl

/- the kinds `fallible_unless` is called with have no `Exact` unknown that is `any`, the case
   `isSupersetF_sound` leaves out -/
theorem nullBool_noExactAny : nullBool.anyUnknown Unknown.exactIsAny = false := by decide
theorem numKind_noExactAny : numKind.anyUnknown Unknown.exactIsAny = false := by decide
theorem bytesNull_noExactAny : bytesNull.anyUnknown Unknown.exactIsAny = false := by decide
theorem boolean_noExactAny : Kind.boolean.anyUnknown Unknown.exactIsAny = false := by decide

theorem memR_nullBool {v : Value} (h : memR v nullBool = true) : v = .null ∨ ∃ b, v = .bool b := by
  cases v <;> first | exact Or.inl rfl | exact Or.inr ⟨_, rfl⟩ | cases h

theorem memR_numKind {v : Value} (h : memR v numKind = true) : (∃ i, v = .int i) ∨ ∃ b, v = .float b := by
  cases v <;> first | exact Or.inl ⟨_, rfl⟩ | exact Or.inr ⟨_, rfl⟩ | cases h

theorem memR_bytesNull {v : Value} (h : memR v bytesNull = true) : v = .null ∨ ∃ b, v = .bytes b := by
  cases v <;> first | exact Or.inl rfl | exact Or.inr ⟨_, rfl⟩ | cases h

end Lang
