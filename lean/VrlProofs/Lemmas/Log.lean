import VrlModel.Lang.Eval
import VrlModel.Lang.Info

/-! The invariant of C16: every entry of the target access log is covered by the reported
    query / assignment lists. The log is only ever extended by `St.tick`. -/

namespace Lang

abbrev PL := List (Bool × Path)

/-- reads and removals are covered by the queries, inserts (`Access.kind` 1) by the assignments -/
def accIn (Q A : PL) (a : Access) : Prop :=
  if a.kind = 1 then (a.isMeta, a.path) ∈ A else (a.isMeta, a.path) ∈ Q

def LogOK (Q A : PL) (s : St) : Prop := ∀ a ∈ s.log, accIn Q A a

/-- `Inv.TOK` and `Inv.ArgsOK` at the invariant `logInv Q A` of Lemmas/InvLog.lean, written out for the
    statements of C16 -/
def TOK (Q A : PL) (t : Thunk) : Prop := ∀ s, LogOK Q A s → LogOK Q A (t s).2

def ArgsOK (Q A : PL) (args : List (Option String × Thunk)) : Prop := ∀ k t, (k, t) ∈ args → TOK Q A t

@[simp] theorem log_setVar (s : St) (n : String) (v : Value) : (s.setVar n v).log = s.log := rfl
@[simp] theorem log_delVar (s : St) (n : String) : (s.delVar n).log = s.log := rfl

theorem log_targetGet (s : St) (m : Bool) (p : Path) :
    (s.targetGet m p).2.log = ⟨0, m, p, s.faults.contains s.ops⟩ :: s.log := by
  unfold St.targetGet St.tick
  cases s.faults.contains s.ops <;> rfl

theorem log_targetRemove (s : St) (m : Bool) (p : Path) (c : Bool) :
    (s.targetRemove m p c).2.log = ⟨2, m, p, s.faults.contains s.ops⟩ :: s.log := by
  unfold St.targetRemove St.tick
  cases s.faults.contains s.ops <;> cases m <;> rfl

theorem log_targetInsert {s s' : St} {m : Bool} {p : Path} {v : Value} (h : s.targetInsert m p v = some s') :
    s'.log = ⟨1, m, p, s.faults.contains s.ops⟩ :: s.log := by
  unfold St.targetInsert St.tick at h
  simp only at h
  split at h
  · -- rejected
    cases h; rfl
  · -- not rejected: `Value.insert` panics or the addressed target is rewritten
    split at h
    · cases h
    · cases h; cases m <;> rfl

@[simp] theorem log_cInsert (s : St) (i : Option String) (v : Value) : (cInsert s i v).2.log = s.log := by
  cases i <;> rfl

@[simp] theorem log_cCleanup (s : St) (i : Option String) (o : Option Value) : (cCleanup s i o).log = s.log := by
  cases i <;> cases o <;> rfl

variable {Q A : PL} {s t : St}

theorem logOK_of_log_eq (h : t.log = s.log) (hs : LogOK Q A s) : LogOK Q A t := by
  unfold LogOK; rw [h]; exact hs

theorem logOK_cons {a : Access} (h : t.log = a :: s.log) (ha : accIn Q A a) (hs : LogOK Q A s) :
    LogOK Q A t := by
  unfold LogOK
  rw [h]
  exact List.forall_mem_cons.mpr ⟨ha, hs⟩

theorem logOK_targetGet (s : St) (m : Bool) (p : Path) (hs : LogOK Q A s) (hq : (m, p) ∈ Q) :
    LogOK Q A (s.targetGet m p).2 :=
  logOK_cons (log_targetGet s m p) hq hs

theorem logOK_targetRemove (s : St) (m : Bool) (p : Path) (c : Bool) (hs : LogOK Q A s)
    (hq : (m, p) ∈ Q) : LogOK Q A (s.targetRemove m p c).2 :=
  logOK_cons (log_targetRemove s m p c) hq hs

theorem logOK_targetInsert (s s' : St) (m : Bool) (p : Path) (v : Value) (hs : LogOK Q A s)
    (ha : (m, p) ∈ A) (hi : s.targetInsert m p v = some s') : LogOK Q A s' :=
  logOK_cons (log_targetInsert hi) ha hs

end Lang
