import VrlProofs.Lemmas.Value

/-! Preservation of the object invariant (`Sorted`: keys strictly increasing, recursively). -/

namespace VMap

theorem sorted_cons {k : List Nat} {x : Value} {m : VMap} :
    (VMap.cons k x m).Sorted = true ↔ x.Sorted = true ∧ allGt k m = true ∧ m.Sorted = true := by
  simp only [VMap.Sorted, Bool.and_eq_true, and_assoc]

theorem sorted_get (m : VMap) (q : List Nat) (v : Value) (hs : m.Sorted = true) (h : m.get q = some v) :
    v.Sorted = true := by
  fun_induction get m q with
  | case1 => cases h
  | case2 => cases h; exact (sorted_cons.mp hs).1
  | case3 _ _ _ _ _ ih => exact ih (sorted_cons.mp hs).2.2 h

theorem sorted_insert (m : VMap) (q : List Nat) (x : Value) (hs : m.Sorted = true) (hx : x.Sorted = true) :
    (m.insert q x).Sorted = true := by
  fun_induction insert m q x with
  | case1 => simp [VMap.Sorted, hx, allGt]
  | case2 k v m q x hlt =>
    simp only [VMap.Sorted, allGt, Bool.and_eq_true] at hs ⊢
    exact ⟨⟨hx, hlt, allGt_trans m q k hlt hs.1.2⟩, hs⟩
  | case3 =>
    rw [sorted_cons] at hs ⊢
    exact ⟨hx, hs.2⟩
  | case4 k v m q x hnlt hne ih =>
    rw [sorted_cons] at hs ⊢
    exact ⟨hs.1, allGt_insert m k q x (Key.lt_of_not_lt_of_ne hnlt hne) hs.2.1, ih hs.2.2 hx⟩

theorem sorted_remove : (m : VMap) → (q : List Nat) → m.Sorted = true → (m.remove q).Sorted = true
  | .nil, _, _ => rfl
  | .cons k v m, q, hs => by
    rw [sorted_cons] at hs
    simp only [VMap.remove]
    split
    · exact hs.2.2
    · exact sorted_cons.mpr ⟨hs.1, allGt_remove m k q hs.2.1, sorted_remove m q hs.2.2⟩

theorem get_remove_same : (m : VMap) → (q : List Nat) → m.Sorted = true → (m.remove q).get q = none :=
  fun m q hs => get_remove_same_of_sortedKeys m q (sortedKeys_of_sorted m hs)

end VMap

namespace VList

theorem sorted_cons {x : Value} {xs : VList} :
    (VList.cons x xs).Sorted = true ↔ x.Sorted = true ∧ xs.Sorted = true :=
  Bool.and_eq_true_iff

theorem sorted_getN : (a : VList) → (n : Nat) → (v : Value) → a.Sorted = true → a.getN n = some v →
    v.Sorted = true
  | .nil, _, _, _, h => by simp [getN] at h
  | .cons w _, 0, v, hs, h => by
    rw [VList.sorted_cons] at hs
    simp only [getN] at h; cases h; exact hs.1
  | .cons _ ws, n + 1, v, hs, h => by
    rw [VList.sorted_cons] at hs
    exact sorted_getN ws n v hs.2 h

theorem sorted_getIdx (a : VList) (i : Int) (v : Value) (hs : a.Sorted = true)
    (h : a.getIdx i = some v) : v.Sorted = true := by
  unfold getIdx at h
  split at h
  · exact sorted_getN a _ v hs h
  · cases h

theorem sorted_setN : (a : VList) → (n : Nat) → (x : Value) → a.Sorted = true → x.Sorted = true →
    (a.setN n x).Sorted = true
  | .nil, _, _, _, _ => rfl
  | .cons _ ws, 0, x, hs, hx => by
    rw [VList.sorted_cons] at hs
    simp [setN, VList.Sorted, hx, hs.2]
  | .cons w ws, n + 1, x, hs, hx => by
    rw [VList.sorted_cons] at hs
    simp [setN, VList.Sorted, hs.1, sorted_setN ws n x hs.2 hx]

theorem sorted_removeN : (a : VList) → (n : Nat) → a.Sorted = true → (a.removeN n).Sorted = true
  | .nil, _, _ => rfl
  | .cons _ ws, 0, hs => by
    rw [VList.sorted_cons] at hs
    exact hs.2
  | .cons w ws, n + 1, hs => by
    rw [VList.sorted_cons] at hs
    simp [removeN, VList.Sorted, hs.1, sorted_removeN ws n hs.2]

theorem sorted_append : (a b : VList) → a.Sorted = true → b.Sorted = true → (a.append b).Sorted = true
  | .nil, _, _, hb => hb
  | .cons w ws, b, hs, hb => by
    rw [VList.sorted_cons] at hs
    simp [append, VList.Sorted, hs.1, sorted_append ws b hs.2 hb]

theorem sorted_nulls : (n : Nat) → (nulls n).Sorted = true
  | 0 => rfl
  | n + 1 => by simp [nulls, VList.Sorted, Value.Sorted, sorted_nulls n]

theorem sorted_insertIdx (a : VList) (i : Int) (x : Value) (hs : a.Sorted = true)
    (hx : x.Sorted = true) : (a.insertIdx i x).Sorted = true := by
  unfold insertIdx
  split
  · split
    · exact sorted_append _ _ (sorted_append _ _ hs (sorted_nulls _)) (by simp [VList.Sorted, hx])
    · exact sorted_setN a _ x hs hx
  · simp only []
    split
    · simp only [VList.Sorted, Bool.and_eq_true]
      exact ⟨hx, sorted_append _ _ (sorted_nulls _) hs⟩
    · exact sorted_setN a _ x hs hx

end VList
