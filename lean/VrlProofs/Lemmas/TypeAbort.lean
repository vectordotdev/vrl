import VrlModel.Lang.TypeSpec
import VrlProofs.Lemmas.EvalBind

/-! A call-free expression without an `abort` node never evaluates to the outcome `abort`
    (the program-level half of C02: "non-abortable programs never abort"). -/

namespace Lang

mutual
  /-- no `abort` expression (and no function call) anywhere -/
  def noAbort : Expr → Bool
    | .lit _ | .noop | .var _ | .qvar _ _ | .qext _ _ | .existsExt _ _ | .existsVar _ _ => true
    | .grp e | .not e | .qexpr e _ | .existsExpr e _ | .ret e | .asg _ e | .iasg _ _ e _ => noAbort e
    | .blk es | .arr es => noAbortS es
    | .obj kvs => noAbortK kvs
    | .ifte p t _ e => noAbortS p && noAbortS t && noAbortS e
    | .op _ l r => noAbort l && noAbort r
    | .delExt _ _ _ c | .delVar _ _ _ c => noAbort c
    | .delExpr e _ _ c => noAbort e && noAbort c
    | .abort _ _ => false
    | .call _ _ _ _ _ _ _ => false
  def noAbortS : Exprs → Bool
    | .nil => true
    | .cons e es => noAbort e && noAbortS es
  def noAbortK : KExprs → Bool
    | .nil => true
    | .cons _ e kes => noAbort e && noAbortK kes
end

def Res.isAbort : Res → Bool
  | .abort _ => true
  | _ => false

def exIsAbort {α : Type} : Except Res α → Bool
  | .error r => r.isAbort
  | .ok _ => false

theorem bindOk_noAbort {x : Res × St} {k : Value → St → Res × St} (hx : x.1.isAbort = false)
    (hk : ∀ v s, (k v s).1.isAbort = false) : (bindOk x k).1.isAbort = false := by
  rcases bindOk_cases x k with ⟨v, s, -, h⟩ | ⟨-, h⟩ <;> rw [h]
  · exact hk v s
  · exact hx

theorem binop_noAbort (o : Opcode) (v w : Value) : (binop o v w).isAbort = false := by
  rcases binop_shape o v w with ⟨x, h⟩ | h | h <;> rw [h] <;> rfl

theorem tryAnd_noAbort (v w : Value) : (tryAnd v w).isAbort = false := by
  rcases tryAnd_shape v w with ⟨b, h⟩ | h <;> rw [h] <;> rfl

theorem iasgOk_noAbort (okT errT : Tgt) (v : Value) (s : St) : (iasgOk okT errT v s).1.isAbort = false := by
  unfold iasgOk; repeat' split
  all_goals rfl

theorem iasgErr_noAbort (okT errT : Tgt) (d : Value) (s : St) : (iasgErr okT errT d s).1.isAbort = false := by
  unfold iasgErr; repeat' split
  all_goals rfl

theorem compact_noAbort {c : Expr} (ih : ∀ s, (eval c s).1.isAbort = false) (hasC : Bool) (s : St) :
    (evalCompact hasC c s).1.isAbort = false := by
  rcases evalCompact_cases hasC c s with h | h <;> rw [h]
  · exact ih s
  · rfl

mutual
  theorem eval_noAbort : (e : Expr) → noAbort e = true → ∀ s, (eval e s).1.isAbort = false
    | .lit _, _, _ => by rfl
    | .noop, _, _ => by rfl
    | .var _, _, _ => by rfl
    | .qvar _ _, _, _ => by rfl
    | .existsVar _ _, _, s => by rw [eval_existsVar]; split <;> rfl
    | .qext _ _, _, _ => by rfl
    | .existsExt _ _, _, _ => by rfl
    | .grp e, h, s => eval_noAbort e h s
    | .blk es, h, s => evalSeq_noAbort es h s
    | .not e, h, s => by
      rw [eval_not]
      exact bindOk_noAbort (eval_noAbort e h s) fun v _ => by cases v <;> rfl
    | .qexpr e p, h, s => by
      rw [eval_qexpr]; exact bindOk_noAbort (eval_noAbort e h s) fun _ _ => rfl
    | .existsExpr e p, h, s => by
      rw [eval_existsExpr]; exact bindOk_noAbort (eval_noAbort e h s) fun _ _ => rfl
    | .ret e, h, s => by
      rw [eval_ret]; exact bindOk_noAbort (eval_noAbort e h s) fun _ _ => rfl
    | .asg t e, h, s => by
      rw [eval_asg]
      refine bindOk_noAbort (eval_noAbort e h s) fun v s1 => ?_
      show (match t.insert v s1 with | some s => _ | none => _ : Res × St).1.isAbort = false
      split <;> rfl
    | .iasg okT errT e d, h, s => by
      have := eval_noAbort e h { s with evCatch := true }
      rw [eval_iasg]
      cases hq : eval e { s with evCatch := true } with
      | mk r s1 =>
        rw [hq] at this
        cases r with
        | ok v => exact iasgOk_noAbort okT errT v s1
        | err => exact iasgErr_noAbort okT errT d s1
        | _ => first | rfl | exact this
    | .arr es, h, s => by
      have := evalList_noAbort es h s
      rw [eval_arr]
      cases hq : evalList es s with
      | mk r s1 => rw [hq] at this; cases r <;> first | rfl | exact this
    | .obj kvs, h, s => by
      have := evalKVs_noAbort kvs h s
      rw [eval_obj]
      cases hq : evalKVs kvs s with
      | mk r s1 => rw [hq] at this; cases r <;> first | rfl | exact this
    | .ifte p t hasElse e, h, s => by
      obtain ⟨hpt, he⟩ := Bool.and_eq_true_iff.mp h
      obtain ⟨hp, ht⟩ := Bool.and_eq_true_iff.mp hpt
      rw [eval_ifte]
      refine bindOk_noAbort (evalSeq_noAbort p hp _) fun v s1 => ?_
      cases v with
      | bool b =>
        cases b
        · show (if hasElse then _ else _ : Res × St).1.isAbort = false
          split
          · exact evalSeq_noAbort e he s1
          · rfl
        · exact evalSeq_noAbort t ht s1
      | _ => rfl
    | .op o l r, h, s => by
      obtain ⟨hl, hr⟩ := Bool.and_eq_true_iff.mp h
      cases ho : plainOp o with
      | true =>
        rw [eval_op_strict o ho]
        exact bindOk_noAbort (eval_noAbort l hl s) fun v s1 =>
          bindOk_noAbort (eval_noAbort r hr s1) fun w _ => binop_noAbort o v w
      | false =>
        cases o <;> first | cases ho | skip
        · rw [eval_or]
          refine bindOk_noAbort (eval_noAbort l hl _) fun v s1 => ?_
          show (if falsy v then _ else _ : Res × St).1.isAbort = false
          split
          · exact eval_noAbort r hr s1
          · rfl
        · rw [eval_and]
          refine bindOk_noAbort (eval_noAbort l hl _) fun v s1 => ?_
          show (if falsy v then _ else _ : Res × St).1.isAbort = false
          split
          · rfl
          · exact bindOk_noAbort (eval_noAbort r hr s1) fun w _ => tryAnd_noAbort v w
        · have h1 := eval_noAbort l hl { s with evCatch := true }
          rw [eval_err]
          cases hq : eval l { s with evCatch := true } with
          | mk r1 s1 =>
            rw [hq] at h1
            cases r1 with
            | err => exact eval_noAbort r hr s1
            | _ => first | rfl | exact h1
    | .delExt m p hasC c, h, s => by
      rw [eval_delExt]
      exact bindOk_noAbort (compact_noAbort (eval_noAbort c h) hasC s) fun v _ => by cases v <;> rfl
    | .delVar n p hasC c, h, s => by
      rw [eval_delVar]
      refine bindOk_noAbort (compact_noAbort (eval_noAbort c h) hasC s) fun v s1 => ?_
      cases v with
      | bool b => show (match s1.getVar n with | some x => _ | none => _ : Res × St).1.isAbort = false; split <;> rfl
      | _ => rfl
    | .delExpr e p hasC c, h, s => by
      obtain ⟨he, hc⟩ := Bool.and_eq_true_iff.mp h
      rw [eval_delExpr]
      refine bindOk_noAbort (compact_noAbort (eval_noAbort c hc) hasC s) fun v s1 => ?_
      cases v with
      | bool b => exact bindOk_noAbort (eval_noAbort e he s1) fun _ _ => rfl
      | _ => rfl
    | .abort _ _, h, _ => nomatch h
    | .call _ _ _ _ _ _ _, h, _ => nomatch h

  theorem evalSeq_noAbort : (es : Exprs) → noAbortS es = true → ∀ s, (evalSeq es s).1.isAbort = false
    | .nil, _, _ => by rfl
    | .cons e .nil, h, s => eval_noAbort e (Bool.and_eq_true_iff.mp h).1 s
    | .cons e (.cons e' es), h, s => by
      obtain ⟨he, hes⟩ := Bool.and_eq_true_iff.mp h
      rw [evalSeq_cons]
      exact bindOk_noAbort (eval_noAbort e he s) fun _ s1 => evalSeq_noAbort (.cons e' es) hes s1

  theorem evalList_noAbort : (es : Exprs) → noAbortS es = true → ∀ s, exIsAbort (evalList es s).1 = false
    | .nil, _, _ => by rfl
    | .cons e es, h, s => by
      obtain ⟨he, hes⟩ := Bool.and_eq_true_iff.mp h
      have h1 := eval_noAbort e he s
      rw [evalList_cons]
      cases hq : eval e s with
      | mk r s1 =>
        rw [hq] at h1
        cases r with
        | ok v =>
          have h2 := evalList_noAbort es hes s1
          show exIsAbort (match evalList es s1 with | (.ok vs, s) => _ | r => r).1 = false
          cases hq2 : evalList es s1 with
          | mk r2 s2 => rw [hq2] at h2; cases r2 <;> first | rfl | exact h2
        | _ => first | rfl | exact h1

  theorem evalKVs_noAbort : (kvs : KExprs) → noAbortK kvs = true → ∀ s, exIsAbort (evalKVs kvs s).1 = false
    | .nil, _, _ => by rfl
    | .cons k e kes, h, s => by
      obtain ⟨he, hes⟩ := Bool.and_eq_true_iff.mp h
      have h1 := eval_noAbort e he s
      rw [evalKVs_cons]
      cases hq : eval e s with
      | mk r s1 =>
        rw [hq] at h1
        cases r with
        | ok v =>
          have h2 := evalKVs_noAbort kes hes s1
          show exIsAbort (match evalKVs kes s1 with | (.ok mp, s) => _ | r => r).1 = false
          cases hq2 : evalKVs kes s1 with
          | mk r2 s2 => rw [hq2] at h2; cases r2 <;> first | rfl | exact h2
        | _ => first | rfl | exact h1
end

end Lang
