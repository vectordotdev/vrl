/-
  Helper lemmas for the CSV part of C24: the csv-core NFA (`Csv.readFields`) reading what the
  csv-core writer (`Csv.writeField`/`Csv.joinFields`) wrote.
-/
import VrlModel.Csv

namespace Csv

theorem special_false {d b : Nat} (h : special d b = false) :
    b ≠ d ∧ b ≠ QUOTE ∧ b ≠ CR ∧ b ≠ LF := by
  simpa [special, and_assoc] using h

theorem delimOK_iff {d : Nat} : delimOK d = true ↔ d ≠ QUOTE ∧ d ≠ CR ∧ d ≠ LF := by
  simp [delimOK, and_assoc]

theorem read_plain_byte {d b : Nat} (h : special d b = false) (R cur : List Nat) :
    readFields d .startField (b :: R) cur = readFields d .inField R (cur ++ [b]) ∧
      readFields d .inField (b :: R) cur = readFields d .inField R (cur ++ [b]) := by
  obtain ⟨h1, h2, h3, h4⟩ := special_false h
  simp [readFields, isTerm, h1, h2, h3, h4]

theorem read_plain_inField (d : Nat) (f : List Nat) : ∀ (R cur : List Nat),
    (∀ b ∈ f, special d b = false) →
    readFields d .inField (f ++ R) cur = readFields d .inField R (cur ++ f) := by
  induction f with
  | nil => intro R cur _; simp
  | cons b f ih =>
    intro R cur h
    rw [List.cons_append, (read_plain_byte (h b (by simp)) _ _).2, ih _ _ fun x hx => h x (by simp [hx])]
    simp

theorem read_plain_startField (d : Nat) (f : List Nat) (R : List Nat)
    (h : ∀ b ∈ f, special d b = false) (hne : f ≠ []) :
    readFields d .startField (f ++ R) [] = readFields d .inField R f := by
  cases f with
  | nil => exact absurd rfl hne
  | cons b f =>
    rw [List.cons_append, (read_plain_byte (h b (by simp)) _ _).1,
      read_plain_inField d f R _ fun x hx => h x (by simp [hx])]
    rfl

theorem read_quoted_body (d : Nat) (f : List Nat) : ∀ (R cur : List Nat),
    readFields d .inQuoted (quoteBody f ++ QUOTE :: R) cur
      = readFields d .inDoubleEsc R (cur ++ f) := by
  induction f with
  | nil => intro R cur; simp [quoteBody, readFields]
  | cons b f ih =>
    intro R cur
    by_cases hb : b = QUOTE
    · subst hb
      have := ih R (cur ++ [QUOTE])
      simp [quoteBody, readFields, this]
    · have := ih R (cur ++ [b])
      simp [quoteBody, readFields, hb, this]

/-- states in which a field can end: a delimiter read there closes the field. -/
inductive FieldEnd : St → List Nat → Prop where
  | start : FieldEnd .startField []
  | inField (cur : List Nat) : FieldEnd .inField cur
  | dbl (cur : List Nat) : FieldEnd .inDoubleEsc cur

theorem read_end_eof (d : Nat) (st : St) (cur : List Nat) : readFields d st [] cur = [cur] := by
  cases st <;> simp [readFields]

theorem read_end_delim (d : Nat) (hd : delimOK d = true) {st : St} {cur : List Nat}
    (h : FieldEnd st cur) (R : List Nat) :
    readFields d st (d :: R) cur = cur :: readFields d .startField R [] := by
  obtain ⟨h1, _, _⟩ := delimOK_iff.mp hd
  cases h <;> simp [readFields, h1]

theorem read_writeField (d : Nat) (f R : List Nat) :
    ∃ st, FieldEnd st f ∧
      readFields d .startField (writeField d f ++ R) [] = readFields d st R f := by
  fun_cases writeField d f
  · refine ⟨.inDoubleEsc, .dbl f, ?_⟩
    simp [readFields, read_quoted_body d f R []]
  · rename_i hq
    have hq' : ∀ b ∈ f, special d b = false := by simpa [needsQuotes] using hq
    by_cases hne : f = []
    · subst hne
      exact ⟨.startField, .start, rfl⟩
    · exact ⟨.inField, .inField f, read_plain_startField d f R hq' hne⟩

theorem read_joinFields (d : Nat) (hd : delimOK d = true) : ∀ (fs : List (List Nat)) (f : List Nat),
    readFields d .startField (joinFields d (f :: fs)) [] = f :: fs := by
  intro fs
  induction fs with
  | nil =>
    intro f
    obtain ⟨st, _, h⟩ := read_writeField d f []
    simp only [joinFields]
    simp only [List.append_nil] at h
    rw [h, read_end_eof]
  | cons g r ih =>
    intro f
    obtain ⟨st, hst, h⟩ := read_writeField d f (d :: joinFields d (g :: r))
    simp only [joinFields]
    rw [h, read_end_delim d hd hst, ih g]

/-- a written field starts with a quote or with a byte that needs no quotes. -/
theorem writeField_head_not_term (d : Nat) (f : List Nat) (b : Nat) (t : List Nat) (h : writeField d f = b :: t) :
    isTerm b = false := by
  revert h
  fun_cases writeField d f <;> intro h
  · cases h; rfl
  · rename_i hq
    subst h
    have : special d b = false := by
      have hq : needsQuotes d (b :: t) = false := by simpa using hq
      simpa using List.any_eq_false.mp hq b (by simp)
    obtain ⟨_, _, h3, h4⟩ := special_false this
    simp [isTerm, h3, h4]

theorem joinFields_head_not_term (d : Nat) (hd : delimOK d = true) (fs : List (List Nat)) (b : Nat)
    (t : List Nat) (h : joinFields d fs = b :: t) : isTerm b = false := by
  match fs with
  | [] => cases h
  | [f] => exact writeField_head_not_term d f b t h
  | f :: g :: r =>
    simp only [joinFields] at h
    cases hw : writeField d f with
    | nil =>
      obtain ⟨_, h2, h3⟩ := delimOK_iff.mp hd
      obtain rfl : d = b := by rw [hw] at h; exact (List.cons.inj h).1
      simp [isTerm, h2, h3]
    | cons c u =>
      obtain rfl : c = b := by rw [hw] at h; exact (List.cons.inj h).1
      exact writeField_head_not_term d f c u hw

theorem joinFields_eq_nil (d : Nat) (fs : List (List Nat)) (hne : fs ≠ [])
    (h : joinFields d fs = []) : fs = [[]] := by
  cases fs with
  | nil => exact absurd rfl hne
  | cons f r =>
    cases r with
    | nil =>
      simp only [joinFields, writeField] at h
      by_cases hq : needsQuotes d f = true
      · simp [hq] at h
      · simp only [hq, Bool.false_eq_true, if_false] at h
        simp [h]
    | cons g r' =>
      simp [joinFields] at h

theorem stripBom_of_not_bom (s : List Nat) (h : startsWithBom s = false) : stripBom s = s := by
  unfold stripBom
  split
  · simp [startsWithBom] at h
  · rfl

end Csv
