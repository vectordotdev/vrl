/-
  Function calls of the runtime model, for arbitrary argument and body thunks: every slot thunk chosen
  by `placeArgs` is an argument thunk, and a state predicate kept by each single step (an argument
  evaluation, one run of the closure on one element) is kept by evaluating all slots and by a whole
  iteration, stopping early or not. The predicate is arbitrary: an invariant of the target
  (Lemmas/Inv.lean), "the variable `p` holds what it held before" (Props/C13.lean), "the state is
  `s`" (Lemmas/Pure.lean).
-/
import VrlModel.Lang.Eval

namespace Lang

theorem fill_mem : (slots : List (Option Thunk)) → (us : List Thunk) → (out : List (Option Thunk)) →
    placeArgs.fill slots us = some out → ∀ t, some t ∈ out → some t ∈ slots ∨ t ∈ us
  | [], [], out, h, t, ht => by cases h; cases ht
  | [], _ :: _, out, h, _, _ => by cases h
  | some x :: rest, us, out, h, t, ht => by
    obtain ⟨o, ho, rfl⟩ := Option.map_eq_some_iff.mp h
    rcases List.mem_cons.mp ht with e | e
    · exact .inl (e ▸ List.mem_cons_self)
    · exact (fill_mem rest us o ho t e).imp (List.mem_cons_of_mem _) id
  | none :: rest, u :: us, out, h, t, ht => by
    obtain ⟨o, ho, rfl⟩ := Option.map_eq_some_iff.mp h
    rcases List.mem_cons.mp ht with e | e
    · cases e; exact .inr List.mem_cons_self
    · exact (fill_mem rest us o ho t e).imp (List.mem_cons_of_mem _) (List.mem_cons_of_mem _)
  | none :: rest, [], out, h, t, ht => by
    obtain ⟨o, ho, rfl⟩ := Option.map_eq_some_iff.mp h
    rcases List.mem_cons.mp ht with e | e
    · cases e
    · exact (fill_mem rest [] o ho t e).imp (List.mem_cons_of_mem _) id

theorem placeArgs_mem (params : List String) (args : List (Option String × Thunk))
    (slots : List (Option Thunk)) (h : placeArgs params args = some slots) (t : Thunk)
    (ht : some t ∈ slots) : ∃ k, (k, t) ∈ args := by
  unfold placeArgs at h
  simp only at h
  split at h
  · cases h
  rcases fill_mem _ _ _ h t ht with h1 | h1
  · -- a named slot holds the thunk of the argument found under that name
    obtain ⟨p, _, hp⟩ := List.mem_map.mp h1
    obtain ⟨kt, hf, rfl⟩ := Option.map_eq_some_iff.mp hp
    obtain ⟨⟨k, t'⟩, hmem, hk⟩ := List.mem_filterMap.mp (List.mem_of_find?_eq_some hf)
    obtain ⟨kk, rfl, rfl⟩ := Option.map_eq_some_iff.mp hk
    exact ⟨_, hmem⟩
  · -- the others are the unnamed arguments
    obtain ⟨⟨k, t'⟩, hmem, hk⟩ := List.mem_filterMap.mp h1
    split at hk <;> cases hk
    exact ⟨_, hmem⟩

variable {J : St → Prop} {vars : List String} {body : Thunk}

/- In each proof below the outcome of the first step is generalised to `x` (with `J x.2` known) before
   the `match` on it is split, so that every arm speaks of the state `x` carries. -/

theorem evalSlots_keeps : (slots : List (Option Thunk)) →
    (∀ t, some t ∈ slots → ∀ s, J s → J (t s).2) → (s : St) → J s → J (evalSlots slots s).2
  | [], _, _, hs => hs
  | none :: rest, h, s, hs => by
    have ih := evalSlots_keeps rest (fun t ht => h t (List.mem_cons_of_mem _ ht)) s hs
    unfold evalSlots
    generalize evalSlots rest s = y at ih
    split <;> exact ih
  | some t :: rest, h, s, hs => by
    have h1 := h t List.mem_cons_self s hs
    unfold evalSlots
    generalize t s = x at h1
    split
    · have ih := evalSlots_keeps rest (fun t ht => h t (List.mem_cons_of_mem _ ht)) _ h1
      generalize evalSlots rest _ = y at ih
      split <;> exact ih
    · exact h1

theorem forEachMap_keeps (h : ∀ k v s, J s → J (runKeyValue vars body k v s).2) :
    (m : VMap) → (s : St) → J s → J (forEachMap vars body m s).2
  | .nil, _, hs => hs
  | .cons k v m, s, hs => by
    have h1 := h k v s hs
    unfold forEachMap
    generalize runKeyValue vars body k v s = x at h1
    split
    · exact forEachMap_keeps h m _ h1
    · exact h1

theorem forEachList_keeps (h : ∀ i v s, J s → J (runIndexValue vars body i v s).2) :
    (a : VList) → (i : Nat) → (s : St) → J s → J (forEachList vars body a i s).2
  | .nil, _, _, hs => hs
  | .cons v vs, i, s, hs => by
    have h1 := h i v s hs
    unfold forEachList
    generalize runIndexValue vars body i v s = x at h1
    split
    · exact forEachList_keeps h vs _ _ h1
    · exact h1

theorem filterMap_keeps (h : ∀ k v s, J s → J (runKeyValue vars body k v s).2) :
    (m : VMap) → (s : St) → J s → J (filterMap vars body m s).2
  | .nil, _, hs => hs
  | .cons k v m, s, hs => by
    have h1 := h k v s hs
    unfold filterMap
    generalize runKeyValue vars body k v s = x at h1
    split
    · have ih := filterMap_keeps h m _ h1
      generalize filterMap vars body m _ = y at ih
      split <;> exact ih
    · exact h1
    · exact h1

theorem filterList_keeps (h : ∀ i v s, J s → J (runIndexValue vars body i v s).2) :
    (a : VList) → (i : Nat) → (s : St) → J s → J (filterList vars body a i s).2
  | .nil, _, _, hs => hs
  | .cons v vs, i, s, hs => by
    have h1 := h i v s hs
    unfold filterList
    generalize runIndexValue vars body i v s = x at h1
    split
    · have ih := filterList_keeps h vs (i + 1) _ h1
      generalize filterList vars body vs _ _ = y at ih
      split <;> exact ih
    · exact h1
    · exact h1

theorem mapKeysMap_keeps (h : ∀ k s, J s → J (mapKey vars body k s).2) :
    (m : VMap) → (s : St) → J s → J (mapKeysMap vars body m s).2
  | .nil, _, hs => hs
  | .cons k v m, s, hs => by
    have h1 := h k s hs
    unfold mapKeysMap
    generalize mapKey vars body k s = x at h1
    split
    · have ih := mapKeysMap_keeps h m _ h1
      generalize mapKeysMap vars body m _ = y at ih
      split <;> exact ih
    · exact h1

theorem mapValuesMap_keeps (h : ∀ v s, J s → J (mapValue vars body v s).2) :
    (m : VMap) → (s : St) → J s → J (mapValuesMap vars body m s).2
  | .nil, _, hs => hs
  | .cons k v m, s, hs => by
    have h1 := h v s hs
    unfold mapValuesMap
    generalize mapValue vars body v s = x at h1
    split
    · have ih := mapValuesMap_keeps h m _ h1
      generalize mapValuesMap vars body m _ = y at ih
      split <;> exact ih
    · exact h1

theorem mapValuesList_keeps (h : ∀ v s, J s → J (mapValue vars body v s).2) :
    (a : VList) → (s : St) → J s → J (mapValuesList vars body a s).2
  | .nil, _, hs => hs
  | .cons v vs, s, hs => by
    have h1 := h v s hs
    unfold mapValuesList
    generalize mapValue vars body v s = x at h1
    split
    · have ih := mapValuesList_keeps h vs _ h1
      generalize mapValuesList vars body vs _ = y at ih
      split <;> exact ih
    · exact h1

end Lang
