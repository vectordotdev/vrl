/-
  Helper lemmas about the containers of `VrlModel.Value` (sorted association lists and arrays).
  `VList`/`VMap` belong to a mutual inductive block, so `induction` is not available: the lemmas
  are proved by structural recursion written as pattern-matching definitions, or by `fun_induction`
  along the model function they are about.
-/
import VrlModel.Value

mutual
  theorem Value.beq_iff : (a b : Value) → (Value.beq a b = true ↔ a = b)
    | .null, b | .bool _, b | .int _, b | .float _, b | .bytes _, b | .ts _, b | .regex _, b => by
      cases b <;> simp [Value.beq]
    | .arr xs, b => by
      cases b
      case arr ys => simp only [Value.beq, Value.arr.injEq]; exact VList.beq_iff xs ys
      all_goals simp [Value.beq]
    | .obj m, b => by
      cases b
      case obj n => simp only [Value.beq, Value.obj.injEq]; exact VMap.beq_iff m n
      all_goals simp [Value.beq]
  theorem VList.beq_iff : (a b : VList) → (VList.beq a b = true ↔ a = b)
    | .nil, .nil => by simp [VList.beq]
    | .nil, .cons _ _ => by simp [VList.beq]
    | .cons _ _, .nil => by simp [VList.beq]
    | .cons x xs, .cons y ys => by
      simp only [VList.beq, Bool.and_eq_true, VList.cons.injEq]
      rw [Value.beq_iff x y, VList.beq_iff xs ys]
  theorem VMap.beq_iff : (a b : VMap) → (VMap.beq a b = true ↔ a = b)
    | .nil, .nil => by simp [VMap.beq]
    | .nil, .cons _ _ _ => by simp [VMap.beq]
    | .cons _ _ _, .nil => by simp [VMap.beq]
    | .cons k x xs, .cons l y ys => by
      simp only [VMap.beq, Bool.and_eq_true, VMap.cons.injEq, beq_iff_eq]
      rw [Value.beq_iff x y, VMap.beq_iff xs ys]
      exact and_assoc
end

namespace Key

/-- `Key.lt` is the lexicographic order of lists; its order properties are the library's. -/
theorem lt_iff : (a b : List Nat) → (Key.lt a b = true ↔ a < b)
  | [], [] => by simp [Key.lt]
  | [], _ :: _ => by simp [Key.lt]
  | _ :: _, [] => by simp [Key.lt]
  | x :: xs, y :: ys => by
    rw [List.cons_lt_cons_iff, ← lt_iff xs ys, Key.lt]
    by_cases h1 : x < y
    · simp [h1]
    · by_cases h2 : x = y <;> simp [h1, h2]

theorem lt_irrefl (a : List Nat) : Key.lt a a = false :=
  Bool.eq_false_iff.mpr fun h => List.lt_irrefl a ((lt_iff a a).mp h)

theorem lt_asymm (a b : List Nat) (h : Key.lt a b = true) : Key.lt b a = false :=
  Bool.eq_false_iff.mpr fun h' => List.lt_asymm ((lt_iff a b).mp h) ((lt_iff b a).mp h')

theorem lt_trans (a b c : List Nat) (h1 : Key.lt a b = true) (h2 : Key.lt b c = true) :
    Key.lt a c = true :=
  (lt_iff a c).mpr (List.lt_trans ((lt_iff a b).mp h1) ((lt_iff b c).mp h2))

theorem lt_ne (a b : List Nat) (h : Key.lt a b = true) : a ≠ b := by
  intro e; subst e; simp [lt_irrefl] at h

theorem lt_total (a b : List Nat) : Key.lt a b = true ∨ a = b ∨ Key.lt b a = true := by
  simp only [lt_iff]
  rcases List.le_total a b with h | h <;> rcases List.le_iff_lt_or_eq.mp h with h | h
  · exact .inl h
  · exact .inr (.inl h)
  · exact .inr (.inr h)
  · exact .inr (.inl h.symm)

theorem lt_of_not_lt_of_ne {k q : List Nat} (h1 : ¬ Key.lt q k = true) (h2 : k ≠ q) :
    Key.lt k q = true :=
  (lt_total k q).resolve_right fun h => h.elim h2 h1

end Key

namespace VMap

@[simp] theorem get_nil (q : List Nat) : VMap.nil.get q = none := rfl

theorem allGt_cons {a l : List Nat} {v : Value} {m : VMap} :
    allGt a (.cons l v m) = true ↔ Key.lt a l = true ∧ allGt a m = true :=
  Bool.and_eq_true_iff

theorem get_insert_same (m : VMap) (q : List Nat) (x : Value) : (m.insert q x).get q = some x := by
  fun_induction insert m q x with
  -- arms of `insert`: 1 the empty map, 2 the new key is below the head (put in front), 3 the head is
  -- the key (its value replaced), 4 the search goes on in the tail
  | case1 => simp [get]
  | case2 => simp [get]
  | case3 => simp [get]
  | case4 _ _ _ _ _ _ hk ih => simp [get, hk, ih]

theorem get_insert_other (m : VMap) (q r : List Nat) (x : Value) (h : q ≠ r) :
    (m.insert q x).get r = m.get r := by
  fun_induction insert m q x with
  | case1 => simp [get, h]
  | case2 => simp [get, h]
  | case3 => simp [get, h]
  | case4 _ _ _ _ _ _ _ ih => simp only [get, ih h]

theorem insert_cons_of_lt {k l : List Nat} (v w : Value) (m : VMap) (h : Key.lt k l = true) :
    (VMap.cons k v m).insert l w = .cons k v (m.insert l w) := by
  simp [VMap.insert, Key.lt_asymm k l h, Key.lt_ne k l h]

theorem insert_of_allGt : (m : VMap) → (k : List Nat) → (x : Value) → allGt k m = true →
    m.insert k x = .cons k x m
  | .nil, _, _, _ => rfl
  | .cons l v m, k, x, h => by
    rw [VMap.allGt_cons] at h
    simp [VMap.insert, h.1]

theorem get_remove_other (m : VMap) (q r : List Nat) (h : q ≠ r) : (m.remove q).get r = m.get r := by
  fun_induction remove m q with
  -- arms of `remove`: 1 the empty map, 2 the head is the key (dropped), 3 the search goes on in the tail
  | case1 => rfl
  | case2 => simp [get, h]
  | case3 _ _ _ _ _ ih => simp only [get, ih h]

theorem allGt_trans : (m : VMap) → (a b : List Nat) → Key.lt a b = true → allGt b m = true →
    allGt a m = true
  | .nil, _, _, _, _ => rfl
  | .cons l _ m, a, b, hab, h => by
    rw [allGt_cons] at h ⊢
    exact ⟨Key.lt_trans a b l hab h.1, allGt_trans m a b hab h.2⟩

theorem allGt_insert (m : VMap) (a q : List Nat) (x : Value) (h : Key.lt a q = true)
    (hm : allGt a m = true) : allGt a (m.insert q x) = true := by
  fun_induction insert m q x with
  | case1 => simp [allGt, h]
  | case2 => simpa [allGt, h] using hm
  | case3 => simpa [allGt] using hm
  | case4 _ _ _ _ _ _ _ ih =>
    rw [allGt_cons] at hm ⊢
    exact ⟨hm.1, ih h hm.2⟩

theorem allGt_remove (m : VMap) (a q : List Nat) (hm : allGt a m = true) : allGt a (m.remove q) = true := by
  fun_induction remove m q with
  | case1 => rfl
  | case2 => rw [allGt_cons] at hm; exact hm.2
  | case3 _ _ _ _ _ ih =>
    rw [allGt_cons] at hm ⊢
    exact ⟨hm.1, ih hm.2⟩

theorem allGt_get (m : VMap) (k q : List Nat) (y : Value) (hg : allGt k m = true)
    (h : m.get q = some y) : Key.lt k q = true := by
  fun_induction get m q with
  -- arms of `get`: 1 the empty map, 2 the head is the key (found), 3 the search goes on in the tail
  | case1 => cases h
  | case2 => rw [allGt_cons] at hg; exact hg.1
  | case3 _ _ _ _ _ ih => rw [allGt_cons] at hg; exact ih hg.2 h

theorem allGt_get_ne (m : VMap) (k q : List Nat) (y : Value) (hg : allGt k m = true)
    (h : m.get q = some y) : k ≠ q :=
  Key.lt_ne k q (allGt_get m k q y hg h)

theorem get_cons_of_allGt {k q : List Nat} {x : Value} {m : VMap} (v : Value) (h : allGt k m = true)
    (hq : m.get q = some x) : (VMap.cons k v m).get q = some x :=
  (if_neg (allGt_get_ne m k q x h hq)).trans hq

theorem get_none_of_allGt (m : VMap) (q : List Nat) (h : allGt q m = true) : m.get q = none := by
  cases hg : m.get q with
  | none => rfl
  | some y => exact absurd rfl (allGt_get_ne m q q y h hg)

/-- spine sortedness of an object (keys strictly increasing at the top level). -/
def SortedKeys : VMap → Bool
  | .nil => true
  | .cons k _ m => VMap.allGt k m && VMap.SortedKeys m

theorem sortedKeys_cons {k : List Nat} {v : Value} {m : VMap} :
    (VMap.cons k v m).SortedKeys = true ↔ allGt k m = true ∧ m.SortedKeys = true :=
  Bool.and_eq_true_iff

theorem sortedKeys_of_sorted : (m : VMap) → m.Sorted = true → m.SortedKeys = true
  | .nil, _ => rfl
  | .cons k v m, h => by
    simp only [VMap.Sorted, Bool.and_eq_true] at h
    simp [VMap.SortedKeys, h.1.2, VMap.sortedKeys_of_sorted m h.2]

theorem sortedKeys_insert (m : VMap) (q : List Nat) (x : Value) (hs : m.SortedKeys = true) :
    (m.insert q x).SortedKeys = true := by
  fun_induction insert m q x with
  | case1 => rfl
  | case2 k v m q x hlt =>
    simp only [SortedKeys, allGt, Bool.and_eq_true] at hs ⊢
    exact ⟨⟨hlt, allGt_trans m q k hlt hs.1⟩, hs⟩
  | case3 => exact hs
  | case4 k v m q x hnlt hne ih =>
    rw [sortedKeys_cons] at hs ⊢
    exact ⟨allGt_insert m k q x (Key.lt_of_not_lt_of_ne hnlt hne) hs.1, ih hs.2⟩

theorem sortedKeys_remove (m : VMap) (q : List Nat) (hs : m.SortedKeys = true) :
    (m.remove q).SortedKeys = true := by
  fun_induction remove m q with
  | case1 => rfl
  | case2 => rw [sortedKeys_cons] at hs; exact hs.2
  | case3 k v m q _ ih =>
    rw [sortedKeys_cons] at hs ⊢
    exact ⟨allGt_remove m k q hs.1, ih hs.2⟩

theorem get_remove_same_of_sortedKeys : (m : VMap) → (q : List Nat) → m.SortedKeys = true →
    (m.remove q).get q = none
  | .nil, _, _ => rfl
  | .cons k v m, q, hs => by
    rw [VMap.sortedKeys_cons] at hs
    by_cases e : k = q
    · subst e
      simp only [VMap.remove, if_true]
      exact get_none_of_allGt m k hs.1
    · simp only [VMap.remove, e, if_false, VMap.get]
      exact get_remove_same_of_sortedKeys m q hs.2

theorem get_remove (m : VMap) (q r : List Nat) (hs : m.SortedKeys = true) :
    (m.remove q).get r = if q = r then none else m.get r := by
  split
  · rename_i h; subst h; exact get_remove_same_of_sortedKeys m q hs
  · rename_i h; exact get_remove_other m q r h

theorem get_insert (m : VMap) (q r : List Nat) (x : Value) :
    (m.insert q x).get r = if q = r then some x else m.get r := by
  by_cases h : q = r
  · subst h; simp [get_insert_same]
  · simp [h, get_insert_other m q r x h]

theorem head_le_of_get {k q : List Nat} {v x : Value} {a : VMap} (ha : allGt k a = true)
    (h : (VMap.cons k v a).get q = some x) : k = q ∨ Key.lt k q = true := by
  by_cases hk : k = q
  · exact .inl hk
  · exact .inr (allGt_get a k q x ha ((if_neg hk).symm.trans h))

theorem ext_of_sortedKeys : (a b : VMap) → a.SortedKeys = true → b.SortedKeys = true →
    (∀ q, a.get q = b.get q) → a = b
  | .nil, .nil, _, _, _ => rfl
  | .nil, .cons l w b, _, _, h => nomatch (h l).trans (if_pos rfl)
  | .cons k v a, .nil, _, _, h => nomatch (h k).symm.trans (if_pos rfl)
  | .cons k v a, .cons l w b, ha, hb, h => by
    rw [sortedKeys_cons] at ha hb
    have hk : (VMap.cons k v a).get k = some v := if_pos rfl
    have hl : (VMap.cons l w b).get l = some w := if_pos rfl
    -- each head key has a value in the other object, so neither is below the other
    have hkl : k = l := by
      rcases head_le_of_get hb.1 ((h k).symm.trans hk) with e | h1
      · exact e.symm
      · rcases head_le_of_get ha.1 ((h l).trans hl) with e | h2
        · exact e
        · rw [Key.lt_asymm l k h1] at h2; cases h2
    subst hkl
    cases Option.some.inj (hk.symm.trans ((h k).trans hl))
    have htail : ∀ q, a.get q = b.get q := by
      intro q
      by_cases hq : k = q
      · subst hq
        rw [get_none_of_allGt a k ha.1, get_none_of_allGt b k hb.1]
      · have h2 := h q
        simpa only [VMap.get, hq, if_false] using h2
    rw [ext_of_sortedKeys a b ha.2 hb.2 htail]

end VMap

namespace VList

@[simp] theorem length_nil : VList.nil.length = 0 := rfl
@[simp] theorem length_cons (v : Value) (vs : VList) : (VList.cons v vs).length = vs.length + 1 := rfl

theorem length_append : (a b : VList) → (a.append b).length = a.length + b.length
  | .nil, b => by simp [append]
  | .cons _ vs, b => by simp [append, length_append vs b]; omega

theorem append_nil : (b : VList) → b.append .nil = b
  | .nil => rfl
  | .cons v vs => by simp [append, append_nil vs]

theorem length_nulls : (n : Nat) → (nulls n).length = n
  | 0 => rfl
  | n + 1 => by simp [nulls, length_nulls n]

theorem length_setN : (a : VList) → (n : Nat) → (x : Value) → (a.setN n x).length = a.length
  | .nil, _, _ => rfl
  | .cons _ _, 0, _ => rfl
  | .cons _ vs, n + 1, x => by simp [setN, length_setN vs n x]

theorem getN_setN_same : (a : VList) → (n : Nat) → (x : Value) → n < a.length →
    (a.setN n x).getN n = some x
  | .nil, _, _, h => by simp at h
  | .cons _ _, 0, _, _ => rfl
  | .cons _ vs, n + 1, x, h => by
    simp only [setN, getN]
    exact getN_setN_same vs n x (by simp at h; omega)

theorem getN_setN_other : (a : VList) → (n k : Nat) → (x : Value) → n ≠ k →
    (a.setN n x).getN k = a.getN k
  | .nil, _, _, _, _ => rfl
  | .cons _ _, 0, 0, _, h => absurd rfl h
  | .cons _ _, 0, _ + 1, _, _ => rfl
  | .cons _ _, _ + 1, 0, _, _ => rfl
  | .cons _ vs, n + 1, k + 1, x, h => getN_setN_other vs n k x fun e => h (congrArg _ e)

theorem getN_append : (a b : VList) → (n : Nat) →
    (a.append b).getN n = if n < a.length then a.getN n else b.getN (n - a.length)
  | .nil, _, _ => rfl
  | .cons _ _, _, 0 => rfl
  | .cons _ vs, b, n + 1 => by
    simp only [append, getN, length_cons, Nat.add_lt_add_iff_right, Nat.add_sub_add_right]
    exact getN_append vs b n

theorem getN_append_left (a b : VList) (n : Nat) (h : n < a.length) : (a.append b).getN n = a.getN n := by
  rw [getN_append, if_pos h]

theorem getN_append_right (a b : VList) (n : Nat) (h : a.length ≤ n) :
    (a.append b).getN n = b.getN (n - a.length) := by
  rw [getN_append, if_neg (Nat.not_lt.mpr h)]

theorem getN_none_of_le : (a : VList) → (n : Nat) → a.length ≤ n → a.getN n = none
  | .nil, _, _ => rfl
  | .cons _ _, 0, h => by simp at h
  | .cons _ vs, n + 1, h => by
    simp only [getN]; exact getN_none_of_le vs n (by simp at h; omega)

theorem getN_nulls : (k n : Nat) → n < k → (nulls k).getN n = some .null
  | 0, _, h => by omega
  | _ + 1, 0, _ => rfl
  | k + 1, n + 1, h => by simp only [nulls, getN]; exact getN_nulls k n (by omega)

end VList
