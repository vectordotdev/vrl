/-
  Positional numerals in a base `b`: the value of a digit list (most significant digit first) and
  the numeral of a number. A printer of the model writes `toDigits` through its table of digit
  characters; a reader folds `ofDigits` over the digit values it recognises.
-/

namespace Digits

theorem mul_add_div {b : Nat} (x d : Nat) (hd : d < b) : (x * b + d) / b = x := by
  rw [Nat.add_comm, Nat.add_mul_div_right _ _ (Nat.zero_lt_of_lt hd), Nat.div_eq_of_lt hd,
    Nat.zero_add]

theorem mul_add_mod {b : Nat} (x d : Nat) (hd : d < b) : (x * b + d) % b = d := by
  rw [Nat.add_comm, Nat.add_mul_mod_self_right, Nat.mod_eq_of_lt hd]

theorem mul_add_lt {m n x y : Nat} (hx : x < m) (hy : y < n) : x * n + y < m * n :=
  calc x * n + y < x * n + n := Nat.add_lt_add_left hy _
    _ = (x + 1) * n := (Nat.succ_mul x n).symm
    _ ≤ m * n := Nat.mul_le_mul_right n hx

/-- the digits `ds` read after a prefix of value `a` -/
def ofDigits (b a : Nat) (ds : List Nat) : Nat := ds.foldl (fun a d => a * b + d) a

theorem ofDigits_cons (b a d : Nat) (ds : List Nat) :
    ofDigits b a (d :: ds) = ofDigits b (a * b + d) ds := rfl

theorem ofDigits_append (b a : Nat) (ds es : List Nat) :
    ofDigits b a (ds ++ es) = ofDigits b (ofDigits b a ds) es := List.foldl_append

/-- so a reader that checks a bound at every digit accepts exactly when the final value is within it -/
theorem le_ofDigits {b : Nat} (hb : 0 < b) (ds : List Nat) : ∀ a, a ≤ ofDigits b a ds := by
  induction ds with
  | nil => exact fun a => Nat.le_refl a
  | cons d ds ih =>
    exact fun a =>
      Nat.le_trans (Nat.le_trans (Nat.le_mul_of_pos_right a hb) (Nat.le_add_right _ d)) (ih _)

def toDigits (b n : Nat) : List Nat :=
  if 2 ≤ b ∧ b ≤ n then toDigits b (n / b) ++ [n % b] else [n]
decreasing_by exact Nat.div_lt_self (by omega) (by omega)

theorem toDigits_lt {b n : Nat} (h : n < b) : toDigits b n = [n] := by
  rw [toDigits, if_neg (by omega)]

theorem toDigits_ge {b n : Nat} (hb : 2 ≤ b) (h : b ≤ n) :
    toDigits b n = toDigits b (n / b) ++ [n % b] := by
  rw [toDigits, if_pos ⟨hb, h⟩]

theorem toDigits_ne_nil (b n : Nat) : toDigits b n ≠ [] := by
  rw [toDigits]; split <;> simp

theorem length_toDigits_le {b : Nat} (hb : 2 ≤ b) : ∀ (k n : Nat), n < b ^ (k + 1) →
    (toDigits b n).length ≤ k + 1
  | 0, n, h => by rw [toDigits_lt (by simpa using h)]; exact Nat.le_refl 1
  | k + 1, n, h => by
    by_cases hn : n < b
    · rw [toDigits_lt hn]; exact Nat.le_add_left 1 _
    · rw [toDigits_ge hb (Nat.le_of_not_lt hn), List.length_append]
      exact Nat.succ_le_succ (length_toDigits_le hb k _
        (Nat.div_lt_of_lt_mul (by rw [Nat.mul_comm, ← Nat.pow_succ]; exact h)))

theorem ofDigits_toDigits {b : Nat} (n : Nat) : ofDigits b 0 (toDigits b n) = n := by
  fun_induction toDigits b n with
  | case1 n _ ih => rw [ofDigits_append, ih]; exact Nat.div_add_mod' n b
  | case2 n _ => exact (congrArg (· + n) (Nat.zero_mul b)).trans (Nat.zero_add n)

theorem toDigits_mem_lt {b : Nat} (hb : 2 ≤ b) (n : Nat) : ∀ d ∈ toDigits b n, d < b := by
  fun_induction toDigits b n with
  | case1 n _ ih => rw [List.forall_mem_append]; exact ⟨ih, by simpa using Nat.mod_lt n (by omega)⟩
  | case2 n h => simpa using (by omega : n < b)

/-- for a table `enc` of digit characters and a reading `dec` that undoes it -/
theorem ofDigits_map_toDigits {α : Type} {b : Nat} (hb : 2 ≤ b) (enc : Nat → α) (dec : α → Nat)
    (h : ∀ d, d < b → dec (enc d) = d) (n : Nat) :
    ofDigits b 0 (((toDigits b n).map enc).map dec) = n := by
  rw [List.map_map,
    List.map_congr_left (f := dec ∘ enc) (g := id) fun d hd => h d (toDigits_mem_lt hb n d hd),
    List.map_id, ofDigits_toDigits]

theorem toDigits_head {b : Nat} (n : Nat) (hn : 0 < n) : ∃ d t, toDigits b n = d :: t ∧ d ≠ 0 := by
  fun_induction toDigits b n with
  | case1 n h ih =>
    obtain ⟨d, t, e, hd⟩ := ih (Nat.div_pos h.2 (by omega))
    exact ⟨d, t ++ [n % b], by rw [e]; rfl, hd⟩
  | case2 n _ => exact ⟨n, [], rfl, by omega⟩

/-- the numerals: digits of the base, at least one, no `0` in front of another digit -/
structure Canon (b : Nat) (ds : List Nat) : Prop where
  lt : ∀ d ∈ ds, d < b
  ne_nil : ds ≠ []
  noZeroPrefix : ds.head? = some 0 → ds.length ≤ 1

theorem Canon.zero_cons {b : Nat} {t : List Nat} (c : Canon b (0 :: t)) : t = [] :=
  List.eq_nil_of_length_eq_zero (Nat.le_zero.mp (Nat.le_of_succ_le_succ (c.noZeroPrefix rfl)))

theorem canon_toDigits {b : Nat} (hb : 2 ≤ b) (n : Nat) : Canon b (toDigits b n) := by
  refine ⟨toDigits_mem_lt hb n, toDigits_ne_nil b n, fun h0 => ?_⟩
  by_cases hn : n = 0
  · rw [hn, toDigits_lt (by omega)]; exact Nat.le_refl 1
  · obtain ⟨d, t, e, hd⟩ := toDigits_head n (by omega)
    rw [e] at h0
    exact absurd (Option.some.inj h0) hd

theorem toDigits_snoc {b : Nat} (hb : 2 ≤ b) {a : Nat} (ha : 0 < a) {d : Nat} (hd : d < b) :
    toDigits b (a * b + d) = toDigits b a ++ [d] := by
  rw [toDigits_ge hb (Nat.le_trans (Nat.le_mul_of_pos_left b ha) (Nat.le_add_right _ d)),
    mul_add_div a d hd, mul_add_mod a d hd]

theorem toDigits_ofDigits_pos {b : Nat} (hb : 2 ≤ b) (ds : List Nat) (hd : ∀ d ∈ ds, d < b) :
    ∀ a, 0 < a → toDigits b (ofDigits b a ds) = toDigits b a ++ ds := by
  induction ds with
  | nil => exact fun a _ => (List.append_nil _).symm
  | cons d ds ih =>
    obtain ⟨h1, h2⟩ := List.forall_mem_cons.mp hd
    intro a ha
    rw [ofDigits_cons, ih h2 _ (Nat.add_pos_left (Nat.mul_pos ha (by omega)) d),
      toDigits_snoc hb ha h1, List.append_assoc, List.singleton_append]

theorem toDigits_ofDigits {b : Nat} (hb : 2 ≤ b) : ∀ {ds : List Nat}, Canon b ds →
    toDigits b (ofDigits b 0 ds) = ds
  | [], c => absurd rfl c.ne_nil
  | d :: t, c => by
    obtain ⟨h1, h2⟩ := List.forall_mem_cons.mp c.lt
    rw [ofDigits_cons, Nat.zero_mul, Nat.zero_add]
    by_cases hd : d = 0
    · subst hd
      cases c.zero_cons
      exact toDigits_lt h1
    · rw [toDigits_ofDigits_pos hb t h2 d (by omega), toDigits_lt h1]; rfl

end Digits
