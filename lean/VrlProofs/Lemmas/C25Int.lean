/-
  format_int / parse_int (C25, C29): the digit loop of `format_radix` and the digit fold of
  `from_str_radix` are inverse.
-/
import VrlModel.Conv.Int
import VrlProofs.Lemmas.Digits

namespace Conv

/-- `i64Min` and `i64Max` written out, the form in which `omega` can use them -/
theorem inI64_iff (n : Int) :
    inI64 n = true ↔ -9223372036854775808 ≤ n ∧ n ≤ 9223372036854775807 := by
  unfold inI64 i64Min i64Max
  rw [Bool.and_eq_true, decide_eq_true_iff, decide_eq_true_iff]

theorem digitVal_digitChar (d : Nat) (h : d < 36) : digitVal (digitChar d) = some d := by
  unfold digitChar digitVal
  split
  · have h1 : 48 ≤ 48 + d ∧ 48 + d ≤ 57 := by omega
    rw [if_pos h1, Nat.add_sub_cancel_left]
  · have h1 : ¬ (48 ≤ 87 + d ∧ 87 + d ≤ 57) := by omega
    have h2 : 97 ≤ 87 + d ∧ 87 + d ≤ 122 := by omega
    rw [if_neg h1, if_pos h2, Nat.add_sub_cancel_left]

theorem digitChar_not_sign (d : Nat) (h : d < 36) : digitChar d ≠ 43 ∧ digitChar d ≠ 45 := by
  unfold digitChar
  split <;> omega

theorem digitChar_ascii (d : Nat) (h : d < 36) : digitChar d < 128 := by
  unfold digitChar
  split <;> omega

theorem digitsValue_append (b : Nat) (l1 l2 : List Nat) (acc : Nat) :
    digitsValue b (l1 ++ l2) acc = (digitsValue b l1 acc).bind (digitsValue b l2) := by
  induction l1 generalizing acc with
  | nil => rfl
  | cons c cs ih =>
    simp only [List.cons_append, digitsValue]
    cases digitVal c with
    | none => rfl
    | some d =>
      simp only
      split
      · exact ih _
      · rfl

/-- dropping a digit leaves one iteration less to do -/
theorem div_lt_two_pow {b x fuel : Nat} (hb2 : 2 ≤ b) (hx : x < 2 ^ (fuel + 1)) : x / b < 2 ^ fuel :=
  Nat.div_lt_of_lt_mul (Nat.lt_of_lt_of_le hx (by
    rw [Nat.pow_succ, Nat.mul_comm]; exact Nat.mul_le_mul_right _ hb2))

theorem digitsRev_ne_nil (b fuel x : Nat) : digitsRev b (fuel + 1) x ≠ [] := by
  simp [digitsRev]

theorem digitsRev_lt (b : Nat) (hb : 0 < b) : ∀ (fuel x d : Nat), d ∈ digitsRev b fuel x → d < b
  | 0, _, _, h => by simp [digitsRev] at h
  | fuel + 1, x, d, h => by
    simp only [digitsRev, List.mem_cons] at h
    rcases h with rfl | h
    · exact Nat.mod_lt _ hb
    · split at h
      · simp at h
      · exact digitsRev_lt b hb fuel _ d h

open Digits

/-- the loop of `format_radix` writes the numeral of `x`, last digit first -/
theorem reverse_digitsRev (b : Nat) (hb : 2 ≤ b) : ∀ (fuel x : Nat), 0 < fuel → x < 2 ^ fuel →
    (digitsRev b fuel x).reverse = toDigits b x
  | fuel + 1, x, _, hx => by
    rw [digitsRev]
    split
    · rename_i hq
      have hlt := Nat.lt_of_div_eq_zero (by omega) hq
      rw [List.reverse_singleton, Nat.mod_eq_of_lt hlt, toDigits_lt hlt]
    · rename_i hq
      -- another digit follows, so the fuel was more than 1: with fuel 1, `x < 2 ≤ b` and `x / b = 0`
      have hf : 0 < fuel := by
        refine Nat.pos_of_ne_zero fun e => hq (Nat.div_eq_of_lt ?_)
        subst e
        exact Nat.lt_of_lt_of_le hx hb
      rw [List.reverse_cons, reverse_digitsRev b hb fuel _ hf (div_lt_two_pow hb hx),
        toDigits_ge hb (Nat.le_of_not_lt fun h => hq (Nat.div_eq_of_lt h))]

/-- the fold of `from_str_radix` over digit characters is `ofDigits` -/
theorem digitsValue_map (b : Nat) (hb36 : b ≤ 36) (ds : List Nat) (hd : ∀ d ∈ ds, d < b) :
    ∀ acc, digitsValue b (ds.map digitChar) acc = some (ofDigits b acc ds) := by
  induction ds with
  | nil => exact fun _ => rfl
  | cons d ds ih =>
    obtain ⟨h1, h2⟩ := List.forall_mem_cons.mp hd
    intro acc
    simp only [List.map_cons, digitsValue, digitVal_digitChar d (by omega), h1, ↓reduceIte]
    exact ih h2 _

theorem magText_eq (b x : Nat) (hb : 2 ≤ b) (hx : x < 2 ^ 64) :
    magText b x = (toDigits b x).map digitChar := by
  rw [magText, ← List.map_reverse, reverse_digitsRev b hb 64 x (by decide) hx]

theorem magText_ne_nil (b x : Nat) : magText b x ≠ [] := by
  simp [magText, digitsRev_ne_nil b 63 x]

theorem mem_magText (b x : Nat) (hb : 0 < b) (c : Nat) (hc : c ∈ magText b x) :
    ∃ d, d < b ∧ c = digitChar d := by
  simp only [magText, List.mem_reverse, List.mem_map] at hc
  obtain ⟨d, hd, rfl⟩ := hc
  exact ⟨d, digitsRev_lt b hb 64 x d hd, rfl⟩

theorem magText_not_sign (b x : Nat) (hb : 0 < b) (hb36 : b ≤ 36) :
    ∀ c ∈ magText b x, c ≠ 43 ∧ c ≠ 45 := by
  intro c hc
  obtain ⟨d, hd, rfl⟩ := mem_magText b x hb c hc
  exact digitChar_not_sign d (by omega)

theorem magText_ascii (b x : Nat) (hb : 0 < b) (hb36 : b ≤ 36) : ∀ c ∈ magText b x, c < 128 := by
  intro c hc
  obtain ⟨d, hd, rfl⟩ := mem_magText b x hb c hc
  exact digitChar_ascii d (by omega)

theorem digitsValue_magText (b x : Nat) (hb2 : 2 ≤ b) (hb36 : b ≤ 36) (hx : x < 2 ^ 64) :
    digitsValue b (magText b x) 0 = some x := by
  rw [magText_eq b x hb2 hx, digitsValue_map b hb36 _ (toDigits_mem_lt hb2 x), ofDigits_toDigits]

theorem magText_head (b x : Nat) (hb2 : 2 ≤ b) (h0 : 0 < x) (hx : x < 2 ^ 64) :
    ∃ c t, magText b x = c :: t ∧ c ≠ 48 := by
  obtain ⟨d, t, e, hd⟩ := toDigits_head x h0
  refine ⟨digitChar d, t.map digitChar, by rw [magText_eq b x hb2 hx, e]; rfl, ?_⟩
  unfold digitChar
  split <;> omega

/-- text of a signed integer in base `b` (what `format_radix` produces — `unsigned_abs`, no overflow —
    and what `i64::to_string` produces for `b = 10`) -/
def signedText (b : Nat) (n : Int) : List Nat :=
  if n < 0 then 45 :: magText b (-n).toNat else magText b n.toNat

theorem formatRadix_eq_signedText (n : Int) (b : Nat) :
    formatRadix n b = .ok (signedText b n) := by
  unfold formatRadix signedText
  split <;> rfl

theorem fromStrRadix_minus (b m : Nat) (ds : List Nat) (hne : ds ≠ []) (hv : digitsValue b ds 0 = some m)
    (hm : i64Min ≤ -(m : Int)) : fromStrRadix (45 :: ds) b = some (-(m : Int)) := by
  cases ds with
  | nil => exact absurd rfl hne
  | cons c t => simp [fromStrRadix, hv, hm]

theorem fromStrRadix_unsigned (b m c : Nat) (t : List Nat) (hc : c ≠ 43 ∧ c ≠ 45)
    (hv : digitsValue b (c :: t) 0 = some m) (hm : (m : Int) ≤ i64Max) :
    fromStrRadix (c :: t) b = some (m : Int) := by
  simp [fromStrRadix, hc.1, hc.2, hv, hm]

theorem fromStrRadix_signedText (n : Int) (b : Nat) (hb2 : 2 ≤ b) (hb36 : b ≤ 36)
    (hn : inI64 n = true) : fromStrRadix (signedText b n) b = some n := by
  rw [inI64_iff] at hn
  unfold signedText
  split
  · rw [fromStrRadix_minus b _ _ (magText_ne_nil b _)
      (digitsValue_magText b (-n).toNat hb2 hb36 (by omega)) (by unfold i64Min; omega)]
    congr 1; omega
  · cases hm : magText b n.toNat with
    | nil => exact absurd hm (magText_ne_nil b _)
    | cons c t =>
      rw [fromStrRadix_unsigned b n.toNat c t
        (magText_not_sign b n.toNat (by omega) hb36 c (by rw [hm]; exact List.mem_cons_self))
        (hm ▸ digitsValue_magText b n.toNat hb2 hb36 (by omega)) (by unfold i64Max; omega)]
      congr 1; omega

/-- `parse_int` without a base argument reads decimal text back: `"0"` goes through the octal
    branch, every other decimal text starts with `-` or a non-zero digit. -/
theorem parseInt_auto_signedText (i : Int) (hi : inI64 i = true) :
    parseInt (.bytes (signedText 10 i)) none = .ok (.int i) := by
  have h := fromStrRadix_signedText i 10 (by omega) (by omega) hi
  have hi' := (inI64_iff i).mp hi
  by_cases hneg : i < 0
  · have ht : signedText 10 i = 45 :: magText 10 (-i).toNat := by simp [signedText, hneg]
    rw [ht] at h ⊢
    simp [parseInt, h, optToRes, Res.map]
  · by_cases h0 : i = 0
    · subst h0; decide
    · have ht : signedText 10 i = magText 10 i.toNat := by simp [signedText, hneg]
      obtain ⟨c, t, hm, hc⟩ := magText_head 10 i.toNat (by omega) (by omega) (by omega)
      rw [ht, hm] at h ⊢
      simp [parseInt, hc, h, optToRes, Res.map]

end Conv
