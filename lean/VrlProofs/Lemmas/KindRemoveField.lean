import VrlProofs.Lemmas.KindRemove
import VrlProofs.Lemmas.KindUnion

/-! `Kind::remove` of a single field — the type-level `del(.field)`: sound for every kind with an
    object state (whatever its other states) whose object collection is tame, every member object,
    every field and both values of `compact`. (Deeper paths and indices are in the witnessed classes
    `D_remove_*` / `D_compact_*`.) -/

namespace Spec

theorem VMap.get_remove_same : (m : VMap) → (q : List Nat) → m.SortedKeys = true → (m.remove q).get q = none :=
  _root_.VMap.get_remove_same_of_sortedKeys

theorem VMap.remove_absent : (m : VMap) → (q : List Nat) → m.get q = none → m.remove q = m := by
  intro m q h
  fun_induction _root_.VMap.get m q with
  | case1 => rfl
  | case2 => cases h
  | case3 _ _ _ _ hk ih => simp only [_root_.VMap.remove, hk, if_false, ih h]

theorem objFits_remove (m : VMap) (kn : KList) (u : Unknown) (f : Key) (hs : m.SortedKeys = true)
    (hk : kn.SortedKeys = true) (h : ObjFits m (.mk kn u)) : ObjFits (m.remove f) (.mk (kn.remove f) u) := by
  intro k
  rw [_root_.VMap.get_remove m f k hs, loc_remove kn u f k hk]
  split
  · exact toKind_undefined u
  · exact h k

theorem objFits_insert_same (m : VMap) (kn : KList) (u : Unknown) (f : Key) (Kf : Kind)
    (hf : kn.get f = some Kf) (h : ObjFits m (.mk kn u)) : ObjFits m (.mk (kn.insert f Kf) u) := by
  intro k
  rw [loc_insert]
  split
  · rename_i e; subst e
    have := h f
    rwa [loc_of_get (c := .mk kn u) hf] at this
  · exact h k

theorem objFits_remove_value_absent (m : VMap) (c : Col) (f : Key) (hf : c.known.get f = none)
    (h : ObjFits m c) (hs : m.SortedKeys = true) : ObjFits (m.remove f) c := by
  intro k
  rw [_root_.VMap.get_remove m f k hs]
  split
  · rename_i e; subst e; rw [loc_of_none hf]; exact toKind_undefined c.unknown
  · exact h k

theorem TameC.remove {kn : KList} {u : Unknown} (h : TameC (.mk kn u)) (f : Key) :
    TameC (.mk (kn.remove f) u) := by
  obtain ⟨sk, tl, tu⟩ := tameC_mk.mp h
  exact tameC_mk.mpr ⟨KList.sortedKeys_remove kn f sk,
    (tameL_iff_all _).mpr (KList.all_remove _ kn f ((tameL_iff_all _).mp tl)), tu⟩

theorem TameC.insert {kn : KList} {u : Unknown} (h : TameC (.mk kn u)) (f : Key) {Kf : Kind}
    (hKf : Tame Kf) : TameC (.mk (kn.insert f Kf) u) := by
  obtain ⟨sk, tl, tu⟩ := tameC_mk.mp h
  exact tameC_mk.mpr ⟨KList.sortedKeys_insert kn f Kf sk,
    (tameL_iff_all _).mpr (KList.all_insert _ kn f Kf ((tameL_iff_all _).mp tl) (tame_iff.mp hKf)), tu⟩

/-- the three outcomes of `CompactOptions::compact` on a field -/
theorem objFits_compactCol (co : Kind.Compact) (kn : KList) (u : Unknown) (f : Key) (cc : Bool) (m' : VMap)
    (t1 : TameC (.mk kn u))
    (hrem : co ≠ .never → ObjFits m' (.mk (kn.remove f) u))
    (hkeep : co = .never → ObjFits m' (.mk kn u)) :
    ObjFits m' (Kind.compactCol co false (.mk kn u) f cc).1 := by
  cases co with
  | always => simpa [Kind.compactCol, Kind.removeKnown, Col.known, Col.unknown] using hrem (by simp)
  | never => simpa [Kind.compactCol] using hkeep rfl
  | maybe =>
    simp only [Kind.compactCol, Kind.removeKnown, Bool.false_eq_true, if_false, Col.known, Col.unknown]
    exact fun k => (col_merge_sound _ (mergeKeepF_sound _) _ _ (t1.remove f) t1 k).1 _ (hrem (by simp) k)

/-- the kind `remove_inner` works on below the field -/
def fieldTarget (p : Prim) (a : OCol) (kn : KList) (u : Unknown) (f : Key) : Kind :=
  (kn.get f).getD ((Kind.mk p a (.some (.mk kn u))).atPath [.field f])

/-- the `CompactOptions` that `remove_inner` returns at the end of the path, for the target `t`. -/
def fieldCo (t : Kind) : Kind.Compact :=
  if t.isNever then .never else Kind.Compact.new t.containsAnyDefined t.containsUndefined

/-- the object collection before compaction: the modified target is stored only for a known field. -/
def fieldObject1 (kn : KList) (u : Unknown) (f : Key) (t : Kind) : Col :=
  if kn.contains f then .mk (kn.insert f (if t.isNever then Kind.never else t)) u else .mk kn u

/-- the object collection `Kind::remove` leaves behind for a single field -/
def removedFieldCol (p : Prim) (a : OCol) (kn : KList) (u : Unknown) (f : Key) (compact : Bool) : Col :=
  (Kind.compactCol (fieldCo (fieldTarget p a kn u f)) false (fieldObject1 kn u f (fieldTarget p a kn u f)) f compact).1

theorem removeInner_nil (t : Kind) (compact : Bool) :
    Kind.removeInner t [] compact = .ok (if t.isNever then Kind.never else t, fieldCo t) := by
  rw [Kind.removeInner]
  unfold fieldCo
  split <;> rfl

theorem removeInner_field (p : Prim) (a : OCol) (kn : KList) (u : Unknown) (f : Key) (compact : Bool) :
    Kind.removeInner (.mk p a (.some (.mk kn u))) [.field f] compact =
      .ok (.mk p a (.some (removedFieldCol p a kn u f compact)),
        (Kind.compactCol (fieldCo (fieldTarget p a kn u f)) false
          (fieldObject1 kn u f (fieldTarget p a kn u f)) f compact).2) := by
  have hnn : (Kind.mk p a (.some (.mk kn u))).isNever = false := by simp [Kind.isNever]
  have hat : (Kind.mk p a (.some (.mk kn u))).atPathO [.field f] =
      .ok ((Kind.mk p a (.some (.mk kn u))).atPath [.field f]) := by
    simp [Kind.atPathO, Kind.atPathPanics, Kind.segPanics, hnn]
  rw [Kind.removeInner]
  simp only [hnn, Bool.false_eq_true, if_false, hat, Kind.Outcome.bind, removeInner_nil]
  rfl

theorem compact_new_never {a b : Bool} (h : Kind.Compact.new a b = .never) : a = false := by
  cases a <;> cases b <;> simp_all [Kind.Compact.new]

/-- **`Kind::remove` of one field is sound for objects**: `remove` succeeds and the object without
    the field belongs to the kind left behind. -/
theorem remove_field_obj_sound (m : VMap) (p : Prim) (a : OCol) (kn : KList) (u : Unknown) (f : Key)
    (compact : Bool) (sC : (Col.mk kn u).SortedK = true) (iC : (Col.mk kn u).hasNonAnyInf = false)
    (hs : m.Sorted = true) (hm : mem (.obj m) (.mk p a (.some (.mk kn u))) = true) :
    (Kind.mk p a (.some (.mk kn u))).remove [.field f] compact =
        .ok (.mk p a (.some (removedFieldCol p a kn u f compact)),
             (Kind.mk p a (.some (.mk kn u))).get [.field f]) ∧
      mem (.obj (m.remove f)) (.mk p a (.some (removedFieldCol p a kn u f compact))) = true := by
  have hsk := VMap.sortedKeys_of_sorted m hs
  have hsk' : (m.remove f).SortedKeys = true := VMap.sortedKeys_of_sorted _ (VMap.sorted_remove m f hs)
  have tC : TameC (.mk kn u) := ⟨sC, iC⟩
  obtain ⟨c', hc', hmc⟩ := (mem_obj_fits m _ hsk).mp hm
  cases hc'
  have hnn : (Kind.mk p a (.some (.mk kn u))).isNever = false := by simp [Kind.isNever]
  have hget : (Kind.mk p a (.some (.mk kn u))).getO [.field f] =
      .ok ((Kind.mk p a (.some (.mk kn u))).get [.field f]) := by
    simp [Kind.getO, Kind.atPathPanics, Kind.segPanics, hnn]
  have hrem := removeInner_field p a kn u f compact
  refine ⟨?_, ?_⟩
  · rw [Kind.remove, hget]
    simp only [Kind.Outcome.bind, hrem]
  · refine (mem_obj_fits _ _ hsk').mpr ⟨_, rfl, ?_⟩
    unfold removedFieldCol fieldCo fieldObject1 fieldTarget
    cases hkf : kn.get f with
    | none =>
      -- the field is not known: the target is the unknown kind, which admits `undefined`
      have hcont : kn.contains f = false := by simp [KList.contains, hkf]
      simp only [Option.getD_none, hcont, Bool.false_eq_true, if_false]
      apply objFits_compactCol _ kn u f compact _ tC
      · intro _; exact objFits_remove m kn u f hsk tC.sortedKeys hmc
      · intro _; exact objFits_remove_value_absent m _ f hkf hmc hsk
    | some Kf =>
      have hcont : kn.contains f = true := by simp [KList.contains, hkf]
      simp only [Option.getD_some, hcont, if_true]
      -- the field (or its absence) belongs to its kind, which therefore is not `never`
      have hslot : memOpt (m.get f) Kf = true := by
        have := hmc f
        rwa [loc_of_get (c := .mk kn u) hkf] at this
      simp only [memOpt_not_never _ _ hslot, Bool.false_eq_true, if_false]
      have hmc' := objFits_insert_same m kn u f Kf hkf hmc
      have tC' := tC.insert f ((tameC_mk.mp tC).2.1.get hkf)
      apply objFits_compactCol _ (kn.insert f Kf) u f compact _ tC'
      · intro _
        exact objFits_remove m _ u f hsk tC'.sortedKeys hmc'
      · intro hco
        -- the field's kind is exactly `undefined`: the object does not have it
        have hund : Kf.isUndefined = true := by
          simpa [Kind.containsAnyDefined] using compact_new_never hco
        have hmf : m.get f = none := by
          cases hmf : m.get f with
          | none => rfl
          | some x =>
            rw [hmf, memOpt, mem_false_of_isUndefined x Kf hund] at hslot; cases hslot
        rw [VMap.remove_absent m f hmf]
        exact hmc'

end Spec
