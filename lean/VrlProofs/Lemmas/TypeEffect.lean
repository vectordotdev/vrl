import VrlProofs.Lemmas.TypeState
import VrlProofs.Lemmas.EvalBind
import VrlProofs.Lemmas.TypeEq

/-! Effect-free expressions (`Lang.effectFree`): evaluating one changes nothing `Conforms` looks at,
    whatever the outcome (in particular when it fails half-way); and its `type_info` leaves a
    conforming state conforming. Used for the operand of `??` / `ok, err =` (whose failure is
    handled, after which the program continues in the state the failed operand left). -/

namespace Lang

theorem bindOk_same {s : St} {x : Res × St} {k : Value → St → Res × St} (hx : St.Same s x.2)
    (hk : ∀ v s1, St.Same s1 (k v s1).2) : St.Same s (bindOk x k).2 :=
  bindOk_keeps (J := St.Same s) hx fun v s1 h => h.trans (hk v s1)

mutual
  theorem effectFree_same : (e : Expr) → effectFree e = true → ∀ s, St.Same s (eval e s).2
    | .lit _, _, s => St.Same.refl s
    | .noop, _, s => St.Same.refl s
    | .var _, _, s => St.Same.refl s
    | .qvar _ _, _, s => St.Same.refl s
    | .existsVar _ _, _, s => by rw [eval_existsVar]; split <;> exact St.Same.refl s
    | .qext m p, _, s => same_targetGet s m p
    | .existsExt m p, _, s => same_targetGet s m p
    | .grp e, h, s => effectFree_same e h s
    | .not e, h, s => by
      rw [eval_not]
      exact bindOk_same (effectFree_same e h s) fun v s1 => by cases v <;> exact St.Same.refl s1
    | .qexpr e p, h, s => by
      rw [eval_qexpr]; exact bindOk_same (effectFree_same e h s) fun _ s1 => St.Same.refl s1
    | .existsExpr e p, h, s => by
      rw [eval_existsExpr]; exact bindOk_same (effectFree_same e h s) fun _ s1 => St.Same.refl s1
    | .arr es, h, s => by
      have := effectFreeS_same es h s
      rw [eval_arr]
      cases hq : evalList es s with | mk r s1 => rw [hq] at this; cases r <;> exact this
    | .obj kvs, h, s => by
      have := effectFreeK_same kvs h s
      rw [eval_obj]
      cases hq : evalKVs kvs s with | mk r s1 => rw [hq] at this; cases r <;> exact this
    | .op o l r, h, s => by
      obtain ⟨hl, hr⟩ := Bool.and_eq_true_iff.mp h
      cases ho : plainOp o with
      | true =>
        rw [eval_op_strict o ho]
        exact bindOk_same (effectFree_same l hl s) fun _ s1 =>
          bindOk_same (effectFree_same r hr s1) fun _ s2 => St.Same.refl s2
      | false =>
        cases o <;> first | cases ho | skip
        · rw [eval_or]
          refine St.Same.trans (same_flags s _ _ _ _ true) (bindOk_same (effectFree_same l hl _) fun v s1 => ?_)
          show St.Same s1 (if falsy v then _ else _ : Res × St).2
          split
          · exact effectFree_same r hr s1
          · exact St.Same.refl s1
        · rw [eval_and]
          refine St.Same.trans (same_flags s _ _ _ _ true) (bindOk_same (effectFree_same l hl _) fun v s1 => ?_)
          show St.Same s1 (if falsy v then _ else _ : Res × St).2
          split
          · exact St.Same.refl s1
          · exact bindOk_same (effectFree_same r hr s1) fun _ s2 => St.Same.refl s2
        · have h1 := St.Same.trans (same_flags s _ _ _ true _) (effectFree_same l hl { s with evCatch := true })
          rw [eval_err]
          cases hq : eval l { s with evCatch := true } with
          | mk r1 s1 =>
            rw [hq] at h1
            cases r1 with
            | err => exact St.Same.trans h1 (effectFree_same r hr s1)
            | _ => exact h1
    | .blk _, h, _ => nomatch h
    | .ifte _ _ _ _, h, _ => nomatch h
    | .asg _ _, h, _ => nomatch h
    | .iasg _ _ _ _, h, _ => nomatch h
    | .abort _ _, h, _ => nomatch h
    | .ret _, h, _ => nomatch h
    | .delExt _ _ _ _, h, _ => nomatch h
    | .delVar _ _ _ _, h, _ => nomatch h
    | .delExpr _ _ _ _, h, _ => nomatch h
    | .call _ _ _ _ _ _ _, h, _ => nomatch h

  theorem effectFreeS_same : (es : Exprs) → effectFreeS es = true → ∀ s, St.Same s (evalList es s).2
    | .nil, _, s => St.Same.refl s
    | .cons e es, h, s => by
      obtain ⟨he, hes⟩ := Bool.and_eq_true_iff.mp h
      have h1 := effectFree_same e he s
      rw [evalList_cons]
      cases hq : eval e s with
      | mk r1 s1 =>
        rw [hq] at h1
        cases r1 with
        | ok v =>
          have h2 := effectFreeS_same es hes s1
          show St.Same s (match evalList es s1 with | (.ok vs, s) => _ | r => r : Except Res VList × St).2
          cases hq2 : evalList es s1 with | mk r2 s2 => rw [hq2] at h2; cases r2 <;> exact St.Same.trans h1 h2
        | _ => exact h1

  theorem effectFreeK_same : (kvs : KExprs) → effectFreeK kvs = true → ∀ s, St.Same s (evalKVs kvs s).2
    | .nil, _, s => St.Same.refl s
    | .cons k e kes, h, s => by
      obtain ⟨he, hes⟩ := Bool.and_eq_true_iff.mp h
      have h1 := effectFree_same e he s
      rw [evalKVs_cons]
      cases hq : eval e s with
      | mk r1 s1 =>
        rw [hq] at h1
        cases r1 with
        | ok v =>
          have h2 := effectFreeK_same kes hes s1
          show St.Same s (match evalKVs kes s1 with | (.ok mp, s) => _ | r => r : Except Res VMap × St).2
          cases hq2 : evalKVs kes s1 with | mk r2 s2 => rw [hq2] at h2; cases r2 <;> exact St.Same.trans h1 h2
        | _ => exact h1
end

/-- one run-time state inhabits the states after both operands, as after effect-free operands (in
    general the right one runs in a later state or not at all: `sound_op_or`, `sound_op_and`, `sound_op_err`) -/
theorem opState_conforms {s : St} (o : Opcode) (l : TypeDef) (lv : Option Value) (T1 : TState)
    (r : TypeDef) (Tr : TState)
    (hchk : AllNan (opChecks o l lv T1 r Tr)) (h1 : Conforms s T1) (hr : Conforms s Tr) :
    Conforms s (opState o l lv T1 Tr) := by
  cases o
  case err =>
    simp only [opChecks, allNan_append] at hchk
    exact Conforms.merge_left (mergeOk_of_checks hchk.2) h1
  case or =>
    simp only [opState]
    split
    · exact hr
    · split
      · exact h1
      · rename_i c1 c2
        simp only [opChecks, c1, c2] at hchk
        simp only [Bool.false_eq_true, if_false, allNan_append] at hchk
        exact Conforms.merge_left (mergeOk_of_checks hchk.2) h1
  case and =>
    simp only [opState]
    split
    · exact h1
    · split
      · exact hr
      · rename_i c1 c2
        simp only [opChecks, c1, c2] at hchk
        simp only [Bool.false_eq_true, if_false, allNan_append] at hchk
        exact Conforms.merge_left (mergeOk_of_checks hchk.2) h1
  all_goals exact hr

mutual
  theorem effectFree_conforms {s : St} : (e : Expr) → effectFree e = true → (T : TState) →
      AllNan (checks e T) → Conforms s T → Conforms s (typeInfo e T).2
    | .lit _, _, _, _, hc => hc
    | .noop, _, _, _, hc => hc
    | .var _, _, _, _, hc => hc
    | .qvar _ _, _, _, _, hc => hc
    | .qext _ _, _, _, _, hc => hc
    | .existsExt _ _, _, _, _, hc => hc
    | .existsVar _ _, _, _, _, hc => hc
    | .grp e, h, T, hk, hc => effectFree_conforms e h T hk hc
    | .not e, h, T, hk, hc => effectFree_conforms e h T (allNan_append.mp hk).1 hc
    | .qexpr e p, h, T, hk, hc => effectFree_conforms e h T (allNan_append.mp hk).1 hc
    | .existsExpr e p, h, T, hk, hc =>
      effectFree_conforms e h T (allNan_append.mp (allNan_append.mp hk).1).1 hc
    | .arr es, h, T, hk, hc => effectFreeS_conforms es h T {} hk hc
    | .obj kvs, h, T, hk, hc => effectFreeK_conforms kvs h T {} (allNan_append.mp hk).2 hc
    | .op o l r, h, T, hk, hc => by
      obtain ⟨hl, hr⟩ := Bool.and_eq_true_iff.mp h
      simp only [checks_op, allNan_append] at hk
      obtain ⟨⟨⟨hk1, _⟩, hk2⟩, hk3⟩ := hk
      have c1 := effectFree_conforms l hl T hk1 hc
      rw [typeInfo_op]
      exact opState_conforms o _ _ _ _ _ hk3 c1 (effectFree_conforms r hr _ hk2 c1)
    | .blk _, h, _, _, _ => nomatch h
    | .ifte _ _ _ _, h, _, _, _ => nomatch h
    | .asg _ _, h, _, _, _ => nomatch h
    | .iasg _ _ _ _, h, _, _, _ => nomatch h
    | .abort _ _, h, _, _, _ => nomatch h
    | .ret _, h, _, _, _ => nomatch h
    | .delExt _ _ _ _, h, _, _, _ => nomatch h
    | .delVar _ _ _ _, h, _, _, _ => nomatch h
    | .delExpr _ _ _ _, h, _, _, _ => nomatch h
    | .call _ _ _ _ _ _ _, h, _, _, _ => nomatch h

  theorem effectFreeS_conforms {s : St} : (es : Exprs) → effectFreeS es = true → (T : TState) →
      (acc : ArrAcc) → AllNan (checksArr es T acc) → Conforms s T → Conforms s (typeArr es T acc).2
    | .nil, _, _, _, _, hc => hc
    | .cons e es, h, T, acc, hk, hc => by
      obtain ⟨he, hes⟩ := Bool.and_eq_true_iff.mp h
      simp only [checksArr_cons, allNan_append] at hk
      have c1 := effectFree_conforms e he T hk.1.1 hc
      rw [typeArr_cons]
      split
      · exact c1
      · exact effectFreeS_conforms es hes _ _ hk.2 c1

  theorem effectFreeK_conforms {s : St} : (kvs : KExprs) → effectFreeK kvs = true → (T : TState) →
      (acc : ObjAcc) → AllNan (checksObj kvs T acc) → Conforms s T → Conforms s (typeObj kvs T acc).2
    | .nil, _, _, _, _, hc => hc
    | .cons k e kes, h, T, acc, hk, hc => by
      obtain ⟨he, hes⟩ := Bool.and_eq_true_iff.mp h
      simp only [checksObj_cons, allNan_append] at hk
      have c1 := effectFree_conforms e he T hk.1.1 hc
      rw [typeObj_cons]
      split
      · exact c1
      · exact effectFreeK_conforms kes hes _ _ hk.2 c1
end

theorem effectFree_after {e : Expr} (h : effectFree e = true) {T : TState} {s : St}
    (hk : AllNan (checks e T)) (hc : Conforms s T) : Conforms (eval e s).2 (typeInfo e T).2 :=
  Conforms.of_same (effectFree_same e h s) (effectFree_conforms e h T hk hc)

end Lang
