import VrlProofs.Lemmas.Utf8Spec

/-! UTF-8 round trip: lossy decoding inverts encoding on scalar values, and only yields scalars. -/
namespace Str

theorem encode_append : (a b : List Nat) → encode (a ++ b) = encode a ++ encode b
  | [], _ => rfl
  | c :: a, b => by simp [encode, encode_append a b]

theorem encodeCp_length_pos (c : Nat) : 1 ≤ (encodeCp c).length := by
  unfold encodeCp; repeat' split
  all_goals simp

theorem length_le_encode : (cs : List Nat) → cs.length ≤ (encode cs).length
  | [] => by simp [encode]
  | c :: cs => by
    have := encodeCp_length_pos c
    have := length_le_encode cs
    simp only [encode, List.length_append, List.length_cons]
    omega

theorem decodeGo_cons (st : Option Pend) (b : Nat) (rest : List Nat) :
    decodeGo st (b :: rest) = (step st b).1 ++ decodeGo (step st b).2 rest := by
  cases st <;> rfl

theorem step_none (b : Nat) : step none b = start b := rfl

/-! `start` on the lead bytes (a table: evaluated) -/

theorem start_ascii (b : Nat) (h : b < 0x80) : start b = ([b], none) := if_pos h

theorem start_2 : ∀ a, a < 32 → 2 ≤ a → start (0xC0 + a) = ([], some ⟨1, a, 0x80, 0xBF⟩) := by decide +kernel

theorem start_3 : ∀ a, a < 16 → start (0xE0 + a) =
    ([], some ⟨2, a, if a = 0 then 0xA0 else 0x80, if a = 13 then 0x9F else 0xBF⟩) := by decide +kernel

theorem start_4 : ∀ a, a < 5 → start (0xF0 + a) =
    ([], some ⟨3, a, if a = 0 then 0x90 else 0x80, if a = 4 then 0x8F else 0xBF⟩) := by decide +kernel

theorem step_cont (p : Pend) (b : Nat) (h : p.lo ≤ b ∧ b ≤ p.hi) (hn : 2 ≤ p.need) :
    step (some p) b = ([], some ⟨p.need - 1, p.acc * 64 + (b - 0x80), 0x80, 0xBF⟩) := by
  rw [step, if_pos h, if_neg (by omega)]

theorem step_last (p : Pend) (b : Nat) (h : p.lo ≤ b ∧ b ≤ p.hi) (hn : p.need ≤ 1) :
    step (some p) b = ([p.acc * 64 + (b - 0x80)], none) := by
  rw [step, if_pos h, if_pos hn]

theorem decodeGo_cont {need acc lo hi d : Nat} {rest : List Nat} (h : lo ≤ 0x80 + d ∧ 0x80 + d ≤ hi) :
    decodeGo (some ⟨need, acc, lo, hi⟩) ((0x80 + d) :: rest) =
      if need ≤ 1 then (acc * 64 + d) :: decodeGo none rest
      else decodeGo (some ⟨need - 1, acc * 64 + d, 0x80, 0xBF⟩) rest := by
  rw [decodeGo_cons, step, if_pos h, Nat.add_sub_cancel_left]
  split <;> rfl

/-- the range `start` leaves for the second byte is that of Table 3-7 (`second3`, `second4`) -/
theorem decodeGo_code {n : Nat} {bs : List Nat} (h : Utf8.Code n bs) (hs : isScalar n = true)
    (rest : List Nat) : decodeGo none (bs ++ rest) = n :: decodeGo none rest := by
  cases h with
  | one h => show decodeGo none (n :: rest) = _; rw [decodeGo_cons, step_none, start_ascii n h]; rfl
  | two a d h1 hn hlo hhi =>
    simp only [List.cons_append, List.nil_append, decodeGo_cons none, step_none]
    rw [start_2 a hhi hlo, List.nil_append, decodeGo_cont (Utf8.cont_digit h1), hn]; rfl
  | three a d₁ d₂ h1 h2 hn hlo ha =>
    subst hn
    simp only [List.cons_append, List.nil_append, decodeGo_cons none, step_none]
    rw [start_3 a ha, List.nil_append, decodeGo_cont (Utf8.second3 h1 h2 hlo hs),
      if_neg (by decide), decodeGo_cont (Utf8.cont_digit h2)]; rfl
  | four a d₁ d₂ d₃ h1 h2 h3 hn hlo _ =>
    subst hn
    obtain ⟨ha, hr⟩ := Utf8.second4 h1 h2 h3 hlo hs
    simp only [List.cons_append, List.nil_append, decodeGo_cons none, step_none]
    rw [start_4 a ha, List.nil_append, decodeGo_cont hr, if_neg (by decide),
      decodeGo_cont (Utf8.cont_digit h2), if_neg (by decide),
      decodeGo_cont (Utf8.cont_digit h3)]; rfl

theorem decodeGo_encodeCp (c : Nat) (h : isScalar c = true) (rest : List Nat) :
    decodeGo none (encodeCp c ++ rest) = c :: decodeGo none rest :=
  decodeGo_code (Utf8.code_of_scalar h) h rest

theorem decodeGo_encode (cs : List Nat) (h : ∀ c ∈ cs, isScalar c = true) (rest : List Nat) :
    decodeGo none (encode cs ++ rest) = cs ++ decodeGo none rest := by
  induction cs with
  | nil => rfl
  | cons c cs ih =>
    rw [encode, List.append_assoc, decodeGo_encodeCp c (h c (by simp)), ih fun d hd => h d (by simp [hd])]
    rfl

theorem decode_encode : (cs : List Nat) → (∀ c ∈ cs, isScalar c = true) → decodeLossy (encode cs) = cs :=
  fun cs h => by simpa [decodeLossy, decodeGo] using decodeGo_encode cs h []

theorem decodeLossy_encodeCp (c : Nat) (h : isScalar c = true) : decodeLossy (encodeCp c) = [c] := by
  simpa [decodeLossy, decodeGo] using decodeGo_encodeCp c h []

/-- whatever `k` further base-64 digits follow the value `v` read so far, the result is a scalar -/
def ScalarAfter : Nat → Nat → Prop
  | 0, v => isScalar v = true
  | k + 1, v => ∀ d < 64, ScalarAfter k (v * 64 + d)

/-- invariant of a pending sequence: whatever acceptable bytes follow, the decoded value is a scalar. -/
def PendOK (p : Pend) : Prop :=
  ∀ b, p.lo ≤ b → b ≤ p.hi → ScalarAfter (p.need - 1) (p.acc * 64 + (b - 0x80))

def StOK : Option Pend → Prop
  | none => True
  | some p => PendOK p

/-- `r` = what `start` / `step` return: the code points emitted and the next state -/
def EmitOK (r : List Nat × Option Pend) : Prop := (∀ c ∈ r.1, isScalar c = true) ∧ StOK r.2

/-- `0x360..0x37F`: the surrogates without their last digit -/
theorem scalarAfter_1 {v : Nat} (h : v < 0x360 ∨ (0x380 ≤ v ∧ v < 0x4400)) : ScalarAfter 1 v := by
  intro d hd
  show isScalar (v * 64 + d) = true
  rw [isScalar_iff]; omega

/-- `0x110 = 0x110000 / 4096`; below, `0xE * 64 = 0x380` already clears the surrogates (the overlong
    bound `0x10` of `F0 90` is not needed for being a scalar) -/
theorem scalarAfter_2 {v : Nat} (h : 0xE ≤ v ∧ v < 0x110) : ScalarAfter 2 v :=
  fun d hd => scalarAfter_1 (v := v * 64 + d) (by omega)

/-- row by row through the table of lead bytes: the restricted range of the second byte is what
    keeps `E0`, `ED`, `F0`, `F4` sequences away from overlong forms, surrogates and `0x110000`. -/
theorem start_ok (b : Nat) : EmitOK (start b) := by
  have open_ : ∀ {need acc lo hi : Nat},
      (∀ b', lo ≤ b' → b' ≤ hi → ScalarAfter (need - 1) (acc * 64 + (b' - 0x80))) →
      EmitOK ([], some ⟨need, acc, lo, hi⟩) := fun h => ⟨nofun, h⟩
  unfold start
  -- `00..7F`: ASCII, emitted
  refine iteInduction (motive := EmitOK) (fun h =>
    ⟨fun c hc => by rw [List.mem_singleton.mp hc, isScalar_iff]; omega, trivial⟩) fun _ => ?_
  -- `C2..DF`, second byte `80..BF`: one more digit, below `0x800`
  refine iteInduction (motive := EmitOK) (fun h => open_ fun b' h1 h2 =>
    show isScalar _ = true by rw [isScalar_iff]; omega) fun _ => ?_
  -- `E0`, second byte `A0..BF` (no overlong form)
  refine iteInduction (motive := EmitOK) (fun _ => open_ fun b' h1 h2 => scalarAfter_1 (by omega)) fun _ => ?_
  -- `ED`, second byte `80..9F` (no surrogate)
  refine iteInduction (motive := EmitOK) (fun _ => open_ fun b' h1 h2 => scalarAfter_1 (by omega)) fun _ => ?_
  -- `E1..EF` without `ED`, second byte `80..BF`
  refine iteInduction (motive := EmitOK) (fun h => open_ fun b' h1 h2 => scalarAfter_1 (by omega)) fun _ => ?_
  -- `F0`, second byte `90..BF` (no overlong form)
  refine iteInduction (motive := EmitOK) (fun _ => open_ fun b' h1 h2 => scalarAfter_2 (by omega)) fun _ => ?_
  -- `F1..F3`, second byte `80..BF`
  refine iteInduction (motive := EmitOK) (fun h => open_ fun b' h1 h2 => scalarAfter_2 (by omega)) fun _ => ?_
  -- `F4`, second byte `80..8F` (below `0x110000`)
  refine iteInduction (motive := EmitOK) (fun _ => open_ fun b' h1 h2 => scalarAfter_2 (by omega)) fun _ => ?_
  -- `80..C1`, `F5..FF`: one U+FFFD
  exact ⟨by decide, trivial⟩

theorem step_ok (st : Option Pend) (b : Nat) (h : StOK st) : EmitOK (step st b) := by
  cases st with
  | none => exact start_ok b
  | some p =>
    by_cases hb : p.lo ≤ b ∧ b ≤ p.hi
    · have hp : ScalarAfter _ _ := h b hb.1 hb.2
      by_cases hn : p.need ≤ 1
      · rw [step_last p b hb hn]
        rw [Nat.sub_eq_zero_of_le hn] at hp
        exact ⟨fun c hc => by rw [List.mem_singleton.mp hc]; exact hp, trivial⟩
      · rw [step_cont p b hb (by omega)]
        rw [show p.need - 1 = (p.need - 1 - 1) + 1 by omega] at hp
        exact ⟨nofun, fun b' (h1 : 0x80 ≤ b') (h2 : b' ≤ 0xBF) => hp (b' - 0x80) (by omega)⟩
    · rw [step, if_neg hb]
      have := start_ok b
      refine ⟨fun c hc => ?_, this.2⟩
      rcases List.mem_cons.mp hc with rfl | hc
      · decide
      · exact this.1 c hc

theorem decodeGo_scalar : (bs : List Nat) → (st : Option Pend) → StOK st →
    ∀ c ∈ decodeGo st bs, isScalar c = true
  | [], none, _ => nofun
  | [], some _, _ => by simp [decodeGo, isScalar]
  | b :: rest, st, h => by
    rw [decodeGo_cons]
    intro c hc
    have hs := step_ok st b h
    rcases List.mem_append.mp hc with hc | hc
    · exact hs.1 c hc
    · exact decodeGo_scalar rest _ hs.2 c hc

theorem decode_scalar (bs : List Nat) : ∀ c ∈ decodeLossy bs, isScalar c = true :=
  decodeGo_scalar bs none trivial

theorem decode_lossy (bs : List Nat) : decodeLossy (lossy bs) = decodeLossy bs :=
  decode_encode _ (decode_scalar bs)

theorem lossy_idem (bs : List Nat) : lossy (lossy bs) = lossy bs := by
  show encode (decodeLossy (lossy bs)) = lossy bs
  rw [decode_lossy]; rfl

theorem lossy_encode (cs : List Nat) (h : ∀ c ∈ cs, isScalar c = true) : lossy (encode cs) = encode cs := by
  unfold lossy; rw [decode_encode cs h]

theorem encode_decode_of_valid {bs : List Nat} (h : isValid bs = true) : encode (decodeLossy bs) = bs :=
  eq_of_beq h

theorem decode_append_valid (s t : List Nat) (hs : isValid s = true) :
    decodeLossy (s ++ t) = decodeLossy s ++ decodeLossy t := by
  conv => lhs; rw [← encode_decode_of_valid hs]
  exact decodeGo_encode _ (decode_scalar s) t

end Str
