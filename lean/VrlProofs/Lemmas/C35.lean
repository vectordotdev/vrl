/-
  C35 (VrlModel/Conversion.lean): `i64` text. `Display` writes the numeral of `Digits` in ASCII
  (`natDigits_eq`); the two checked digit loops of `i64::from_str`, `accPos` and `accNeg`, are one loop
  `readDec B` on naturals with the overflow bound as a variable, which on digit characters is
  `ofDigits` (`readDec_map`) and accepts nothing but digits within the bound (`readDec_some`);
  `parseI64_cases` says what `parseI64` accepts: an optional sign, then such digits. In front, what
  `parse_bool`'s lower-casing does to one byte.
-/
import VrlModel.Conversion
import VrlProofs.Lemmas.Digits

namespace Cnv

theorem lowerByte_eq (b a : Nat) (h : lowerByte b = a) : b = a ∨ b + 32 = a := by
  unfold lowerByte at h
  split at h <;> omega

theorem lowerAscii_nil (s : List Nat) (h : lowerAscii s = []) : s = [] := by
  cases s with
  | nil => rfl
  | cons b r => simp [lowerAscii] at h

open Digits

theorem natDigits_eq (n : Nat) : natDigits n = (toDigits 10 n).map (48 + ·) := by
  fun_induction natDigits n with
  | case1 n h => rw [toDigits_lt h]; rfl
  | case2 n h ih => rw [ih, toDigits_ge (n := n) (by decide) (by omega), List.map_append]; rfl

theorem natDigits_digits (n : Nat) : ∀ d ∈ natDigits n, 48 ≤ d ∧ d ≤ 57 := by
  intro c hc
  rw [natDigits_eq] at hc
  obtain ⟨d, hd, rfl⟩ := List.mem_map.mp hc
  have := toDigits_mem_lt (by decide) n d hd
  omega

theorem natDigits_ne_nil (n : Nat) : natDigits n ≠ [] := by
  rw [natDigits_eq]; simpa using toDigits_ne_nil 10 n

/-! ### the digit loops

Both loops of `i64::from_str` are one loop on naturals with the overflow bound as a variable: the
positive one with bound `i64::MAX`, the negative one with bound `2⁶³`, read up to the sign. -/

def readDec (B : Nat) : Nat → List Nat → Option Nat
  | acc, [] => some acc
  | acc, d :: ds =>
    if d < 48 ∨ 57 < d then none
    else if B < acc * 10 + (d - 48) then none
    else readDec B (acc * 10 + (d - 48)) ds

theorem accPos_eq (acc : Nat) (ds : List Nat) :
    accPos acc ds = (readDec 9223372036854775807 acc ds).map fun m : Nat => (m : Int) := by
  induction ds generalizing acc with
  | nil => rfl
  | cons d ds ih =>
    have e : (acc : Int) * 10 + ((d - 48 : Nat) : Int) = ((acc * 10 + (d - 48) : Nat) : Int) := by
      omega
    simp only [accPos, readDec, i64Max, e, ih]
    split
    · rfl
    · split
      · rw [if_pos (by omega)]; rfl
      · split
        · rw [if_pos (by omega)]; rfl
        · rw [if_neg (by omega)]

theorem accNeg_eq (acc : Nat) (ds : List Nat) :
    accNeg (-(acc : Int)) ds = (readDec 9223372036854775808 acc ds).map fun m : Nat => -(m : Int) := by
  induction ds generalizing acc with
  | nil => rfl
  | cons d ds ih =>
    have e : -(acc : Int) * 10 - ((d - 48 : Nat) : Int) = -((acc * 10 + (d - 48) : Nat) : Int) := by
      omega
    simp only [accNeg, readDec, i64Min, e, ih]
    split
    · rfl
    · split
      · rw [if_pos (by omega)]; rfl
      · split
        · rw [if_pos (by omega)]; rfl
        · rw [if_neg (by omega)]

theorem readDec_append (B acc : Nat) (xs ys : List Nat) :
    readDec B acc (xs ++ ys) = (readDec B acc xs).bind fun a => readDec B a ys := by
  induction xs generalizing acc with
  | nil => rfl
  | cons d ds ih =>
    simp only [List.cons_append, readDec]
    split
    · rfl -- `d` is not a digit
    · split
      · rfl -- over the bound
      · exact ih _

theorem accPos_append (acc : Nat) (xs ys : List Nat) :
    accPos acc (xs ++ ys) = (accPos acc xs).bind fun a => accPos a ys := by
  rw [accPos_eq, accPos_eq, readDec_append]
  cases readDec 9223372036854775807 acc xs with
  | none => rfl
  | some m => exact (accPos_eq m ys).symm

theorem accNeg_append (acc : Nat) (xs ys : List Nat) :
    accNeg (-(acc : Int)) (xs ++ ys) = (accNeg (-(acc : Int)) xs).bind fun a => accNeg a ys := by
  rw [accNeg_eq, accNeg_eq, readDec_append]
  cases readDec 9223372036854775808 acc xs with
  | none => rfl
  | some m => exact (accNeg_eq m ys).symm

/- the loops start at the literal `0`, which `rw` does not see as `((0 : Nat) : Int)` or its negation -/

theorem accPos_zero (ds : List Nat) :
    accPos 0 ds = (readDec 9223372036854775807 0 ds).map fun m : Nat => (m : Int) := accPos_eq 0 ds

theorem accNeg_zero (ds : List Nat) :
    accNeg 0 ds = (readDec 9223372036854775808 0 ds).map fun m : Nat => -(m : Int) := accNeg_eq 0 ds

/-- on digit characters the loop is `ofDigits`; the bound is checked at every digit, and passes
    at each exactly when it passes at the end (`le_ofDigits`) -/
theorem readDec_map (B : Nat) (ds : List Nat) (hd : ∀ d ∈ ds, d < 10) : ∀ acc, ofDigits 10 acc ds ≤ B →
    readDec B acc (ds.map (48 + ·)) = some (ofDigits 10 acc ds) := by
  induction ds with
  | nil => exact fun _ _ => rfl
  | cons d ds ih =>
    obtain ⟨h1, h2⟩ := List.forall_mem_cons.mp hd
    intro acc hB
    have e : 48 + d - 48 = d := by omega
    have := le_ofDigits (b := 10) (by decide) ds (acc * 10 + d)
    rw [List.map_cons, readDec, if_neg (by omega), e, if_neg (by exact Nat.not_lt.mpr (Nat.le_trans this hB))]
    exact ih h2 _ hB

theorem readDec_natDigits (B n : Nat) (h : n ≤ B) : readDec B 0 (natDigits n) = some n := by
  have e := ofDigits_toDigits (b := 10) n
  rw [natDigits_eq, readDec_map B _ (toDigits_mem_lt (by decide) n) 0 (by omega), e]

theorem accPos_natDigits (n : Nat) (h : (n : Int) ≤ i64Max) : accPos 0 (natDigits n) = some (n : Int) := by
  unfold i64Max at h
  rw [accPos_zero, readDec_natDigits _ n (by omega)]; rfl

theorem accNeg_natDigits (n : Nat) (h : i64Min ≤ -(n : Int)) : accNeg 0 (natDigits n) = some (-(n : Int)) := by
  unfold i64Min at h
  rw [accNeg_zero, readDec_natDigits _ n (by omega)]; rfl

theorem readDec_some (B acc : Nat) (ds : List Nat) (m : Nat) (h : readDec B acc ds = some m) :
    (∀ d ∈ ds, 48 ≤ d ∧ d ≤ 57) ∧ (acc ≤ B → m ≤ B) := by
  revert h
  fun_induction readDec B acc ds with
  | case1 acc => intro h; cases h; simp
  | case2 => intro h; cases h
  | case3 => intro h; cases h
  | case4 acc d ds h1 h2 ih =>
    intro h
    obtain ⟨i1, i2⟩ := ih h
    exact ⟨by simpa using ⟨by omega, i1⟩, fun _ => i2 (by omega)⟩

theorem parseI64_cases (s : List Nat) (v : Int) (h : parseI64 s = some v) :
    (∃ ds m, s = 43 :: ds ∧ ds ≠ [] ∧ readDec 9223372036854775807 0 ds = some m ∧ v = m) ∨
    (∃ ds, ∃ m : Nat, s = 45 :: ds ∧ ds ≠ [] ∧ readDec 9223372036854775808 0 ds = some m ∧ v = -(m : Int)) ∨
    (s ≠ [] ∧ ∃ m, readDec 9223372036854775807 0 s = some m ∧ v = m) := by
  revert h
  -- the arms of `parseI64`: empty, lone `+`, lone `-`, `+` digits, `-` digits, digits
  fun_cases parseI64 s <;> intro h
  · cases h
  · cases h
  · cases h
  · rename_i ds h1
    rw [accPos_zero, Option.map_eq_some_iff] at h
    obtain ⟨m, hm, rfl⟩ := h
    exact .inl ⟨ds, m, rfl, fun e => h1 (by rw [e]), hm, rfl⟩
  · rename_i ds h1
    rw [accNeg_zero, Option.map_eq_some_iff] at h
    obtain ⟨m, hm, rfl⟩ := h
    exact .inr (.inl ⟨ds, m, rfl, fun e => h1 (by rw [e]), hm, rfl⟩)
  · rename_i h0 _ _ _ _
    rw [accPos_zero, Option.map_eq_some_iff] at h
    obtain ⟨m, hm, rfl⟩ := h
    exact .inr (.inr ⟨fun e => h0 (by rw [e]), m, hm, rfl⟩)

theorem parseI64_unsigned (d : Nat) (ds : List Nat) (h : 48 ≤ d ∧ d ≤ 57) :
    parseI64 (d :: ds) = accPos 0 (d :: ds) := by
  unfold parseI64
  split <;> first | rfl | (simp_all; try omega)

theorem parseI64_natDigits (n : Nat) : parseI64 (natDigits n) = accPos 0 (natDigits n) := by
  cases hl : natDigits n with
  | nil => exact absurd hl (natDigits_ne_nil n)
  | cons d ds => exact parseI64_unsigned d ds (natDigits_digits n d (by simp [hl]))

theorem parseI64_minus : ∀ ds : List Nat, ds ≠ [] → parseI64 (45 :: ds) = accNeg 0 ds
  | [], h => absurd rfl h
  | _ :: _, _ => rfl

end Cnv
