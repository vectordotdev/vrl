import VrlProofs.Lemmas.TypeState
import VrlProofs.Lemmas.TypePath

/-! `Target::insert` (run time) against `Target::insert_type_def` (type state). -/

namespace Lang
open Spec

theorem insert_root_kind (K X : Kind) (h : X.upgradeUndefined.isNever = false) :
    K.insert [] X = X.upgradeUndefined := by
  simp [Kind.insert, Kind.insertRec, h]

theorem mem_insert_root (K : Kind) {v : Value} {X : Kind} (h : memR v X = true) :
    mem v (K.insert [] X) = true := by
  have hm := mem_upgrade_of_memR h
  rw [insert_root_kind K X (not_never_of_mem v _ hm)]
  exact hm

theorem Conforms.setVar {s : St} {T : TState} {n : String} {v : Value} {d : Details} (hc : Conforms s T)
    (hv : mem v d.td.kind = true) (hvs : v.Sorted = true) (hcv : ∀ c, d.value = some c → v = c) :
    Conforms (s.setVar n v) (T.setVar n d) := by
  refine ⟨hc.faults, ?_, hc.event, hc.eventSorted, hc.metadata, hc.metadataSorted, ?_⟩
  · intro m dm hm
    by_cases hnm : n = m
    · subst hnm
      rw [TState.getVar_setVar_same] at hm
      cases hm
      exact ⟨v, St.getVar_setVar_same s n v, hv, hvs, hcv⟩
    · rw [TState.getVar_setVar_other _ _ _ _ hnm] at hm
      obtain ⟨w, h1, h2⟩ := hc.vars m dm hm
      exact ⟨w, by rw [St.getVar_setVar_other _ _ _ _ hnm]; exact h1, h2⟩
  · intro m w hm
    by_cases hnm : n = m
    · subst hnm; left; rw [TState.getVar_setVar_same]; rfl
    · rw [St.getVar_setVar_other _ _ _ _ hnm] at hm
      rcases hc.closed m w hm with h | h
      · left; rw [TState.getVar_setVar_other _ _ _ _ hnm]; exact h
      · right; exact h

theorem insertOk_of_checks {K : Kind} {p : Path} (h : AllNan (insertChecks K p)) : insertOk K p = true := by
  simp only [insertChecks, allNan_append, allNan_chk_iff, reduceCtorEq, false_or] at h
  simp [insertOk, h.1, h.2]

/-- a path assignment to a variable that does not exist creates it from nothing -/
theorem insertOpt_null_eq_none (p : Path) (hp : p ≠ []) (x : Value) :
    Value.insertOpt (some .null) p x = Value.insertOpt none p x := by
  cases p with
  | nil => exact absurd rfl hp
  | cons sg rest => cases sg <;> simp [Value.insertOpt, Value.asMap, Value.asList, VList.getIdx, VList.arrayIndex]

theorem insertRec_never_eq_undefined (p : Path) (hp : p ≠ []) (X : Kind) (hX : X.isNever = false) :
    Kind.never.insertRec p X = Kind.undefined.insertRec p X := by
  cases p with
  | nil => exact absurd rfl hp
  | cons sg rest => cases sg <;> simp [Kind.insertRec, Kind.object, Kind.array, Kind.never, Kind.undefined, hX]

theorem mem_insert_absent {x v' : Value} {prev : Option Value} {X : Kind} {p : Path} (hp : p ≠ [])
    (hx : memR x X = true) (hxs : x.Sorted = true) (ok : insertOk Kind.undefined p = true)
    (hi : Value.null.insert p x = .ok (v', prev)) :
    mem v' (Kind.never.insert p X) = true ∧ v'.Sorted = true := by
  refine ⟨?_, C18.insert_sorted .null p x v' prev rfl hxs hi⟩
  simp only [insertOk, insertClassOk, Bool.and_eq_true, Bool.not_eq_true'] at ok
  have := insertRec_sound p none Kind.undefined x X.upgradeUndefined rfl (by decide)
    (mem_upgrade_of_memR hx) ok.1 ok.2.1 ok.2.2
  obtain ⟨rfl, -⟩ := Value.insert_ok hi
  rw [insertOpt_null_eq_none p hp]
  simp only [Kind.insert]
  rw [insertRec_never_eq_undefined p hp _ (not_never_of_mem x _ (mem_upgrade_of_memR hx))]
  exact this

/-- `Target::insert` keeps the run-time state inside `Target::insert_type_def` of the type state -/
theorem tgt_insert_conforms {s s' : St} {T : TState} (t : Tgt) (v : Value) (new : TypeDef)
    (c : Option Value) (hc : Conforms s T) (hv : memR v new.kind = true) (hvs : v.Sorted = true)
    (hcv : ∀ cv, c = some cv → v = cv) (hk : AllNan (tgtChecks t T)) (hi : t.insert v s = some s') :
    Conforms s' (t.insertTypeDef T new c) := by
  cases t with
  | noop =>
    simp only [Tgt.insert, Option.some.injEq] at hi
    subst hi
    exact hc
  | internal n p =>
    simp only [Tgt.insertTypeDef]
    refine Conforms.of_tstate (T := T.setVar n
      { td := (match T.getVar n with | none => TypeDef.never | some d => d.td).withTypeInserted p new,
        value := if p.isEmpty = true then c else none }) rfl rfl rfl rfl ?_
    simp only [Tgt.insert] at hi
    by_cases hp : p.isEmpty = true
    · have hp' : p = [] := by cases p <;> simp_all
      subst hp'
      simp only [List.isEmpty_nil, if_true, Option.some.injEq] at hi
      subst hi
      apply Conforms.setVar hc
      · exact mem_insert_root _ hv
      · exact hvs
      · intro cv hcv'; simp only [List.isEmpty_nil, if_true] at hcv'; exact hcv cv hcv'
    · simp only [hp, Bool.false_eq_true, if_false] at hi ⊢
      simp only [tgtChecks] at hk
      cases hd : T.getVar n with
      | none =>
        -- the variable is not in scope and no block left one of that name alive: it is created
        rw [hd] at hk
        simp only [hp, Bool.false_eq_true, if_false, allNan_append, allNan_chk_iff, reduceCtorEq, false_or] at hk
        have hnl : n ∉ T.leaked := by simpa using hk.1
        have hok := insertOk_of_checks hk.2
        have habs : s.getVar n = none := by
          cases hg : s.getVar n with
          | none => rfl
          | some w =>
            rcases hc.closed n w hg with h | h
            · rw [hd] at h; cases h
            · exact absurd h hnl
        rw [habs] at hi
        simp only at hi
        have hpne : p ≠ [] := by intro h; subst h; simp at hp
        cases hins : Value.null.insert p v with
        | panic => rw [hins] at hi; cases hi
        | ok r =>
          obtain ⟨v', prev⟩ := r
          rw [hins] at hi
          simp only [Option.some.injEq] at hi
          subst hi
          have := mem_insert_absent hpne hv hvs hok hins
          apply Conforms.setVar hc
          · exact this.1
          · exact this.2
          · intro cv h; cases h
      | some d =>
        rw [hd] at hk
        have hk := insertOk_of_checks hk
        obtain ⟨v0, h1, h2, h3, _⟩ := hc.vars n d hd
        rw [h1] at hi
        simp only at hi
        cases hins : v0.insert p v with
        | panic => rw [hins] at hi; cases hi
        | ok r =>
          obtain ⟨v', prev⟩ := r
          rw [hins] at hi
          simp only [Option.some.injEq] at hi
          subst hi
          have := mem_insert h2 h3 hv hvs hk hins
          apply Conforms.setVar hc
          · exact this.1
          · exact this.2
          · intro cv h; cases h
  | external m p =>
    simp only [tgtChecks] at hk
    obtain ⟨v', prev, hins, hsame⟩ := targetInsert_eq hc.faults hi
    have := mem_insert (hc.extMem m).1 (hc.extMem m).2 hv hvs (insertOk_of_checks hk) hins
    exact Conforms.of_tstate (T := T.setExt m ((T.extKind m).insert p new.kind)) rfl rfl rfl rfl
      (Conforms.of_same hsame (hc.setExt m this.1 this.2))

end Lang
