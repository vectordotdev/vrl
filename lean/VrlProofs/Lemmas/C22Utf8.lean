/-
  Lemmas about the `from_utf8_lossy` model (VrlModel/Codec/Utf8.lean) used by C22; in front of
  them a general fact about first-match chains of `if .. then some ..`, used here and in C22Base.
-/
import VrlModel.Codec.Utf8

namespace Codec

theorem of_ite_some {α : Type} {c : Prop} [Decidable c] {x : α} {e : Option α} {P : α → Prop}
    (hx : c → P x) (he : ¬c → ∀ y, e = some y → P y) : ∀ y, (if c then some x else e) = some y → P y := by
  intro y h
  by_cases hc : c
  · rw [if_pos hc] at h
    cases h
    exact hx hc
  · rw [if_neg hc] at h
    exact he hc y h

end Codec

namespace Codec.Utf8

theorem lead_some {b lo hi rem : Nat} (h : lead b = some (lo, hi, rem)) :
    (0xC2 ≤ b ∧ b ≤ 0xF4) ∧ 128 ≤ lo ∧ hi ≤ 0xBF := by
  revert h
  suffices ∀ x, lead b = some x → (0xC2 ≤ b ∧ b ≤ 0xF4) ∧ 128 ≤ x.1 ∧ x.2.1 ≤ 0xBF from this _
  unfold lead
  repeat' refine of_ite_some (fun _ => ⟨by omega, by decide⟩) fun _ => ?_
  nofun

theorem lossy_ascii (s : List Nat) (h : ∀ b ∈ s, b < 128) : lossy s = s := by
  unfold lossy
  induction s with
  | nil => rfl
  | cons b rest ih =>
    rw [go, if_pos (h b (by simp)), ih fun x hx => h x (by simp [hx])]

theorem lossy_valid {s : List Nat} (h : Valid s) : lossy s = s := by
  unfold lossy
  induction h with
  | nil => rfl
  | ascii b t hb _ ih => simp [go, hb, ih]
  | two b c t h1 h2 h3 h4 _ ih =>
    have hl : lead b = some (0x80, 0xBF, 0) := by simp [lead, h1, h2]
    have hb : ¬ b < 128 := by omega
    simp [go, hb, hl, h3, h4, ih]
  | three b c d t lo hi hl h1 h2 h3 h4 _ ih =>
    have hb : ¬ b < 128 := by have := lead_some hl; omega
    simp [go, hb, hl, h1, h2, h3, h4, ih]
  | four b c d e t lo hi hl h1 h2 h3 h4 h5 h6 _ ih =>
    have hb : ¬ b < 128 := by have := lead_some hl; omega
    simp [go, hb, hl, h1, h2, h3, h4, h5, h6, ih]

def ascii (l : List Nat) : List Nat := l.filter (· < 128)

theorem ascii_cons_lt {b : Nat} (l : List Nat) (h : b < 128) : ascii (b :: l) = b :: ascii l := by
  simp [ascii, h]

theorem ascii_cons_ge {b : Nat} (l : List Nat) (h : 128 ≤ b) : ascii (b :: l) = ascii l := by
  simp [ascii, Nat.not_lt.mpr h]

theorem ascii_append (a b : List Nat) : ascii (a ++ b) = ascii a ++ ascii b := by
  simp [ascii]

theorem ascii_length_cons (b : Nat) (l : List Nat) :
    (ascii (b :: l)).length = (ascii l).length + if b < 128 then 1 else 0 := by
  by_cases h : b < 128
  · rw [ascii_cons_lt l h, if_pos h]; rfl
  · rw [ascii_cons_ge l (Nat.not_lt.mp h), if_neg h]; rfl

@[reducible] def High (l : List Nat) : Prop := ∀ x ∈ l, 128 ≤ x ∧ x < 256

theorem High.ascii {l : List Nat} (h : High l) : ascii l = [] :=
  List.filter_eq_nil_iff.mpr fun x hx => by simp [Nat.not_lt.mpr (h x hx).1]

/-- `o` is `s` with non-ASCII bytes dropped and others (below 256) put in. -/
def Keeps (s o : List Nat) : Prop := ascii o = ascii s ∧ ∀ y ∈ o, y < 256

theorem Keeps.cons {s o : List Nat} {b : Nat} (hb : b < 128) (h : Keeps s o) : Keeps (b :: s) (b :: o) :=
  ⟨by rw [ascii_cons_lt _ hb, ascii_cons_lt _ hb, h.1], List.forall_mem_cons.mpr ⟨by omega, h.2⟩⟩

theorem Keeps.drop {s o : List Nat} {b : Nat} (hb : 128 ≤ b) (h : Keeps s o) : Keeps (b :: s) o :=
  ⟨by rw [ascii_cons_ge _ hb, h.1], h.2⟩

theorem Keeps.put {s o l : List Nat} (hl : High l) (h : Keeps s o) : Keeps s (l ++ o) :=
  ⟨by rw [ascii_append, hl.ascii, h.1, List.nil_append],
   List.forall_mem_append.mpr ⟨fun y hy => (hl y hy).2, h.2⟩⟩

theorem Keeps.fffd {s o : List Nat} (h : Keeps s o) : Keeps s (fffd ++ o) := h.put (by decide)

/-- A pending sequence holds non-ASCII bytes only and accepts non-ASCII bytes only: whether it is
    later written out or replaced by U+FFFD, the ASCII bytes of the output are not affected. -/
def Pend.ok (p : Pend) : Prop := High p.buf ∧ 128 ≤ p.lo ∧ p.hi ≤ 0xBF

theorem go_keeps (s : List Nat) : Keeps s (go none s) ∧ ∀ p, p.ok → Keeps s (go (some p) s) := by
  induction s with
  | nil => exact ⟨⟨rfl, nofun⟩, fun _ _ => Keeps.fffd (o := []) ⟨rfl, nofun⟩⟩
  | cons b rest ih =>
    have start : Keeps (b :: rest) (go none (b :: rest)) := by
      rw [go]
      split
      · exact ih.1.cons ‹_›
      · have hb : 128 ≤ b := by omega
        split
        · rename_i lo hi rem hl
          have := lead_some hl
          exact (ih.2 _ ⟨List.forall_mem_singleton.mpr (by omega), this.2⟩).drop hb
        · exact (ih.1.drop hb).fffd
    refine ⟨start, fun p ⟨hbuf, hlo, hhi⟩ => ?_⟩
    rw [go]
    split
    · have hb : 128 ≤ b ∧ b < 256 := by omega
      have hbuf' : High (p.buf ++ [b]) :=
        List.forall_mem_append.mpr ⟨hbuf, List.forall_mem_singleton.mpr hb⟩
      split
      · rw [List.append_cons]
        exact (ih.1.drop hb.1).put hbuf'
      · exact (ih.2 _ ⟨hbuf', Nat.le_refl _, Nat.le_refl _⟩).drop hb.1
    · -- U+FFFD for what was pending; the rejected byte is then read as from the start state
      rw [← go]
      exact start.fffd

theorem ascii_lossy (s : List Nat) : ascii (lossy s) = ascii s := (go_keeps s).1.1

theorem lossy_lt (s : List Nat) : ∀ y ∈ lossy s, y < 256 := (go_keeps s).1.2

theorem bytes_of_lossy_fixed {s : List Nat} (h : lossy s = s) : ∀ y ∈ s, y < 256 :=
  h ▸ lossy_lt s

end Codec.Utf8
