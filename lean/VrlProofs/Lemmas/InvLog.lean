/-
  The C16 log-coverage invariant `LogOK Q A` as an instance of the abstract invariant induction
  (Lemmas/Inv.lean, Lemmas/InvEval.lean): `Lang.run_inv` specialises to C16's main theorem. `del`
  paths are reported among the queries (`delsS_sub`).
-/
import VrlProofs.Lemmas.InvEval
import VrlProofs.Lemmas.Log

namespace Lang

def logInv (Q A : PL) : Inv where
  J := LogOK Q A
  G := fun x => x ∈ Q
  W := fun x => x ∈ A
  D := fun x => x ∈ Q
  stable := fun _ _ _ _ hl hs => logOK_of_log_eq hl hs
  get := fun s m p hq hs => logOK_targetGet s m p hs hq
  ins := fun s s' m p v ha hs hi => logOK_targetInsert s s' m p v hs ha hi
  rem := fun s m p c hq hs => logOK_targetRemove s m p c hs hq

theorem logOK_callFn {Q A : PL} (name : String) (args : List (Option String × Thunk))
    (closure : Option (List String × Thunk)) (ha : ArgsOK Q A args)
    (hc : ∀ vars body, closure = some (vars, body) → TOK Q A body) (s : St) (hs : LogOK Q A s) :
    LogOK Q A (callFn name args closure s).2 :=
  Inv.callFn (I := logInv Q A) name args closure ha hc s hs

theorem mem_append_mono {α : Type} {a a' b b' : List α} (h₁ : ∀ x ∈ a, x ∈ a') (h₂ : ∀ x ∈ b, x ∈ b') :
    ∀ x ∈ a ++ b, x ∈ a' ++ b' :=
  fun x hx => (List.mem_append.mp hx).elim (fun h => List.mem_append_left _ (h₁ x h))
    (fun h => List.mem_append_right _ (h₂ x h))

/- `delsE` and `queriesE` are built alike, node by node, by appending the lists of the sub-terms; at
   the one node that contributes to `delsE`, `del(.p)`, both get the same path in front. -/
mutual
  theorem delsE_sub : (e : Expr) → ∀ x ∈ delsE e, x ∈ queriesE e
    | .lit _ | .noop | .var _ | .qvar _ _ | .existsVar _ _ | .qext _ _ | .existsExt _ _ => fun _ h => absurd h List.not_mem_nil
    | .grp e | .not e | .ret e | .qexpr e _ | .existsExpr e _ | .asg _ e | .iasg _ _ e _ | .abort _ e
    | .delVar _ _ _ e => delsE_sub e
    | .blk es | .arr es => delsS_sub es
    | .obj kvs => delsK_sub kvs
    | .ifte p t _ e => mem_append_mono (mem_append_mono (delsS_sub p) (delsS_sub t)) (delsS_sub e)
    | .op _ l r => mem_append_mono (delsE_sub l) (delsE_sub r)
    | .delExt m p _ c => mem_append_mono (a := [(m, p)]) (fun _ h => h) (delsE_sub c)
    | .delExpr e _ _ c => mem_append_mono (delsE_sub e) (delsE_sub c)
    | .call _ _ _ args _ _ body =>
      mem_append_mono (fun x h => List.mem_append_right _ (delsA_sub args x h)) (delsS_sub body)
  theorem delsS_sub : (es : Exprs) → ∀ x ∈ delsS es, x ∈ queriesS es
    | .nil => fun _ h => absurd h List.not_mem_nil
    | .cons e es => mem_append_mono (delsE_sub e) (delsS_sub es)
  theorem delsK_sub : (k : KExprs) → ∀ x ∈ delsK k, x ∈ queriesK k
    | .nil => fun _ h => absurd h List.not_mem_nil
    | .cons _ e kes => mem_append_mono (delsE_sub e) (delsK_sub kes)
  theorem delsA_sub : (a : Args) → ∀ x ∈ delsA a, x ∈ queriesA a
    | .nil => fun _ h => absurd h List.not_mem_nil
    | .cons _ e as => mem_append_mono (delsE_sub e) (delsA_sub as)
end

theorem run_covered_inv (prog : Exprs) (s : St) (hlog : s.log = []) :
    LogOK ((false, []) :: queriesS prog) (assignsS prog) (run prog s).2 :=
  run_inv (logInv ((false, []) :: queriesS prog) (assignsS prog)) prog
    ⟨fun _ hx => List.mem_cons_of_mem _ hx, fun _ hx => hx,
     fun x hx => List.mem_cons_of_mem _ (delsS_sub prog x hx)⟩
    List.mem_cons_self s (by intro a ha; rw [hlog] at ha; cases ha)

end Lang
