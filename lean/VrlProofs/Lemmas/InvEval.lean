/-
  The structural induction over `eval` for an abstract state invariant (Lemmas/Inv.lean), and `run_inv`
  for whole runs. The hypothesis: every static target operation of the expression satisfies the
  static condition of its kind: external queries (`queriesE`, which includes `exists` and `del`
  paths) `I.G`, external assignment targets (`assignsE`) `I.W`, external `del` paths (`delsE`) `I.D`.
-/
import VrlProofs.Lemmas.Inv
import VrlProofs.Lemmas.EvalBind

namespace Lang

/-- the static conditions of `I` hold of three lists of target operations: queries, assignment
    targets, `del` paths; `CovE`, `CovS`, `CovK`, `CovA` are this at the lists of an expression,
    block, object literal, argument list -/
def Cov (I : Inv) (q a d : List (Bool × Path)) : Prop :=
  (∀ x ∈ q, I.G x) ∧ (∀ x ∈ a, I.W x) ∧ (∀ x ∈ d, I.D x)

def CovE (I : Inv) (e : Expr) : Prop :=
  (∀ x ∈ queriesE e, I.G x) ∧ (∀ x ∈ assignsE e, I.W x) ∧ (∀ x ∈ delsE e, I.D x)
def CovS (I : Inv) (es : Exprs) : Prop :=
  (∀ x ∈ queriesS es, I.G x) ∧ (∀ x ∈ assignsS es, I.W x) ∧ (∀ x ∈ delsS es, I.D x)
def CovK (I : Inv) (k : KExprs) : Prop :=
  (∀ x ∈ queriesK k, I.G x) ∧ (∀ x ∈ assignsK k, I.W x) ∧ (∀ x ∈ delsK k, I.D x)
def CovA (I : Inv) (a : Args) : Prop :=
  (∀ x ∈ queriesA a, I.G x) ∧ (∀ x ∈ assignsA a, I.W x) ∧ (∀ x ∈ delsA a, I.D x)

variable {I : Inv} {q₁ q₂ a₁ a₂ d₁ d₂ : List (Bool × Path)}

theorem Cov.left (h : Cov I (q₁ ++ q₂) (a₁ ++ a₂) (d₁ ++ d₂)) : Cov I q₁ a₁ d₁ :=
  ⟨fun x hx => h.1 x (List.mem_append_left _ hx), fun x hx => h.2.1 x (List.mem_append_left _ hx),
   fun x hx => h.2.2 x (List.mem_append_left _ hx)⟩

theorem Cov.right (h : Cov I (q₁ ++ q₂) (a₁ ++ a₂) (d₁ ++ d₂)) : Cov I q₂ a₂ d₂ :=
  ⟨fun x hx => h.1 x (List.mem_append_right _ hx), fun x hx => h.2.1 x (List.mem_append_right _ hx),
   fun x hx => h.2.2 x (List.mem_append_right _ hx)⟩

theorem compact_inv {c : Expr} (ih : ∀ s, I.J s → I.J (eval c s).2) (hasC : Bool) (s : St) (hs : I.J s) :
    I.J (evalCompact hasC c s).2 := by
  cases hasC
  · exact hs
  · exact ih s hs

theorem op_inv (o : Opcode) {l r : Expr} (hl : ∀ s, I.J s → I.J (eval l s).2)
    (hr : ∀ s, I.J s → I.J (eval r s).2) (s : St) (hs : I.J s) : I.J (eval (.op o l r) s).2 := by
  by_cases ho : plainOp o = true
  · rw [eval_op_strict o ho]
    exact bindOk_keeps (hl s hs) fun _ s hs => bindOk_keeps (hr s hs) fun _ _ hs => hs
  cases o
  case err =>
    have h1 := hl { s with evCatch := true } (I.keep hs rfl rfl rfl)
    rw [eval_err]
    generalize eval l _ = x at h1
    split
    · exact hr _ h1
    · exact h1
  case or =>
    rw [eval_or]
    exact bindOk_keeps (hl _ (I.keep hs rfl rfl rfl)) fun _ s hs => by
      split
      · exact hr s hs
      · exact hs
  case and =>
    rw [eval_and]
    exact bindOk_keeps (hl _ (I.keep hs rfl rfl rfl)) fun _ s hs => by
      split
      · exact hs
      · exact bindOk_keeps (hr s hs) fun _ _ hs => hs
  all_goals exact absurd rfl ho

/- The lists of a sub-term are, by definition of `queriesE` …, parts of the lists of the term, so
   coverage of the sub-term is `h`, `Cov.left h` or `Cov.right h`. In each case the final state is
   reached from `s` through sub-evaluations, changes `I.stable` allows, and target operations whose
   static condition `h` provides. Where the form is not a `bindOk`, the outcome of the sub-evaluation
   is generalised to `x` before the `match` on it is split, so that every arm speaks of the state
   `x` carries (`ok, err = e` goes through the cases of `iasgOk` / `iasgErr` by name instead). -/
mutual
  theorem eval_inv : (e : Expr) → CovE I e → (s : St) → I.J s → I.J (eval e s).2
    | .lit _, _, s, hs | .noop, _, s, hs | .var _, _, s, hs | .qvar _ _, _, s, hs => hs
    | .grp e, h, s, hs => eval_inv e h s hs
    | .blk es, h, s, hs => evalSeq_inv es h s hs
    | .arr es, h, s, hs => by
      have h1 := evalList_inv es h s hs
      rw [eval_arr]
      generalize evalList es s = x at h1
      split <;> exact h1
    | .obj kvs, h, s, hs => by
      have h1 := evalKVs_inv kvs h s hs
      rw [eval_obj]
      generalize evalKVs kvs s = x at h1
      split <;> exact h1
    | .ifte pred thn hasElse els, h, s, hs => by
      rw [eval_ifte]
      refine bindOk_keeps (evalSeq_inv pred (Cov.left (Cov.left h)) _ (I.keep hs rfl rfl rfl)) fun _ s hs => ?_
      split
      · exact evalSeq_inv thn (Cov.right (Cov.left h)) s hs
      · split
        · exact evalSeq_inv els (Cov.right h) s hs
        · exact hs
      · exact hs
    | .op o l r, h, s, hs => op_inv o (eval_inv l (Cov.left h)) (eval_inv r (Cov.right h)) s hs
    | .asg t e, h, s, hs => by
      rw [eval_asg]
      refine bindOk_keeps (eval_inv e ⟨h.1, fun x hx => h.2.1 x (List.mem_append_left _ hx), h.2.2⟩ s hs)
        fun _ s hs => ?_
      split
      · next hi => exact I.tgtInsert hi hs fun x hx => h.2.1 x (List.mem_append_right _ hx)
      · exact hs
    | .iasg okT errT e d, h, s, hs => by
      have h1 := eval_inv e ⟨h.1, fun x hx => h.2.1 x (List.mem_append_left _ (List.mem_append_left _ hx)), h.2.2⟩
        { s with evCatch := true } (I.keep hs rfl rfl rfl)
      have hok : ∀ x ∈ tgtAssign okT, I.W x :=
        fun x hx => h.2.1 x (List.mem_append_left _ (List.mem_append_right _ hx))
      have herr : ∀ x ∈ tgtAssign errT, I.W x := fun x hx => h.2.1 x (List.mem_append_right _ hx)
      rw [eval_iasg]
      cases hq : eval e { s with evCatch := true } with
      | mk r s1 =>
        rw [hq] at h1
        have h1 : I.J s1 := h1
        cases r with
        | ok v =>
          show I.J (iasgOk okT errT v s1).2
          unfold iasgOk
          cases hi : okT.insert v s1 with
          | none => exact h1
          | some s2 =>
            simp only
            cases hi2 : errT.insert .null s2 with
            | none => exact I.tgtInsert hi h1 hok
            | some s3 => exact I.tgtInsert hi2 (I.tgtInsert hi h1 hok) herr
        | err =>
          show I.J (iasgErr okT errT d s1).2
          unfold iasgErr
          cases hi : okT.insert d s1 with
          | none => exact h1
          | some s2 =>
            simp only
            have h2 : I.J s2 := I.tgtInsert hi h1 hok
            cases hm : s2.errs with
            | nil => exact h2
            | cons msg rest =>
              simp only
              cases hi2 : errT.insert (.bytes msg) { s2 with errs := rest } with
              | none => exact I.keep h2 rfl rfl rfl
              | some s3 => exact I.tgtInsert hi2 (I.keep h2 rfl rfl rfl) herr
        | _ => exact h1
    | .qext m p, h, s, hs => I.get s m p (h.1 _ List.mem_cons_self) hs
    | .existsExt m p, h, s, hs => I.get s m p (h.1 _ List.mem_cons_self) hs
    | .qexpr e p, h, s, hs => by
      rw [eval_qexpr]; exact bindOk_keeps (eval_inv e h s hs) fun _ _ hs => hs
    | .existsExpr e p, h, s, hs => by
      rw [eval_existsExpr]; exact bindOk_keeps (eval_inv e h s hs) fun _ _ hs => hs
    | .not e, h, s, hs => by
      rw [eval_not]; exact bindOk_keeps (eval_inv e h s hs) fun _ _ hs => by split <;> exact hs
    | .abort hasMsg e, h, s, hs => by
      cases hasMsg
      · exact I.keep hs rfl rfl rfl
      · rw [eval_abort_msg]
        refine bindOk_keeps (eval_inv e h s hs) fun _ s hs => ?_
        split
        · split
          · exact I.keep hs rfl rfl rfl
          · exact hs
        · exact hs
    | .ret e, h, s, hs => by
      rw [eval_ret]; exact bindOk_keeps (eval_inv e h s hs) fun _ _ hs => I.keep hs rfl rfl rfl
    | .delExt m p hasC c, h, s, hs => by
      rw [eval_delExt]
      refine bindOk_keeps (compact_inv (eval_inv c ⟨fun x hx => h.1 x (List.mem_cons_of_mem _ hx), h.2.1,
        fun x hx => h.2.2 x (List.mem_cons_of_mem _ hx)⟩) hasC s hs) fun _ s hs => ?_
      split
      · exact I.rem s m p _ (h.2.2 _ List.mem_cons_self) hs
      · exact hs
    | .delVar n p hasC c, h, s, hs => by
      rw [eval_delVar]
      refine bindOk_keeps (compact_inv (eval_inv c h) hasC s hs) fun _ s hs => ?_
      split
      · split
        · exact I.keep hs rfl rfl rfl
        · exact hs
      · exact hs
    | .delExpr e p hasC c, h, s, hs => by
      rw [eval_delExpr]
      refine bindOk_keeps (compact_inv (eval_inv c (Cov.right h)) hasC s hs) fun _ s hs => ?_
      split
      · exact bindOk_keeps (eval_inv e (Cov.left h) s hs) fun _ _ hs => hs
      · exact hs
    | .existsVar n p, _, s, hs => by
      rw [eval_existsVar]; split <;> exact hs
    | .call name _ _ args hasClosure cvars cbody, h, s, hs => by
      have ha : CovA I args := ⟨fun x hx => h.1 x (List.mem_append_left _ (List.mem_append_right _ hx)),
        fun x hx => h.2.1 x (List.mem_append_left _ hx), fun x hx => h.2.2 x (List.mem_append_left _ hx)⟩
      rw [eval_call]
      apply I.callFn name _ _ (thunks_inv args ha)
      · intro vars body hcl
        split at hcl
        · cases hcl; exact evalSeq_inv cbody (Cov.right h)
        · cases hcl
      · split
        · exact I.keep hs rfl rfl rfl
        · exact hs

  theorem evalSeq_inv : (es : Exprs) → CovS I es → (s : St) → I.J s → I.J (evalSeq es s).2
    | .nil, _, s, hs => hs
    | .cons e .nil, h, s, hs => eval_inv e (Cov.left h) s hs
    | .cons e (.cons e2 es), h, s, hs => by
      rw [evalSeq_cons]
      exact bindOk_keeps (eval_inv e (Cov.left h) s hs) fun _ s hs => evalSeq_inv (.cons e2 es) (Cov.right h) s hs

  theorem evalList_inv : (es : Exprs) → CovS I es → (s : St) → I.J s → I.J (evalList es s).2
    | .nil, _, s, hs => hs
    | .cons e es, h, s, hs => by
      have h1 := eval_inv e (Cov.left h) s hs
      rw [evalList_cons]
      generalize eval e s = x at h1
      split
      · have h2 := evalList_inv es (Cov.right h) _ h1
        generalize evalList es _ = y at h2
        split <;> exact h2
      · exact h1

  theorem evalKVs_inv : (k : KExprs) → CovK I k → (s : St) → I.J s → I.J (evalKVs k s).2
    | .nil, _, s, hs => hs
    | .cons key e kes, h, s, hs => by
      have h1 := eval_inv e (Cov.left h) s hs
      rw [evalKVs_cons]
      generalize eval e s = x at h1
      split
      · have h2 := evalKVs_inv kes (Cov.right h) _ h1
        generalize evalKVs kes _ = y at h2
        split <;> exact h2
      · exact h1

  theorem thunks_inv : (as : Args) → CovA I as → I.ArgsOK (thunks as)
    | .nil, _ => fun _ _ hm => nomatch hm
    | .cons kw e as, h => fun k t hm => by
      rcases List.mem_cons.mp hm with e1 | e1
      · cases e1; exact eval_inv e (Cov.left h)
      · exact thunks_inv as (Cov.right h) k t e1
end

/-- whole runs: the root check of `Runtime::resolve` is one more read (of the event root). -/
theorem run_inv (I : Inv) (prog : Exprs) (hcov : CovS I prog) (hroot : I.G (false, [])) (s : St)
    (hs : I.J s) : I.J (run prog s).2 := by
  have h1 := targetGet_snd s false [] ▸ I.get s false [] hroot hs
  rw [run_eq]
  split
  · exact h1
  · rw [finish_snd]; exact evalSeq_inv prog hcov _ h1

end Lang
