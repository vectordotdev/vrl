/-
  Helper lemmas for the key-value part of C24: `parse_key_value` (model `KV.parseKV`) reading what
  `encode_key_value` (model `KV.encodeKV`) wrote, for tokens of the safe class.
-/
import VrlModel.KeyValue

namespace KV

theorem scanEscaped_normal (q c : Char) (t : List Char) (h1 : c ≠ '\\') (h2 : c ≠ q) :
    scanEscaped q (c :: t) = (scanEscaped q t).map fun p => (c :: p.1, p.2) := by
  cases t <;> simp [scanEscaped, h1, h2]

theorem scanEscaped_quote (q : Char) (t : List Char) (hq : q ≠ '\\') :
    scanEscaped q (q :: t) = some ([], q :: t) := by
  cases t <;> simp [scanEscaped, hq]

theorem unescapeLoop_normal (c : Char) (t : List Char) (h : c ≠ '\\') :
    unescapeLoop (c :: t) = c :: unescapeLoop t := by
  cases t <;> simp [unescapeLoop, h]

theorem unescapeLoop_bs (t : List Char) : unescapeLoop ('\\' :: '\\' :: t) = '\\' :: unescapeLoop t := by
  simp [unescapeLoop]

theorem unescapeLoop_dq (t : List Char) : unescapeLoop ('\\' :: '"' :: t) = '"' :: unescapeLoop t := by
  simp [unescapeLoop]

theorem scanEscaped_esc (q e : Char) (t : List Char) :
    scanEscaped q ('\\' :: e :: t) = (scanEscaped q t).map fun p => ('\\' :: e :: p.1, p.2) := by
  simp [scanEscaped]

theorem unescapeLoop_id (s : List Char) (h : ∀ c ∈ s, c ≠ '\\') : unescapeLoop s = s := by
  induction s with
  | nil => simp [unescapeLoop]
  | cons c r ih =>
    rw [unescapeLoop_normal c r (h c (by simp)), ih (fun x hx => h x (by simp [hx]))]

theorem escapeStr_eq (s : List Char) : escapeStr s = unescapeLoop s := by
  unfold escapeStr
  split
  · rfl
  · rename_i h
    rw [unescapeLoop_id]
    intro c hc hcc
    subst hcc
    exact h (by simpa using hc)

/-- what the encoder writes for one character: the scanner of a double-quoted string runs over it, and
    the unescaper gives the character back, the newline apart (written `\\n`, read `\n`). -/
theorem escChar_spec (c : Char) (t : List Char) :
    scanEscaped '"' (escChar c ++ t) = ((scanEscaped '"' t).map fun p => (escChar c ++ p.1, p.2)) ∧
      (c ≠ '\n' → unescapeLoop (escChar c ++ t) = c :: unescapeLoop t) := by
  unfold escChar
  by_cases h1 : c = '\\'
  · subst h1; exact ⟨scanEscaped_esc .., fun _ => unescapeLoop_bs t⟩
  by_cases h2 : c = '"'
  · subst h2; exact ⟨scanEscaped_esc .., fun _ => unescapeLoop_dq t⟩
  by_cases h3 : c = '\n'
  · subst h3
    refine ⟨?_, fun h => absurd rfl h⟩
    show scanEscaped '"' ('\\' :: '\\' :: 'n' :: t) = _
    rw [scanEscaped_esc, scanEscaped_normal '"' 'n' t (by decide) (by decide), Option.map_map]; rfl
  · simp only [h1, h2, h3, if_false]
    exact ⟨scanEscaped_normal '"' c t h1 h2, fun _ => unescapeLoop_normal c t h1⟩

theorem unescape_escBody (s : List Char) (h : ∀ c ∈ s, c ≠ '\n') : unescapeLoop (escBody s) = s := by
  induction s with
  | nil => rfl
  | cons c r ih => rw [escBody, (escChar_spec c _).2 (h c (by simp)), ih fun x hx => h x (by simp [hx])]

theorem scan_escBody (s R : List Char) :
    scanEscaped '"' (escBody s ++ '"' :: R) = some (escBody s, '"' :: R) := by
  induction s with
  | nil => exact scanEscaped_quote '"' R (by decide)
  | cons c r ih => rw [escBody, List.append_assoc, (escChar_spec c _).1, ih]; rfl

theorem escBody_id (s : List Char) (h : ∀ c ∈ s, c ≠ '\\' ∧ c ≠ '"' ∧ c ≠ '\n') : escBody s = s := by
  induction s with
  | nil => rfl
  | cons c r ih =>
    obtain ⟨h1, h2, h3⟩ := h c (by simp)
    simp [escBody, escChar, h1, h2, h3, ih fun x hx => h x (by simp [hx])]

theorem tag_single (d c : Char) (t : List Char) :
    tag [d] (c :: t) = if d = c then some t else none := by
  simp [tag]

theorem tag_single_nil (d : Char) : tag [d] [] = none := by simp [tag]

theorem takeUntil_isSome (pat s : List Char) : (takeUntil pat s).isSome = containsStr pat s := by
  induction s with
  | nil => simp only [takeUntil, containsStr]; split <;> simp [*]
  | cons c r ih =>
    simp only [takeUntil, containsStr, ← ih]
    cases (tag pat (c :: r)).isSome <;> simp

theorem takeUntil_append (d : Char) (s R : List Char) (h : ∀ c ∈ s, c ≠ d) :
    takeUntil [d] (s ++ R) = (takeUntil [d] R).map fun p => (s ++ p.1, p.2) := by
  induction s with
  | nil => simp
  | cons c r ih =>
    have hc : d ≠ c := fun e => h c (by simp) e.symm
    simp [takeUntil, tag, hc, ih fun x hx => h x (by simp [hx]), Function.comp_def]

theorem takeUntil_found (d : Char) (s R : List Char) (h : ∀ c ∈ s, c ≠ d) :
    takeUntil [d] (s ++ d :: R) = some (s, d :: R) := by
  simp [takeUntil_append d s _ h, takeUntil, tag]

theorem takeUntil_none (d : Char) (s : List Char) (h : ∀ c ∈ s, c ≠ d) :
    takeUntil [d] s = none := by
  simpa [takeUntil, tag] using takeUntil_append d s [] h

theorem containsStr_single (d : Char) (s : List Char) (h : ∀ c ∈ s, c ≠ d) :
    containsStr [d] s = false := by
  rw [← takeUntil_isSome, takeUntil_none d s h]; rfl

theorem trim_id (s : List Char) (h : ∀ c ∈ s, isWs c = false) : trim s = s := by
  have key : ∀ l : List Char, (∀ c ∈ l, isWs c = false) → l.dropWhile isWs = l := by
    intro l hl
    cases l with
    | nil => rfl
    | cons c t => exact List.dropWhile_cons_of_neg (ne_true_of_eq_false (hl c (by simp)))
  unfold trim trimEnd trimStart
  rw [key s h, key s.reverse (fun c hc => h c (by simpa using hc))]
  simp

theorem space0_head (c : Char) (t : List Char) (h1 : c ≠ ' ') (h2 : c ≠ '\t') :
    space0 (c :: t) = c :: t := by
  unfold space0
  apply List.dropWhile_cons_of_neg
  simp [h1, h2]

theorem dropSpaces_head (c : Char) (t : List Char) (h1 : c ≠ ' ') :
    dropSpaces (c :: t) = c :: t := by
  unfold dropSpaces
  apply List.dropWhile_cons_of_neg
  simp [h1]

theorem not_ws_ne_space {c : Char} (h : isWs c = false) : c ≠ ' ' ∧ c ≠ '\t' ∧ c ≠ '\n' := by
  refine ⟨?_, ?_, ?_⟩ <;> (rintro rfl; exact absurd h (by decide))

/-- an unquoted token the parser reads back verbatim: non-empty, not starting with `'`, no white
    space, `"`, backslash, and none of the delimiter characters in `bad`. -/
structure Unq (bad : List Char) (s : List Char) : Prop where
  ne : s ≠ []
  head : s.head? ≠ some '\''
  chars : ∀ c ∈ s, isWs c = false ∧ c ≠ '"' ∧ c ≠ '\\' ∧ c ∉ bad

/-- a token of the safe class: quoted by the encoder and free of newlines, or unquoted-safe. -/
inductive SafeTok (bad : List Char) (s : List Char) : Prop where
  | quoted (hq : needsQuoting s = true) (nl : ∀ c ∈ s, c ≠ '\n')
  | plain (hq : needsQuoting s = false) (h : Unq bad s)

theorem firstBadUnquoted_eq_none (kd fd : Char) (isKey : Bool) (s : List Char) (first : Bool)
    (h : firstBadUnquoted [kd] [fd] isKey first s = none) :
    (first = true → s.head? ≠ some '\'') ∧
      ∀ c ∈ s, c ≠ '\\' ∧ c ∉ (if isKey then [kd, fd] else [fd]) := by
  -- cases 2–5: a finding class is answered; 6: the scan moves on
  fun_induction firstBadUnquoted [kd] [fd] isKey first s with
  | case1 => simp
  | case2 | case3 | case4 | case5 => cases h
  | case6 first c r h1 h2 h3 h4 ih =>
    have h3 : fd ≠ c := by simpa [tag] using h3
    have h4 : isKey = true → kd ≠ c := by simpa [tag] using h4
    refine ⟨by simpa using h2, ?_⟩
    simp only [List.mem_cons, forall_eq_or_imp]
    refine ⟨⟨h1, ?_⟩, (ih h).2⟩
    cases isKey <;> simp [Ne.symm h3, Ne.symm (h4 _)]

theorem needsQuoting_false {s : List Char} (h : needsQuoting s = false) :
    ∀ c ∈ s, isWs c = false ∧ c ≠ '"' ∧ c ≠ '=' := by
  intro c hc
  simpa [not_or, and_assoc] using List.any_eq_false.mp h c hc

theorem safeTok_of_class (kd fd : Char) (isKey : Bool) (s : List Char)
    (h : tokenClass [kd] [fd] isKey s = none) :
    SafeTok (if isKey then [kd, fd] else [fd]) s := by
  revert h
  fun_cases tokenClass [kd] [fd] isKey s <;> intro h
  · cases h
  · cases h
  · rename_i hne hq hnl
    exact .quoted hq fun c hc e => hnl (by simpa [e] using hc)
  · rename_i hne hq
    have hq : needsQuoting s = false := by simpa using hq
    obtain ⟨hh, hc⟩ := firstBadUnquoted_eq_none kd fd isKey s true h
    exact .plain hq ⟨by simpa using hne, hh rfl, fun c hcs =>
      let ⟨a1, a2, _⟩ := needsQuoting_false hq c hcs
      ⟨a1, a2, hc c hcs⟩⟩

theorem firstSome_eq_none {α β : Type} (f : α → Option β) (l : List α) :
    firstSome f l = none ↔ ∀ a ∈ l, f a = none := by
  induction l with
  | nil => simp [firstSome]
  | cons a l ih =>
    simp only [firstSome, List.mem_cons, forall_eq_or_imp, ← ih]
    cases f a <;> simp

theorem delimOK_iff {kd : Char} : delimOK kd = true ↔ kd ≠ ' ' ∧ kd ≠ '\t' := by
  simp [delimOK]

/-- `parse_field_delimiter(fd)` at the delimiter: a space swallows the spaces after it. -/
theorem parseFieldDelim_cons (fd : Char) (R : List Char) :
    parseFieldDelim [fd] (fd :: R) = some (if fd = ' ' then dropSpaces R else R) := by
  unfold parseFieldDelim
  by_cases h : fd = ' '
  · subst h; simp
  · simp [h, dropSpaces_head fd _ h, tag]

theorem parseFieldDelim_nil (fd : Char) : parseFieldDelim [fd] [] = none := by
  unfold parseFieldDelim
  by_cases h : fd = ' '
  · subst h; simp
  · simp [h, dropSpaces, tag]

/-- what may follow a token read up to the delimiter `d`: the end of the line or `d`. -/
inductive AfterTok (d : Char) : List Char → Prop where
  | eol : AfterTok d []
  | more (R : List Char) : AfterTok d (d :: R)

theorem peek_afterTok {fd : Char} {R : List Char} (h : AfterTok fd R) :
    ((parseFieldDelim [fd] R).isSome || (space0 R).isEmpty) = true := by
  cases h with
  | eol => simp [space0]
  | more R => simp [parseFieldDelim_cons]

theorem parseDelimited_head_ne (q : Char) (term : List Char) (c : Char) (t : List Char)
    (h : c ≠ q) : parseDelimited q term (c :: t) = none := by
  simp [parseDelimited, h]

theorem encodeString_quoted {s : List Char} (hq : needsQuoting s = true) :
    encodeString s = '"' :: (escBody s ++ ['"']) := by
  simp [encodeString, hq]

theorem parseDelimited_quoted {d : Char} {s R : List Char} (hq : needsQuoting s = true)
    (nl : ∀ c ∈ s, c ≠ '\n') (hR : AfterTok d R) :
    (∀ term, parseDelimited '\'' term (encodeString s ++ R) = none) ∧
      parseDelimited '"' [d] (encodeString s ++ R) = some (s, R) := by
  have e : encodeString s ++ R = '"' :: (escBody s ++ '"' :: R) := by simp [encodeString_quoted hq]
  rw [e]
  refine ⟨fun term => parseDelimited_head_ne _ _ _ _ (by decide), ?_⟩
  simp only [parseDelimited, if_true, scan_escBody]
  simp [peek_afterTok hR, escapeStr_eq, unescape_escBody s nl]

theorem encodeString_plain {bad : List Char} {s : List Char} (hq : needsQuoting s = false)
    (h : Unq bad s) : encodeString s = s := by
  rw [encodeString, hq]
  exact escBody_id s fun c hc =>
    let ⟨w, q, b, _⟩ := h.chars c hc
    ⟨b, q, (not_ws_ne_space w).2.2⟩

theorem parseDelimited_plain {bad : List Char} {s : List Char} (h : Unq bad s) (term R : List Char) :
    parseDelimited '\'' term (s ++ R) = none ∧ parseDelimited '"' term (s ++ R) = none := by
  cases s with
  | nil => exact absurd rfl h.ne
  | cons c t =>
    exact ⟨parseDelimited_head_ne _ _ _ _ fun e => h.head (by simp [e]),
      parseDelimited_head_ne _ _ _ _ (h.chars c (by simp)).2.1⟩

theorem Unq.ne_of_mem {bad : List Char} {d : Char} {s : List Char} (h : Unq bad s) (hd : d ∈ bad) :
    ∀ x ∈ s, x ≠ d :=
  fun x hx e => (h.chars x hx).2.2.2 (e ▸ hd)

theorem parseUndelimited_plain {bad : List Char} {d : Char} {s R : List Char} (h : Unq bad s)
    (hd : d ∈ bad) (hR : AfterTok d R) : parseUndelimited [d] (s ++ R) = (s, R) := by
  have hnd := h.ne_of_mem hd
  have htrim := trim_id s fun x hx => (h.chars x hx).1
  cases hR with
  | eol => simp [parseUndelimited, takeUntil_none d s hnd, htrim]
  | more R => simp [parseUndelimited, takeUntil_found d s R hnd, htrim]

theorem safeTok_encoded_head {bad : List Char} {s : List Char} (h : SafeTok bad s) (X : List Char) :
    ∃ c t, encodeString s ++ X = c :: t ∧ c ≠ ' ' ∧ c ≠ '\t' := by
  cases h with
  | quoted hq nl =>
    exact ⟨'"', escBody s ++ ['"'] ++ X, by simp [encodeString_quoted hq], by decide, by decide⟩
  | plain hq hu =>
    rw [encodeString_plain hq hu]
    cases s with
    | nil => exact absurd rfl hu.ne
    | cons c t =>
      obtain ⟨w, _⟩ := hu.chars c (by simp)
      exact ⟨c, t ++ X, rfl, (not_ws_ne_space w).1, (not_ws_ne_space w).2.1⟩

/-- `space0` and `many0(tag(" "))` leave an encoded safe token alone. -/
theorem blank_enc {bad : List Char} {s : List Char} (h : SafeTok bad s) (X : List Char) :
    space0 (encodeString s ++ X) = encodeString s ++ X ∧
      dropSpaces (encodeString s ++ X) = encodeString s ++ X := by
  obtain ⟨c, t, e, h1, h2⟩ := safeTok_encoded_head h X
  rw [e]
  exact ⟨space0_head c t h1 h2, dropSpaces_head c t h1⟩

theorem parseValue_enc {fd : Char} {v R : List Char} (hv : SafeTok [fd] v) (hR : AfterTok fd R) :
    parseValue [fd] (encodeString v ++ R) = (v, R) := by
  cases hv with
  | quoted hq nl =>
    obtain ⟨h1, h2⟩ := parseDelimited_quoted hq nl hR
    simp [parseValue, h1, h2]
  | plain hq hu =>
    rw [encodeString_plain hq hu]
    simp [parseValue, parseDelimited_plain hu, parseUndelimited_plain hu (by simp) hR]

theorem parseKey_enc {kd fd : Char} (sk : Bool) {k R : List Char} (hk : SafeTok [kd, fd] k) :
    parseKey [kd] [fd] sk (encodeString k ++ kd :: R) = some (k, kd :: R) := by
  cases hk with
  | quoted hq nl =>
    obtain ⟨h1, h2⟩ := parseDelimited_quoted (d := kd) hq nl (.more R)
    have ne : k ≠ [] := by rintro rfl; cases hq
    cases sk <;> simp [parseKey, parseKeyAlt, orElse, h1, h2, ne]
  | plain hq hu =>
    rw [encodeString_plain hq hu]
    have hkd := parseUndelimited_plain hu (d := kd) (by simp) (.more R)
    have hfd := containsStr_single fd k (hu.ne_of_mem (by simp))
    cases sk <;> simp [parseKey, parseKeyAlt, orElse, parseDelimited_plain hu, hkd, hfd, hu.ne]

/-- the text of one field as `encode_field` writes it. -/
def encField (kd : Char) (kv : List Char × List Char) : List Char :=
  encodeString kv.1 ++ kd :: encodeString kv.2

/-- fields after the first one: each preceded by the field delimiter. -/
def encRest (kd fd : Char) : List (List Char × List Char) → List Char
  | [] => []
  | kv :: r => fd :: (encField kd kv ++ encRest kd fd r)

theorem afterTok_encRest (kd fd : Char) (r : List (List Char × List Char)) :
    AfterTok fd (encRest kd fd r) := by
  cases r with
  | nil => exact .eol
  | cons kv r => exact .more _

def pairsOf (o : List (List Char × List Char)) : List (List Char × PVal) :=
  o.map fun kv => (kv.1, PVal.str kv.2)

theorem sepLoop_step (c : Cfg) (n : Nat) (i i1 i2 : List Char) (o : List Char × PVal)
    (h1 : parseFieldDelim c.fd i = some i1) (h2 : parseKeyValue c i1 = some (o, i2))
    (h3 : i2.length ≠ i.length) :
    sepLoop c (n + 1) i = (sepLoop c n i2).map fun p => (o :: p.1, p.2) := by
  simp [sepLoop, h1, h2, h3]

theorem length_le_encRest (kd fd : Char) (r : List (List Char × List Char)) :
    r.length ≤ (encRest kd fd r).length := by
  induction r with
  | nil => simp
  | cons kv r ih => simp [encRest]; omega

theorem parseSepOpt_at (c : Cfg) {kd : Char} (hkd : c.kd = [kd]) (hd : delimOK kd = true)
    (x : Char) (t : List Char) (hx1 : x ≠ ' ') (hx2 : x ≠ '\t') :
    parseSepOpt c (kd :: x :: t) = some (1, x :: t) := by
  obtain ⟨k1, k2⟩ := delimOK_iff.mp hd
  unfold parseSepOpt parseSep
  cases hw : c.ws with
  | strict => simp [hkd, tag]
  | lenient => simp [hkd, tag, space0_head kd _ k1 k2, space0_head x t hx1 hx2]

section Line
variable (c : Cfg) {kd fd : Char} (hkd : c.kd = [kd]) (hfd : c.fd = [fd]) (hd : delimOK kd = true)

include hkd hd in
theorem parseSepOpt_enc {v X : List Char} (hv : SafeTok [fd] v) :
    parseSepOpt c (kd :: (encodeString v ++ X)) = some (1, encodeString v ++ X) := by
  obtain ⟨x, t, e, h1, h2⟩ := safeTok_encoded_head hv X
  rw [e]
  exact parseSepOpt_at c hkd hd x t h1 h2

include hkd hfd hd

theorem parseKeyValue_enc {k v R : List Char} (hk : SafeTok [kd, fd] k) (hv : SafeTok [fd] v) (hR : AfterTok fd R) :
    parseKeyValue c (encField kd (k, v) ++ R) = some ((k, .str v), R) := by
  have e : encField kd (k, v) ++ R = encodeString k ++ kd :: (encodeString v ++ R) := by simp [encField]
  unfold parseKeyValue
  rw [e, (blank_enc hk _).1, hkd, hfd, parseKey_enc c.standalone hk]
  simp only
  rw [parseSepOpt_enc c hkd hd hv]
  simp only
  rw [parseValue_enc hv hR]
  simp

theorem sepLoop_enc : ∀ (r : List (List Char × List Char)) (fuel : Nat),
    r.length < fuel →
    (∀ kv ∈ r, SafeTok [kd, fd] kv.1 ∧ SafeTok [fd] kv.2) →
    sepLoop c fuel (encRest kd fd r) = some (pairsOf r, []) := by
  intro r
  induction r with
  | nil =>
    intro fuel hf _
    cases fuel with
    | zero => omega
    | succ n => simp [sepLoop, encRest, hfd, parseFieldDelim_nil, pairsOf]
  | cons kv r ih =>
    intro fuel hf hs
    cases fuel with
    | zero => simp at hf
    | succ n =>
      obtain ⟨hk, hv⟩ := hs kv (by simp)
      have h1 : parseFieldDelim c.fd (encRest kd fd (kv :: r))
          = some (encField kd kv ++ encRest kd fd r) := by
        rw [hfd, encRest, parseFieldDelim_cons, encField, List.append_assoc, (blank_enc hk _).2, ite_self]
      have h3 : (encRest kd fd r).length ≠ (encRest kd fd (kv :: r)).length := by
        simp [encRest]; omega
      rw [sepLoop_step c n _ _ _ _ h1 (parseKeyValue_enc c hkd hfd hd hk hv (afterTok_encRest kd fd r)) h3,
        ih n (by simp at hf; omega) fun y hy => hs y (by simp [hy])]
      simp [pairsOf]

theorem parsePairs_enc (kv : List Char × List Char) (r : List (List Char × List Char))
    (hs : ∀ p ∈ kv :: r, SafeTok [kd, fd] p.1 ∧ SafeTok [fd] p.2) :
    parsePairs c (encField kd kv ++ encRest kd fd r) = some (pairsOf (kv :: r)) := by
  obtain ⟨hk, hv⟩ := hs kv (by simp)
  have loop := sepLoop_enc c hkd hfd hd r ((encRest kd fd r).length + 1)
    (by have := length_le_encRest kd fd r; omega) (fun y hy => hs y (by simp [hy]))
  unfold parsePairs parseLine
  rw [parseKeyValue_enc c hkd hfd hd hk hv (afterTok_encRest kd fd r)]
  simp only
  rw [loop]
  simp [trim, trimEnd, trimStart, pairsOf]

end Line

theorem encodeLoop_step (kd fd : Char) (kv : List Char × List Char)
    (r : List (List Char × List Char)) :
    encodeLoop [kd] [fd] false (strFields (kv :: r))
      = encField kd kv ++ fd :: encodeLoop [kd] [fd] false (strFields r) := by
  simp [strFields, encodeLoop, encodeField, encField, Data.text]

theorem encodeLoop_strFields (kd fd : Char) : ∀ (r : List (List Char × List Char))
    (kv : List Char × List Char),
    encodeLoop [kd] [fd] false (strFields (kv :: r)) = (encField kd kv ++ encRest kd fd r) ++ [fd] := by
  intro r
  induction r with
  | nil =>
    intro kv
    rw [encodeLoop_step]
    simp [strFields, encodeLoop, encRest]
  | cons kv' r ih =>
    intro kv
    rw [encodeLoop_step, ih kv']
    simp [encRest]

theorem encodeKV_cons (kd fd : Char) (kv : List Char × List Char)
    (r : List (List Char × List Char)) :
    encodeKV [kd] [fd] (kv :: r) = encField kd kv ++ encRest kd fd r := by
  unfold encodeKV encodeFlat
  rw [encodeLoop_strFields]
  generalize encField kd kv ++ encRest kd fd r = X
  have h1 : endsWith (X ++ [fd]) [fd] = true := by simp [endsWith, tag]
  have h2 : (X ++ [fd]).take ((X ++ [fd]).length - [fd].length) = X := by
    simp
  simp only [h1, if_true, h2]

/-- `strLt` is the lexicographic order of lists; its order properties are the library's. -/
theorem strLt_iff : (a b : List Char) → (strLt a b = true ↔ a < b)
  | [], [] => by simp [strLt]
  | [], _ :: _ => by simp [strLt]
  | _ :: _, [] => by simp [strLt]
  | x :: xs, y :: ys => by
    rw [List.cons_lt_cons_iff, ← strLt_iff xs ys, strLt, Char.lt_def, UInt32.lt_iff_toNat_lt]
    show (if x.toNat < y.toNat then _ else _) = _ ↔ x.toNat < y.toNat ∨ _
    by_cases h1 : x.toNat < y.toNat
    · simp [h1]
    · by_cases h2 : x = y <;> simp [h1, h2]

theorem strLt_irrefl (a : List Char) : strLt a a = false :=
  Bool.eq_false_iff.mpr fun h => List.lt_irrefl a ((strLt_iff a a).mp h)

theorem strLt_asymm (a b : List Char) (h : strLt a b = true) : strLt b a = false :=
  Bool.eq_false_iff.mpr fun h' => List.lt_asymm ((strLt_iff a b).mp h) ((strLt_iff b a).mp h')

theorem strLt_facts {a k : List Char} (h : strLt a k = true) : k ≠ a ∧ strLt k a = false :=
  ⟨fun e => by (rw [e, strLt_irrefl] at h; cases h), strLt_asymm _ _ h⟩

theorem groupInsert_append (k : List Char) (v : PVal) : ∀ (m : List (List Char × KVal)),
    (∀ e ∈ m, strLt e.1 k = true) → groupInsert k v m = m ++ [(k, v.toK)] := by
  intro m
  induction m with
  | nil => intro _; rfl
  | cons e m ih =>
    intro h
    obtain ⟨h1, h2⟩ := strLt_facts (h e (by simp))
    simp [groupInsert, h1, h2, ih fun x hx => h x (by simp [hx])]

theorem mapInsert_append {α : Type} (k : List Char) (v : α) : ∀ (m : List (List Char × α)),
    (∀ e ∈ m, strLt e.1 k = true) → mapInsert k v m = m ++ [(k, v)] := by
  intro m
  induction m with
  | nil => intro _; rfl
  | cons e m ih =>
    intro h
    obtain ⟨h1, h2⟩ := strLt_facts (h e (by simp))
    simp [mapInsert, h1, h2, ih fun x hx => h x (by simp [hx])]

/-- the invariant of inserting the entries of a sorted object one by one: what has been inserted is
    below what is still to come. -/
theorem sorted_step {β : Type} {acc : List (List Char × β)} {kv : List Char × List Char}
    {r : List (List Char × List Char)} (b : β) (hs : keysSorted (kv :: r) = true)
    (hacc : ∀ e ∈ acc, ∀ x ∈ kv :: r, strLt e.1 x.1 = true) :
    keysSorted r = true ∧ ∀ e ∈ acc ++ [(kv.1, b)], ∀ x ∈ r, strLt e.1 x.1 = true := by
  simp only [keysSorted, Bool.and_eq_true, List.all_eq_true] at hs
  refine ⟨hs.2, fun e he x hx => ?_⟩
  rcases List.mem_append.mp he with he | he
  · exact hacc e he x (List.mem_cons_of_mem _ hx)
  · obtain rfl := List.mem_singleton.mp he
    exact hs.1 x hx

theorem group_sorted_aux : ∀ (o : List (List Char × List Char)) (acc : List (List Char × KVal)),
    keysSorted o = true →
    (∀ e ∈ acc, ∀ kv ∈ o, strLt e.1 kv.1 = true) →
    (pairsOf o).foldl (fun m p => groupInsert p.1 p.2 m) acc = acc ++ expected o := by
  intro o
  induction o with
  | nil => intro acc _ _; simp [pairsOf, expected]
  | cons kv r ih =>
    intro acc hs hacc
    obtain ⟨hr, hacc'⟩ := sorted_step (KVal.str kv.2) hs hacc
    simp only [pairsOf, List.map_cons, List.foldl_cons]
    rw [groupInsert_append kv.1 (.str kv.2) acc fun e he => hacc e he kv (by simp)]
    simpa [pairsOf, expected, PVal.toK] using ih _ hr hacc'

theorem group_sorted (o : List (List Char × List Char)) (h : keysSorted o = true) :
    group (pairsOf o) = expected o := by
  simpa [group] using group_sorted_aux o [] h (by simp)

/-! ### `flatten` on a flat string object is the identity (ties `encodeValue`, the function under
    the `kv.encode` correspondence op, to `encodeKV`, the function of the theorems) -/

/-- the `vrl::Value` object of a flat string object; `enc` is UTF-8 encoding. -/
def vmapOf (enc : List Char → List Nat) : List (List Char × List Char) → VMap
  | [] => .nil
  | kv :: r => .cons (enc kv.1) (.bytes (enc kv.2)) (vmapOf enc r)

theorem flattenTop_flat (dec : List Nat → Option (List Char)) (enc : List Char → List Nat)
    (hde : ∀ s, dec (enc s) = some s) : ∀ (o : List (List Char × List Char)) (acc : FMap),
    keysSorted o = true →
    (∀ e ∈ acc, ∀ kv ∈ o, strLt e.1 kv.1 = true) →
    flattenTop dec (vmapOf enc o) acc = some (acc ++ strFields o) := by
  intro o
  induction o with
  | nil => intro acc _ _; simp [vmapOf, flattenTop, strFields]
  | cons kv r ih =>
    intro acc hs hacc
    obtain ⟨hr, hacc'⟩ := sorted_step (Data.str kv.2) hs hacc
    simp only [vmapOf, flattenTop, hde, flattenV, Option.map_some]
    rw [mapInsert_append kv.1 (Data.str kv.2) acc fun e he => hacc e he kv (by simp), ih _ hr hacc']
    simp [strFields]

end KV
