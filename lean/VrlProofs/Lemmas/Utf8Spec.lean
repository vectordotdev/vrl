/-
  The relation between a value and its UTF-8 bytes, for every model that writes or reads a code.

  `Code n bs` ("`bs` is the code of `n`") is stated on the base-64 digits of `n`. The encoder is
  characterised once: `Str.encodeCp` writes the one code of its argument (`Utf8.encodeChar` and
  `Json.encodeUtf8` have the same body). `second3`, `second4` are Unicode Table 3-7 on digits: what
  being a scalar value means for the second byte. A decoder then needs one lemma, what it does on a
  code followed by any rest. All arithmetic is the division of `m * 64 + d` by 64.
-/
import VrlModel.Utf8
import VrlModel.Str.Utf8
import VrlProofs.Lemmas.Digits

namespace Str

theorem isScalar_iff (c : Nat) : isScalar c = true ↔ (c < 0xD800 ∨ (0xDFFF < c ∧ c < 0x110000)) := by
  simp [isScalar]

end Str

namespace Utf8

theorem digit64 (n : Nat) : ∃ m d, d < 64 ∧ n = m * 64 + d :=
  ⟨n / 64, n % 64, Nat.mod_lt _ (by decide), (Nat.div_add_mod' n 64).symm⟩

theorem div64 (m : Nat) {d : Nat} (h : d < 64) : (m * 64 + d) / 64 = m := Digits.mul_add_div m d h

theorem mod64 (m : Nat) {d : Nat} (h : d < 64) : (m * 64 + d) % 64 = d := Digits.mul_add_mod m d h

theorem div4096 (m : Nat) {d₁ d₂ : Nat} (h₁ : d₁ < 64) (h₂ : d₂ < 64) :
    ((m * 64 + d₁) * 64 + d₂) / 4096 = m := by
  rw [← Nat.div_div_eq_div_mul _ 64 64, div64 _ h₂, div64 _ h₁]

theorem div262144 (m : Nat) {d₁ d₂ d₃ : Nat} (h₁ : d₁ < 64) (h₂ : d₂ < 64) (h₃ : d₃ < 64) :
    (((m * 64 + d₁) * 64 + d₂) * 64 + d₃) / 262144 = m := by
  rw [← Nat.div_div_eq_div_mul _ 64 4096, div64 _ h₃, div4096 _ h₁ h₂]

theorem lt_iff64 {a d : Nat} (k : Nat) (hd : d < 64) : a * 64 + d < k * 64 ↔ a < k := by omega

theorem le_iff64 {a d : Nat} (k : Nat) (hd : d < 64) : k * 64 ≤ a * 64 + d ↔ k ≤ a := by omega

/-- `Code n bs`: the bytes `bs` are the UTF-8 code of the value `n`, written with the base-64
    digits of `n` (lead digit `a`, then one digit per continuation byte). The lead digit fits its
    byte; the lower bound on `n` makes the code the shortest form. Every `n < 0x200000` has a code,
    the surrogates too: being a scalar value is asked separately (`second3`, `second4`). -/
inductive Code : Nat → List Nat → Prop
  | one {n} : n < 0x80 → Code n [n]
  | two {n} (a d) : d < 64 → n = a * 64 + d → 2 ≤ a → a < 32 → Code n [0xC0 + a, 0x80 + d]
  | three {n} (a d₁ d₂) : d₁ < 64 → d₂ < 64 → n = (a * 64 + d₁) * 64 + d₂ →
      0x800 ≤ n → a < 16 → Code n [0xE0 + a, 0x80 + d₁, 0x80 + d₂]
  | four {n} (a d₁ d₂ d₃) : d₁ < 64 → d₂ < 64 → d₃ < 64 →
      n = ((a * 64 + d₁) * 64 + d₂) * 64 + d₃ → 0x10000 ≤ n → a < 8 →
      Code n [0xF0 + a, 0x80 + d₁, 0x80 + d₂, 0x80 + d₃]

theorem exists_code {n : Nat} (h : n < 0x200000) : ∃ bs, Code n bs := by
  by_cases h1 : n < 0x80
  · exact ⟨_, .one h1⟩
  obtain ⟨m, d₃, hd₃, rfl⟩ := digit64 n
  by_cases h2 : m * 64 + d₃ < 0x800
  · exact ⟨_, .two m d₃ hd₃ rfl ((le_iff64 2 hd₃).1 (Nat.le_of_not_lt h1)) ((lt_iff64 32 hd₃).1 h2)⟩
  obtain ⟨m, d₂, hd₂, rfl⟩ := digit64 m
  by_cases h3 : (m * 64 + d₂) * 64 + d₃ < 0x10000
  · exact ⟨_, .three m d₂ d₃ hd₂ hd₃ rfl (Nat.le_of_not_lt h2)
      ((lt_iff64 16 hd₂).1 ((lt_iff64 (16 * 64) hd₃).1 h3))⟩
  obtain ⟨m, d₁, hd₁, rfl⟩ := digit64 m
  exact ⟨_, .four m d₁ d₂ d₃ hd₁ hd₂ hd₃ rfl (Nat.le_of_not_lt h3)
    ((lt_iff64 8 hd₁).1 ((lt_iff64 (8 * 64) hd₂).1 ((lt_iff64 (8 * 64 * 64) hd₃).1 h)))⟩

/-- a value has one code only, the one the encoder writes -/
theorem encodeCp_of_code {n : Nat} {bs : List Nat} (h : Code n bs) : Str.encodeCp n = bs := by
  unfold Str.encodeCp
  cases h with
  | one h => rw [if_pos h]
  | two a d h1 hn hlo hhi =>
    subst hn
    rw [if_neg (Nat.not_lt.2 ((le_iff64 2 h1).2 hlo)), if_pos ((lt_iff64 32 h1).2 hhi), div64 _ h1,
      mod64 _ h1]
  | three a d₁ d₂ h1 h2 hn hlo hhi =>
    subst hn
    rw [if_neg (Nat.not_lt.2 (Nat.le_trans (by decide) hlo)), if_neg (Nat.not_lt.2 hlo),
      if_pos ((lt_iff64 (16 * 64) h2).2 ((lt_iff64 16 h1).2 hhi)),
      div4096 _ h1 h2, div64 _ h2, mod64 _ h1, mod64 _ h2]
  | four a d₁ d₂ d₃ h1 h2 h3 hn hlo hhi =>
    subst hn
    rw [if_neg (Nat.not_lt.2 (Nat.le_trans (by decide) hlo)),
      if_neg (Nat.not_lt.2 (Nat.le_trans (by decide) hlo)), if_neg (Nat.not_lt.2 hlo),
      div262144 _ h1 h2 h3, div4096 _ h2 h3, div64 _ h3, mod64 _ h1, mod64 _ h2, mod64 _ h3]

theorem code_encodeCp {n : Nat} (h : n < 0x200000) : Code n (Str.encodeCp n) := by
  obtain ⟨bs, hc⟩ := exists_code h
  rwa [encodeCp_of_code hc]

theorem encodeChar_eq (c : Char) : encodeChar c = Str.encodeCp c.toNat := rfl

open Str (isScalar isScalar_iff)

theorem code_of_scalar {n : Nat} (h : isScalar n = true) : Code n (Str.encodeCp n) :=
  code_encodeCp (by rw [isScalar_iff] at h; omega)

theorem cont_digit {d : Nat} (h : d < 64) : 0x80 ≤ 0x80 + d ∧ 0x80 + d ≤ 0xBF :=
  ⟨Nat.le_add_right _ _, Nat.add_le_add_left (Nat.le_of_lt_succ h) _⟩

/-- Unicode Table 3-7 on digits: in a three-byte code of a scalar value the second byte after the
    lead `E0` avoids the overlong forms, after `ED` the surrogates. -/
theorem second3 {a d₁ d₂ : Nat} (h1 : d₁ < 64) (h2 : d₂ < 64) (hlo : 0x800 ≤ (a * 64 + d₁) * 64 + d₂)
    (hs : isScalar ((a * 64 + d₁) * 64 + d₂) = true) :
    (if a = 0 then 0xA0 else 0x80) ≤ 0x80 + d₁ ∧ 0x80 + d₁ ≤ if a = 13 then 0x9F else 0xBF := by
  rw [isScalar_iff] at hs
  constructor <;> split <;> omega

/-- in a four-byte code the second byte after `F0` avoids the overlong forms, after `F4` the
    values from `0x110000`; there is no lead byte above `F4`. -/
theorem second4 {a d₁ d₂ d₃ : Nat} (h1 : d₁ < 64) (h2 : d₂ < 64) (h3 : d₃ < 64)
    (hlo : 0x10000 ≤ ((a * 64 + d₁) * 64 + d₂) * 64 + d₃)
    (hs : isScalar (((a * 64 + d₁) * 64 + d₂) * 64 + d₃) = true) :
    a < 5 ∧ (if a = 0 then 0x90 else 0x80) ≤ 0x80 + d₁ ∧ 0x80 + d₁ ≤ if a = 4 then 0x8F else 0xBF := by
  rw [isScalar_iff] at hs
  refine ⟨by omega, ?_⟩
  constructor <;> split <;> omega

end Utf8
