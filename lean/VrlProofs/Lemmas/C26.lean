/-
  C26: the two case tables (`convField` = `convert_value`, `toValue` = `proto_to_value`) are inverse
  on shaped values, by recursion over the value (mutual over `Value`/`VList`/`VMap`).  What is
  shown of a field and its value is `FieldRT`; a shaped value has one of five forms (`Shape`), and
  the recursion goes by the form.
-/
import VrlProofs.Lemmas.ProtoScalar

namespace Proto

mutual
  /-- `proto_to_value` reads its context field only through `kind` and `isMap`: the encoder converts
      elements and map values against `Field.plain k`, the decoder hands them the list's own field. -/
  theorem toValue_ctx (pool : Pool) (f g : Field) (hk : g.kind = f.kind) (hm : g.isMap = f.isMap) :
      (pv : PValue) → toValue pool (some g) pv = toValue pool (some f) pv
    | .list xs => congrArg (Option.map Value.arr) (toValueList_ctx pool f g hk hm xs)
    | .map es => by
      simp only [toValue, hm, Field.entryValue, hk]
    | .enumNumber n => by
      obtain ⟨_, _, k, _⟩ := f
      obtain ⟨_, _, _, _⟩ := g
      cases hk
      cases k <;> rfl
    | .bool _ | .i32 _ | .i64 _ | .u32 _ | .u64 _ | .f32 _ | .f64 _ | .string _ | .bytes _
    | .message _ _ => rfl
  theorem toValueList_ctx (pool : Pool) (f g : Field) (hk : g.kind = f.kind) (hm : g.isMap = f.isMap) :
      (xs : PList) → toValueList pool (some g) xs = toValueList pool (some f) xs
    | .nil => rfl
    | .cons v vs => by
      simp only [toValueList, toValue_ctx pool f g hk hm v, toValueList_ctx pool f g hk hm vs]
end

/-- `singular`: one value without presence (`defectScalar` then also refuses `-0.0`); repeated and
    map fields, also without presence, give `false` -/
def isSing : Card → Bool
  | .singular => true
  | _ => false

def Card.single (c : Card) : Prop := c = .singular ∨ c = .optional

theorem single_of_ne {c : Card} (h1 : c = .repeated → False) (h2 : ∀ ks, c = .map ks → False) :
    c.single := by
  unfold Card.single
  cases c <;> simp_all

/-- the forms of a value without defect for a field (`shape_of_defect`) -/
inductive Shape (pool : Pool) : Field → Value → Prop
  | list {nm num k a} : defectList pool k a = none → Shape pool ⟨nm, num, k, .repeated⟩ (.arr a)
  | map {nm num k ks m} : defectEntries pool ks k m = none → Shape pool ⟨nm, num, k, .map ks⟩ (.obj m)
  | message {nm num r c md m} : c.single → pool.msg r = some md →
      defectMap pool md.fields m = none → Shape pool ⟨nm, num, .message r, c⟩ (.obj m)
  | enum {nm num e c ed b} : c.single → pool.enum e = some ed →
      ed.hasName b = true → Shape pool ⟨nm, num, .enum e, c⟩ (.bytes b)
  | scalar {nm num s c x} : c.single → defectScalar (isSing c) s x = none →
      Shape pool ⟨nm, num, .scalar s, c⟩ x

theorem shape_of_defect {pool : Pool} {f : Field} {x : Value} (h : defect pool f x = none) :
    Shape pool f x := by
  revert h
  fun_cases defect pool f x
  case case2 => exact .list  -- repeated field, an array
  case case5 => exact .map  -- map field, an object
  case case7 hrep hmap _ hmd =>  -- message kind, an object, the pool has the message
    exact .message (single_of_ne hrep hmap) hmd
  case case10 hrep hmap _ he hn =>  -- enum kind, bytes that name a value of the enum
    exact fun _ => .enum (single_of_ne hrep hmap) he hn
  case case14 => exact .scalar (Or.inl rfl)  -- scalar kind, `singular`
  case case15 c hrep hmap hsing _ _ _ _ =>  -- scalar kind, the last row of `defect`
    -- not repeated, not a map, not singular: the card is `optional`
    cases (single_of_ne hrep hmap).resolve_left hsing
    exact .scalar (Or.inr rfl)
  all_goals exact nofun  -- the rows that report a defect

theorem defect_of_shaped {pool : Pool} {r : Nat} {v : Value} (h : Shaped pool r v = true) :
    defect pool (Field.plain (.message r)) v = none :=
  Option.isNone_iff_eq_none.mp h

theorem first_defect_none {o r : Option Defect} :
    (match o with | some d => some d | none => r) = none ↔ o = none ∧ r = none := by
  cases o with
  | some d => exact ⟨nofun, fun h => nomatch h.1⟩
  | none => exact ⟨fun h => ⟨rfl, h⟩, fun h => h.2⟩

theorem defectList_cons {pool : Pool} {k : Kind} {x : Value} {xs : VList} :
    defectList pool k (.cons x xs) = none ↔
      defect pool (Field.plain k) x = none ∧ defectList pool k xs = none :=
  first_defect_none (o := defect pool (Field.plain k) x) (r := defectList pool k xs)

theorem defectEntries_cons {pool : Pool} {ks : Scalar} {vk : Kind} {k : List Nat} {x : Value} {rest : VMap} :
    defectEntries pool ks vk (.cons k x rest) = none ↔
      canonicalKey ks k = true ∧ defect pool (Field.plain vk) x = none ∧
        defectEntries pool ks vk rest = none := by
  by_cases hk : canonicalKey ks k = true
  · simp only [defectEntries, hk, if_true, true_and]; exact first_defect_none
  · simp only [defectEntries, hk]; exact ⟨nofun, nofun⟩

theorem defectMap_cons {pool : Pool} {fields : List Field} {k : List Nat} {x : Value} {rest : VMap} :
    defectMap pool fields (.cons k x rest) = none ↔
      ∃ f, findField fields k = some f ∧ defect pool f x = none ∧ defectMap pool fields rest = none := by
  cases hf : findField fields k with
  | none => simp only [defectMap, hf]; exact ⟨nofun, fun ⟨_, h, _⟩ => nomatch h⟩
  | some f =>
    simp only [defectMap, hf]
    exact first_defect_none.trans ⟨fun h => ⟨f, rfl, h⟩, fun ⟨_, e, h⟩ => Option.some.inj e ▸ h⟩

theorem defectMap_keys (pool : Pool) (fields : List Field) : (m : VMap) → defectMap pool fields m = none →
    ∀ k x, m.get k = some x → ∃ f, findField fields k = some f
  | .nil, _, _, _, h => nomatch h
  | .cons l y rest, hd, k, x, h => by
    obtain ⟨f, hf, _, hrest⟩ := defectMap_cons.mp hd
    by_cases hk : l = k
    · exact ⟨f, hk ▸ hf⟩
    · have h : (if l = k then some y else rest.get k) = some x := h
      rw [if_neg hk] at h
      exact defectMap_keys pool fields rest hrest k x h

theorem canonicalKey_spec {ks : Scalar} {k : List Nat} (h : canonicalKey ks k = true) :
    ∃ mk, parseMapKey ks k = some mk ∧ showMapKey mk = k := by
  unfold canonicalKey at h
  cases hp : parseMapKey ks k with
  | none => rw [hp] at h; cases h
  | some mk => rw [hp] at h; exact ⟨mk, rfl, beq_iff_eq.mp h⟩

section single
variable {P : Prims} {lossy : Bool} {pool : Pool} {nm : List Nat} {num : Nat} {c : Card}

theorem fieldRT_single {k : Kind} {x : Value} {pv : PValue} (hc : c.single)
    (hv : validKind pv k = true)
    (hdef : c = .singular →
      isDefault pool ⟨nm, num, k, .singular⟩ pv = isDefaultValue pool ⟨nm, num, k, .singular⟩ x)
    (htv : ∀ mode, toValue pool (some ⟨nm, num, k, c⟩) (normOpt pool mode pv) =
      some (dropDefaults pool ⟨nm, num, k, c⟩ x)) :
    FieldRT pool ⟨nm, num, k, c⟩ (some x) (some pv) := by
  refine ⟨pv, rfl, ?_, ?_, ?_, htv⟩
  · rcases hc with rfl | rfl <;> cases pv <;> exact hv
  · rcases hc with rfl | rfl <;> exact nofun
  · rcases hc with rfl | rfl
    · show (false || !isDefault pool _ pv) = _
      rw [hdef rfl]; rfl
    · rfl

theorem convField_scalar {s : Scalar} (hc : c.single) (x : Value) :
    convField P lossy pool ⟨nm, num, .scalar s, c⟩ x = convScalar P lossy x s := by
  rcases hc with rfl | rfl <;> cases x <;> rfl

theorem dropDefaults_scalar {s : Scalar} (hc : c.single) (x : Value) :
    dropDefaults pool ⟨nm, num, .scalar s, c⟩ x = x := by
  rcases hc with rfl | rfl <;> cases x <;> rfl

theorem dropDefaults_message {r : Nat} {md : MsgDesc} (hc : c.single)
    (hmd : pool.msg r = some md) (m : VMap) :
    dropDefaults pool ⟨nm, num, .message r, c⟩ (.obj m) = .obj (ddMap pool md.fields m) := by
  rcases hc with rfl | rfl <;> simp only [dropDefaults, hmd]

theorem defect_message {r : Nat} {md : MsgDesc} (hc : c.single)
    (hmd : pool.msg r = some md) (m : VMap) :
    defect pool ⟨nm, num, .message r, c⟩ (.obj m) = defectMap pool md.fields m := by
  rcases hc with rfl | rfl <;> simp only [defect, hmd]

theorem rt_scalar_field {s : Scalar} {x : Value} (hc : c.single)
    (hd : defectScalar (isSing c) s x = none) :
    FieldRT pool ⟨nm, num, .scalar s, c⟩ (some x) (convField P lossy pool ⟨nm, num, .scalar s, c⟩ x) := by
  obtain ⟨pv, h1, h2, h3, h4⟩ := rt_scalar P lossy pool (isSing c) s x hd
  rw [convField_scalar hc, h1]
  refine fieldRT_single hc h2 (fun e => h4 (by rw [e]; rfl) nm num) fun mode => ?_
  rw [normOpt_of_scalar pool mode pv s h2, dropDefaults_scalar hc]
  exact h3 _

theorem rt_enum_field (hok : pool.Ok = true) {e : Nat} {ed : EnumDesc} {b : List Nat}
    (hc : c.single) (he : pool.enum e = some ed) (hn : ed.hasName b = true) :
    FieldRT pool ⟨nm, num, .enum e, c⟩ (some (.bytes b))
      (convField P lossy pool ⟨nm, num, .enum e, c⟩ (.bytes b)) := by
  have hedok := enum_ok_of_pool hok he
  obtain ⟨n, hm⟩ := EnumDesc.mem_of_hasName hn
  have hconv : convField P lossy pool ⟨nm, num, .enum e, c⟩ (.bytes b) = some (.enumNumber n) := by
    rcases hc with rfl | rfl <;>
      simp only [convField, he, EnumDesc.lossy_name hedok hm, EnumDesc.byNameCI_of_mem hedok hm,
        Option.map_some]
  rw [hconv]
  refine fieldRT_single hc rfl (fun _ => ?_) fun mode => ?_
  · show (match pool.enum e with | some ed => n == ed.dflt | none => false) =
      match pool.enum e with | some ed => ed.values.contains (b, ed.dflt) | none => false
    rw [he]; exact (EnumDesc.contains_dflt hedok hm).symm
  · rw [normOpt_enumNumber]
    rcases hc with rfl | rfl <;>
      simp only [toValue, dropDefaults, he, EnumDesc.byNumber_of_mem hedok hm, Option.map_some]

end single

/-- `hl` is the conclusion of `rt_lookup`: the recursion below proves it and hands it in. -/
theorem rt_message {P : Prims} {lossy : Bool} {pool : Pool} (hok : pool.Ok = true) {r : Nat} {md : MsgDesc} {m : VMap}
    (hmd : pool.msg r = some md) (hs : m.Sorted = true) (hd : defectMap pool md.fields m = none)
    (hl : ∀ f, findField md.fields f.name = some f →
      ∃ o, convLookup P lossy pool m f = some o ∧ FieldRT pool f (m.get f.name) o) :
    ∃ fs, encodeFields (fun f => convLookup P lossy pool m f) md.fields .nil = some fs ∧
      ∀ mode ctx, toValue pool ctx (normOpt pool mode (.message r fs)) =
        some (.obj (ddMap pool md.fields m)) := by
  have hmdok := msg_ok_of_pool hok hmd
  simp only [MsgDesc.Ok, Bool.and_eq_true] at hmdok
  obtain ⟨fs, h1, h2⟩ := message_roundtrip pool md.fields m (fun f => convLookup P lossy pool m f)
    hmdok.1 hmdok.2 (VMap.sortedKeys_of_sorted m hs) (defectMap_keys pool md.fields m hd)
    (fun f hf => hl f (findField_of_mem md.fields f hmdok.1 hf))
  refine ⟨fs, h1, fun mode ctx => ?_⟩
  simp only [normOpt_message hmd, toValue, hmd, h2 mode, Option.map_some]

theorem validFor_plain (k : Kind) (pv : PValue) : validFor (Field.plain k) pv = validKind pv k := by
  cases pv <;> rfl

theorem parseMapKey_valid {ks : Scalar} {k : List Nat} {mk : MapKey} (h : parseMapKey ks k = some mk) :
    validMapKey mk ks = true := by
  revert h
  -- the branches of `parseMapKey`: 1 string, 2-4 bool, 5-8 an integer by carrier, 9 no key kind
  fun_cases parseMapKey ks k
  case case1 hc | case2 hc _ | case3 hc _ _ => rintro ⟨⟩; exact carrier_beq hc
  case case5 hc | case6 hc | case7 hc | case8 hc =>
    intro h
    obtain ⟨i, _, rfl⟩ := Option.map_eq_some_iff.mp h
    exact carrier_beq hc
  all_goals exact nofun

mutual
  theorem rt_field (P : Prims) (lossy : Bool) (pool : Pool) (hok : pool.Ok = true) (f : Field) (x : Value)
      (hs : x.Sorted = true) (hd : defect pool f x = none) :
      FieldRT pool f (some x) (convField P lossy pool f x) := by
    cases shape_of_defect hd with
    | scalar hc hsc => exact rt_scalar_field hc hsc
    | enum hc he hn => exact rt_enum_field hok hc he hn
    | @list nm num k a hl =>
      obtain ⟨xs, h1, h2, h3, h4⟩ := rt_list P lossy pool hok k a hs hl
      refine ⟨.list xs, ?_, h2, fun _ => ⟨xs, rfl⟩, ?_, fun mode => ?_⟩
      · show (convList P lossy pool a k).map PValue.list = _
        rw [h1]; rfl
      · show (!xs.isEmpty) = _
        rw [h3]; cases a <;> rfl
      · rw [normOpt_list]
        show (toValueList pool _ (normListOpt pool mode xs)).map Value.arr = _
        rw [h4 mode _ rfl rfl]; rfl
    | @map nm num k ks m he =>
      obtain ⟨es, h1, h2, h3, _, h5⟩ := rt_entries P lossy pool hok ks k m hs he
      refine ⟨.map es, ?_, h2, (fun h => nomatch h), ?_, fun mode => ?_⟩
      · show (convEntries P lossy pool m ks k).map PValue.map = _
        rw [h1]; rfl
      · show (!es.isEmpty) = _
        rw [h3]; cases m <;> rfl
      · rw [normOpt_map]
        show (toValueEntries pool (Field.entryValue _) (normMapOpt pool mode es)).map Value.obj = _
        rw [h5 mode _ rfl rfl]; rfl
    | @message nm num r c md m hc hmd hm =>
      obtain ⟨fs, h1, h2⟩ := rt_message hok hmd hs hm (rt_lookup P lossy pool hok md.fields m hs hm)
      have hconv : convField P lossy pool ⟨nm, num, .message r, c⟩ (.obj m) = some (.message r fs) := by
        rcases hc with rfl | rfl <;> simp only [convField, hmd, h1, Option.map_some]
      rw [hconv]
      refine fieldRT_single hc rfl (fun _ => rfl) fun mode => ?_
      rw [dropDefaults_message hc hmd]
      exact h2 mode _
  /-- `isEmpty` is kept because it is the default test of the repeated field; `g` is any field of
      that kind because the decoder runs under the list's own field (`toValue_ctx`) -/
  theorem rt_list (P : Prims) (lossy : Bool) (pool : Pool) (hok : pool.Ok = true) :
      (k : Kind) → (a : VList) → a.Sorted = true → defectList pool k a = none →
      ∃ xs, convList P lossy pool a k = some xs ∧ xs.allValid k = true ∧ xs.isEmpty = a.isEmpty ∧
        ∀ (mode : Option Bool) (g : Field), g.kind = k → g.isMap = false →
          toValueList pool (some g) (normListOpt pool mode xs) = some (ddList pool k a)
    | k, .nil, _, _ => ⟨.nil, rfl, rfl, rfl, fun mode _ _ _ => by cases mode <;> rfl⟩
    | k, .cons x xs, hs, hd => by
      have hs := VList.sorted_cons.mp hs
      obtain ⟨hdx, hd⟩ := defectList_cons.mp hd
      obtain ⟨pv, h1, h2, _, _, h4⟩ := rt_field P lossy pool hok (Field.plain k) x hs.1 hdx
      obtain ⟨pvs, g1, g2, _, g4⟩ := rt_list P lossy pool hok k xs hs.2 hd
      refine ⟨.cons pv pvs, ?_, ?_, rfl, fun mode g hk hm => ?_⟩
      · simp only [convList, h1, g1]
      · show (validKind pv k && pvs.allValid k) = true
        rw [← validFor_plain, h2, g2]; rfl
      · simp only [normListOpt_cons, toValueList, toValue_ctx pool (Field.plain k) g hk hm, h4 mode,
          g4 mode g hk hm, ddList]
  /-- the clause on `es.has` (every key of the result prints to a key of `m`) shows, one entry
      further out, that the map key of that entry is new -/
  theorem rt_entries (P : Prims) (lossy : Bool) (pool : Pool) (hok : pool.Ok = true) :
      (ks : Scalar) → (vk : Kind) → (m : VMap) → m.Sorted = true → defectEntries pool ks vk m = none →
      ∃ es, convEntries P lossy pool m ks vk = some es ∧ es.allValid ks vk = true ∧
        es.isEmpty = m.isEmpty ∧
        (∀ mk, es.has mk = true → (m.get (showMapKey mk)).isSome = true) ∧
        ∀ (mode : Option Bool) (vf : Field), vf.kind = vk → vf.isMap = false →
          toValueEntries pool vf (normMapOpt pool mode es) = some (ddEntries pool vk m)
    | ks, vk, .nil, _, _ =>
      ⟨.nil, rfl, rfl, rfl, (fun _ h => nomatch h), fun mode _ _ _ => by cases mode <;> rfl⟩
    | ks, vk, .cons k x rest, hs, hd => by
      obtain ⟨hsx, hgt, hsr⟩ := VMap.sorted_cons.mp hs
      obtain ⟨hcan, hdx, hd⟩ := defectEntries_cons.mp hd
      obtain ⟨mk, hparse, hshow⟩ := canonicalKey_spec hcan
      obtain ⟨pv, h1, h2, _, _, h4⟩ := rt_field P lossy pool hok (Field.plain vk) x hsx hdx
      obtain ⟨es, e1, e2, _, e4, e5⟩ := rt_entries P lossy pool hok ks vk rest hsr hd
      -- the keys after `k` are greater, so the entry for `k` is new
      have hnew : es.has mk = false := by
        cases hh : es.has mk with
        | false => rfl
        | true =>
          have := e4 mk hh
          rw [hshow, VMap.get_none_of_allGt rest k hgt] at this
          cases this
      refine ⟨.cons mk pv es, ?_, ?_, rfl, fun mk' h => ?_, fun mode vf hk hm => ?_⟩
      · simp only [convEntries, hparse, h1, e1, PMap.setNew, hnew, Bool.false_eq_true, if_false]
      · show (validMapKey mk ks && validKind pv vk && es.allValid ks vk) = true
        rw [parseMapKey_valid hparse, ← validFor_plain, h2, e2]; rfl
      · have h : (mk == mk' || es.has mk') = true := h
        show (if k = showMapKey mk' then some x else rest.get (showMapKey mk')).isSome = true
        rcases Bool.or_eq_true _ _ ▸ h with h | h
        · rw [← beq_iff_eq.mp h, hshow, if_pos rfl]; rfl
        · split
          · rfl
          · exact e4 mk' h
      · have hag := allGt_ddEntries pool vk rest k hgt
        simp only [normMapOpt_cons, toValueEntries, toValue_ctx pool (Field.plain vk) vf hk hm, h4 mode,
          e5 mode vf hk hm, hshow, insertNew, VMap.get_none_of_allGt _ k hag,
          VMap.insert_of_allGt _ k _ hag, ddEntries, Option.isSome_none, Bool.false_eq_true, if_false]
  theorem rt_lookup (P : Prims) (lossy : Bool) (pool : Pool) (hok : pool.Ok = true) :
      (fields : List Field) → (m : VMap) → m.Sorted = true → defectMap pool fields m = none →
      ∀ f, findField fields f.name = some f →
        ∃ o, convLookup P lossy pool m f = some o ∧ FieldRT pool f (m.get f.name) o
    | fields, .nil, _, _, f, _ => ⟨none, rfl, rfl⟩
    | fields, .cons k x rest, hs, hd, f, hf => by
      obtain ⟨hsx, hgt, hsr⟩ := VMap.sorted_cons.mp hs
      obtain ⟨f', hfk, hdx, hd⟩ := defectMap_cons.mp hd
      show ∃ o, (if k = f.name then nullOr x (convField P lossy pool f x) else convLookup P lossy pool rest f) = some o ∧
        FieldRT pool f (if k = f.name then some x else rest.get f.name) o
      by_cases hk : k = f.name
      · subst hk
        cases hf.symm.trans hfk
        rw [if_pos rfl, if_pos rfl]
        obtain ⟨pv, h1, hrt⟩ := rt_field P lossy pool hok f x hsx hdx
        refine ⟨some pv, ?_, pv, rfl, hrt⟩
        rw [h1]
        cases x <;> first | rfl | cases hdx
      · rw [if_neg hk, if_neg hk]
        exact rt_lookup P lossy pool hok fields rest hsr hd f hf
end

end Proto
