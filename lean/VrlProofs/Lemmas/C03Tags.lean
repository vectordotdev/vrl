/-
  C03: what a successful slot combinator (`un`, `un1`, …, `bin1`) says of the slots, and the kind tag
  of what each modelled function returns (`f … = .ok r → tagOf r = t`), for the functions whose
  declared kind is one primitive state.
-/
import VrlProofs.Lemmas.C03
import VrlProofs.Props.C29float

namespace C03
open Str (R)

/-- close `h : … = .ok r ⊢ tagOf r = t` when `h` is an equation between constructors -/
macro "ok_tag" h:ident : tactic =>
  `(tactic| first | (cases $h:ident; done) | (cases $h:ident; rfl))

theorem un_ok {f : Value → R Value} {vs : Slots} {r : Value} (h : un f vs = .ok r) :
    ∃ v, vs = [some v] ∧ f v = .ok r := by
  unfold un at h
  split at h
  · exact ⟨_, rfl, h⟩
  · cases h

theorem un1_ok {f : Value → Option Value → R Value} {vs : Slots} {r : Value} (h : un1 f vs = .ok r) :
    ∃ v o, vs = [some v, o] ∧ f v o = .ok r := by
  unfold un1 at h
  split at h
  · exact ⟨_, _, rfl, h⟩
  · cases h

theorem un2_ok {f : Value → Option Value → Option Value → R Value} {vs : Slots} {r : Value}
    (h : un2 f vs = .ok r) : ∃ v o1 o2, vs = [some v, o1, o2] ∧ f v o1 o2 = .ok r := by
  unfold un2 at h
  split at h
  · exact ⟨_, _, _, rfl, h⟩
  · cases h

theorem un6_ok {f : Value → Option Value → Option Value → Option Value → Option Value → Option Value →
    Option Value → R Value} {vs : Slots} {r : Value} (h : un6 f vs = .ok r) :
    ∃ v o1 o2 o3 o4 o5 o6, vs = [some v, o1, o2, o3, o4, o5, o6] ∧ f v o1 o2 o3 o4 o5 o6 = .ok r := by
  unfold un6 at h
  split at h
  · exact ⟨_, _, _, _, _, _, _, rfl, h⟩
  · cases h

theorem bin_ok {f : Value → Value → R Value} {vs : Slots} {r : Value} (h : bin f vs = .ok r) :
    ∃ a b, vs = [some a, some b] ∧ f a b = .ok r := by
  unfold bin at h
  split at h
  · exact ⟨_, _, rfl, h⟩
  · cases h

theorem bin1_ok {f : Value → Value → Option Value → R Value} {vs : Slots} {r : Value}
    (h : bin1 f vs = .ok r) : ∃ a b o, vs = [some a, some b, o] ∧ f a b o = .ok r := by
  unfold bin1 at h
  split at h
  · exact ⟨_, _, _, rfl, h⟩
  · cases h

theorem assertV_ok {t : Tag} {v r : Value} (h : assertV t v = .ok r) : r = v ∧ tagOf v = t := by
  unfold assertV at h
  split at h
  · cases h; exact ⟨rfl, by assumption⟩
  · cases h

theorem boolR_tag {b : Bool} {r : Value} (h : boolR b = .ok r) : tagOf r = .boolean := by
  unfold boolR at h; cases h; rfl

theorem isEmptyV_tag {v r : Value} (h : isEmptyV v = .ok r) : tagOf r = .boolean := by
  cases v <;> ok_tag h

theorem length_tag {v r : Value} (h : Coll.length v = .ok r) : tagOf r = .integer := by
  cases v <;> ok_tag h

theorem strlen_tag {v r : Value} (h : Str.strlen v = .ok r) : tagOf r = .integer := by
  cases v <;> ok_tag h

theorem ofRes_ok {x : Conv.Res Value} {r : Value} (h : ofRes x = .ok r) : x = .ok r := by
  cases x <;> simp [ofRes] at h; subst h; rfl

theorem map_bytes_tag {x : Conv.Res (List Nat)} {r : Value} (h : x.map Value.bytes = .ok r) :
    tagOf r = .bytes := by
  cases x <;> simp [Conv.Res.map] at h; subst h; rfl

theorem map_int_tag {x : Conv.Res Int} {r : Value} (h : x.map Value.int = .ok r) :
    tagOf r = .integer := by
  cases x <;> simp [Conv.Res.map] at h; subst h; rfl

theorem toInt_tag {v r : Value} (h : ofRes (Conv.Num.toInt v) = .ok r) : tagOf r = .integer := by
  have h := ofRes_ok h
  cases v
  case bytes => exact map_int_tag h
  all_goals ok_tag h

theorem toFloat_tag {p : List Nat → Option Nat} {v r : Value} (h : Round.toFloat p v = .ok r) :
    tagOf r = .float := by
  obtain ⟨f, rfl, -⟩ := C29f.toFloat_ok p v r h
  rfl

theorem parseFloat_tag {p : List Nat → Option Nat} {v r : Value} (h : Round.parseFloat p v = .ok r) :
    tagOf r = .float := by
  cases v
  case bytes b => exact toFloat_tag (v := .bytes b) h
  all_goals cases h

theorem toBool_tag {v r : Value} (h : toBool v = .ok r) : tagOf r = .boolean := by
  revert h
  fun_cases toBool v <;> intro h <;> ok_tag h

theorem toStringV_tag {E : Env} {v r : Value} (h : toStringV E v = .ok r) : tagOf r = .bytes := by
  revert h
  fun_cases toStringV E v <;> intro h <;> ok_tag h

theorem upcaseV_tag {cm : Str.CaseMap} {v r : Value} (h : Str.upcaseV cm v = .ok r) : tagOf r = .bytes := by
  cases v <;> ok_tag h

theorem downcaseV_tag {cm : Str.CaseMap} {v r : Value} (h : Str.downcaseV cm v = .ok r) :
    tagOf r = .bytes := by
  cases v <;> ok_tag h

theorem stripWhitespace_tag {v r : Value} (h : Str.stripWhitespace v = .ok r) : tagOf r = .bytes := by
  cases v <;> ok_tag h

theorem startsWith_tag {cm : Str.CaseMap} {v s : Value} {cs : Option Value} {r : Value}
    (h : Str.startsWith cm v s cs = .ok r) : tagOf r = .boolean := by
  revert h
  fun_cases Str.startsWith cm v s cs <;> intro h <;> ok_tag h

theorem endsWith_tag {cm : Str.CaseMap} {v s : Value} {cs : Option Value} {r : Value}
    (h : Str.endsWith cm v s cs = .ok r) : tagOf r = .boolean := by
  revert h
  fun_cases Str.endsWith cm v s cs <;> intro h <;> ok_tag h

theorem contains_tag {cm : Str.CaseMap} {v s : Value} {cs : Option Value} {r : Value}
    (h : Str.contains cm v s cs = .ok r) : tagOf r = .boolean := by
  revert h
  fun_cases Str.contains cm v s cs <;> intro h <;> ok_tag h

theorem truncate_tag {v l : Value} {s : Option Value} {r : Value}
    (h : Str.truncate v l s = .ok r) : tagOf r = .bytes := by
  revert h
  fun_cases Str.truncate v l s <;> intro h <;> ok_tag h

theorem join_tag {v : Value} {s : Option Value} {r : Value} (h : Str.join v s = .ok r) :
    tagOf r = .bytes := by
  revert h
  fun_cases Str.join v s <;> intro h <;> ok_tag h

theorem formatInt_tag {v b r : Value} (h : ofRes (Conv.formatInt v b) = .ok r) : tagOf r = .bytes := by
  have h := ofRes_ok h
  revert h
  fun_cases Conv.formatInt v b <;> intro h <;> first | exact map_bytes_tag h | cases h

theorem parseInt_tag {v : Value} {b : Option Value} {r : Value}
    (h : ofRes (Conv.parseInt v b) = .ok r) : tagOf r = .integer := by
  have h := ofRes_ok h
  revert h
  fun_cases Conv.parseInt v b <;> intro h <;> first | exact map_int_tag h | cases h

theorem ofOpt_tag {x : Option (List Nat)} {r : Value} (h : ofOpt x = .ok r) : tagOf r = .bytes := by
  cases x <;> simp [ofOpt] at h; subst h; rfl

theorem encodeBase64V_tag {v : Value} {p c : Option Value} {r : Value}
    (h : encodeBase64V v p c = .ok r) : tagOf r = .bytes := by
  revert h
  fun_cases encodeBase64V v p c <;> intro h <;> first | exact ofOpt_tag h | cases h

theorem decodeBase64V_tag {v : Value} {c : Option Value} {r : Value}
    (h : decodeBase64V v c = .ok r) : tagOf r = .bytes := by
  revert h
  fun_cases decodeBase64V v c <;> intro h <;> ok_tag h

theorem encodeBase16V_tag {v r : Value} (h : encodeBase16V v = .ok r) : tagOf r = .bytes := by
  cases v <;> ok_tag h

theorem decodeBase16V_tag {v r : Value} (h : decodeBase16V v = .ok r) : tagOf r = .bytes := by
  cases v
  case bytes => exact ofOpt_tag h
  all_goals cases h

theorem encodeJsonV_tag {E : Env} {v : Value} {p : Option Value} {r : Value}
    (h : encodeJsonV E v p = .ok r) : tagOf r = .bytes := by
  revert h
  fun_cases encodeJsonV E v p <;> intro h <;> ok_tag h

end C03
