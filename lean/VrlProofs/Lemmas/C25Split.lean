/-
  flatten / unflatten (C25): `split_once` / `split` on joined keys.
-/
import VrlModel.C25

namespace Conv

theorem isPrefix_iff (s l : List Nat) : isPrefix s l = true ↔ s <+: l := by
  rw [← List.isPrefixOf_iff_prefix]
  fun_induction isPrefix s l with
  | case1 => simp
  | case2 => simp
  | case3 a as b bs ih => rw [List.isPrefixOf_cons_cons, Bool.and_eq_true, Bool.and_eq_true, ih]

theorem isPrefix_append_of_le (s a x : List Nat) (h : s.length ≤ a.length) :
    isPrefix s (a ++ x) = isPrefix s a := by
  rw [Bool.eq_iff_iff, isPrefix_iff, isPrefix_iff]
  exact ⟨fun h1 => List.prefix_of_prefix_length_le h1 (List.prefix_append a x) h, List.prefix_append_of_prefix⟩

theorem isPrefix_self_append (s x : List Nat) : isPrefix s (s ++ x) = true :=
  (isPrefix_iff _ _).mpr (List.prefix_append s x)

theorem isPrefix_append (s a x : List Nat) (h : isPrefix s a = true) : isPrefix s (a ++ x) = true :=
  (isPrefix_iff _ _).mpr (List.prefix_append_of_prefix ((isPrefix_iff _ _).mp h))

namespace Flat

theorem splitOnce_cons (sep : Key) (c : Nat) (cs : Key) :
    splitOnce sep (c :: cs) =
      if isPrefix sep (c :: cs) then some ([], (c :: cs).drop sep.length)
      else (splitOnce sep cs).map fun p => (c :: p.1, p.2) := rfl

theorem splitOnce_sep_append (sep x : Key) : splitOnce sep (sep ++ x) = some ([], x) := by
  cases hs : sep ++ x with
  | nil =>
    have h1 : sep = [] := by cases sep <;> simp_all
    have h2 : x = [] := by cases sep <;> simp_all
    subst h1; subst h2; rfl
  | cons c cs =>
    rw [splitOnce_cons, ← hs, isPrefix_self_append]
    simp

theorem isPrefix_drop (s l : Key) (h : isPrefix s l = true) : l = s ++ l.drop s.length :=
  (List.prefix_iff_eq_append.mp ((isPrefix_iff s l).mp h)).symm

theorem splitOnce_eq (sep key h r : Key) (hs : splitOnce sep key = some (h, r)) : key = h ++ sep ++ r := by
  revert h r
  fun_induction splitOnce sep key with
  | case1 hsep => intro h r hs; cases hs; simp_all -- empty key, empty separator
  | case2 => intro h r hs; cases hs -- empty key, non-empty separator
  | case3 c cs hp => -- the separator starts the key
    intro h r hs; cases hs; simpa using isPrefix_drop sep (c :: cs) hp
  | case4 c cs hp ih => -- it does not: split the tail
    intro h r hs
    cases hso : splitOnce sep cs with
    | none => simp [hso] at hs
    | some p =>
      simp only [hso, Option.map_some, Option.some.injEq, Prod.mk.injEq] at hs
      rw [← hs.1, ← hs.2]
      simp [ih p.1 p.2 hso]

theorem sepFree_cons (sep : Key) (c : Nat) (cs : Key) (h : C25.sepFree sep (c :: cs) = true) :
    isPrefix sep (c :: (cs ++ sep)) = false ∧ C25.sepFree sep cs = true := by
  simp only [C25.sepFree, beq_iff_eq, List.cons_append] at h ⊢
  rw [splitOnce_cons] at h
  split at h
  · simp at h
  · rename_i hp
    cases hso : splitOnce sep (cs ++ sep) with
    | none => simp [hso] at h
    | some p =>
      simp only [hso, Option.map_some, Option.some.injEq, Prod.mk.injEq, List.cons.injEq,
        true_and] at h
      exact ⟨by simpa using hp, by rw [← h.1, ← h.2]⟩

theorem splitOnce_join : (sep k x : Key) → C25.sepFree sep k = true →
    splitOnce sep (k ++ sep ++ x) = some (k, x)
  | sep, [], x, _ => by simpa using splitOnce_sep_append sep x
  | sep, c :: cs, x, h => by
    obtain ⟨hp, hfree⟩ := sepFree_cons sep c cs h
    have ih := splitOnce_join sep cs x hfree
    -- whether the separator starts at `c` is decided within `c :: cs ++ sep`
    have hp' := isPrefix_append_of_le sep (c :: (cs ++ sep)) x (by simp; omega)
    simp only [List.cons_append, List.append_assoc] at ih hp' ⊢
    rw [splitOnce_cons, hp', hp]
    simp [ih]

theorem splitOnce_free : (sep k : Key) → sep ≠ [] → C25.sepFree sep k = true → splitOnce sep k = none
  | sep, [], hne, _ => by
    cases sep with
    | nil => exact absurd rfl hne
    | cons _ _ => rfl
  | sep, c :: cs, hne, h => by
    obtain ⟨hp, hfree⟩ := sepFree_cons sep c cs h
    have hp' : isPrefix sep (c :: cs) = false := by
      cases hq : isPrefix sep (c :: cs) with
      | false => rfl
      | true => rw [← hp]; exact (isPrefix_append sep (c :: cs) sep hq).symm
    rw [splitOnce_cons, hp', splitOnce_free sep cs hne hfree]
    rfl

theorem headRest_join (sep k x : Key) (h : C25.sepFree sep k = true) :
    headRest sep (k ++ sep ++ x) = (k, some x) := by
  have := splitOnce_join sep k x h
  simp only [headRest, this]

theorem headRest_free (sep k : Key) (hne : sep ≠ []) (h : C25.sepFree sep k = true) :
    headRest sep k = (k, none) := by
  simp [headRest, splitOnce_free sep k hne h]

theorem splitOnce_rest_lt (sep key h r : Key) (hne : sep ≠ []) (hs : splitOnce sep key = some (h, r)) :
    r.length < key.length := by
  have hsl : 0 < sep.length := List.length_pos_iff.mpr hne
  rw [splitOnce_eq sep key h r hs]
  simp only [List.length_append]
  omega

theorem splitAllF_fuel (sep : Key) (hne : sep ≠ []) : ∀ (f1 f2 : Nat) (key : Key),
    key.length < f1 → key.length < f2 → splitAllF sep f1 key = splitAllF sep f2 key
  | 0, _, _, h, _ => by omega
  | _, 0, _, _, h => by omega
  | f1 + 1, f2 + 1, key, h1, h2 => by
    simp only [splitAllF]
    cases hso : splitOnce sep key with
    | none => rfl
    | some p =>
      have hlen := splitOnce_rest_lt sep key p.1 p.2 hne hso
      simp only [List.cons.injEq, true_and]
      exact splitAllF_fuel sep hne f1 f2 p.2 (by omega) (by omega)

theorem splitAll_of_split (sep key h r : Key) (hne : sep ≠ []) (hs : splitOnce sep key = some (h, r)) :
    splitAll sep key = h :: splitAll sep r := by
  have hlen := splitOnce_rest_lt sep key h r hne hs
  have he : sep.isEmpty = false := by cases sep <;> simp_all
  simp only [splitAll, he, Bool.false_eq_true, ↓reduceIte]
  rw [splitAllF, hs]
  simp only [List.cons.injEq, true_and]
  exact splitAllF_fuel sep hne _ _ r hlen (by omega)

theorem splitAll_of_none (sep key : Key) (hne : sep ≠ []) (hs : splitOnce sep key = none) :
    splitAll sep key = [key] := by
  have he : sep.isEmpty = false := by cases sep <;> simp_all
  simp [splitAll, he, splitAllF, hs]

end Flat
end Conv
