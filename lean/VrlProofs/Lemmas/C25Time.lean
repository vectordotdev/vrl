/- Unix timestamps (C25): the range predicates as linear facts. -/
import VrlModel.Conv.Time

namespace Conv.Time

/-- `tsMin` and `tsMax` written out, the form in which `omega` can use them -/
theorem tsInRange_iff (t : Int) :
    tsInRange t = true ↔ -8334601228800000000000 ≤ t ∧ t ≤ 8210266876799999999999 := by
  unfold tsInRange tsMin tsMax minSecs maxSecs
  rw [Bool.and_eq_true, decide_eq_true_iff, decide_eq_true_iff]
  constructor <;> intro h <;> omega

theorem fromUnix_of_inRange (u : TUnit) (n : Int) (hu : u ≠ .nanoseconds)
    (h : tsInRange (n * u.ns) = true) : fromUnix u (.int n) = .ok (.ts (n * u.ns)) := by
  cases u <;> simp_all [fromUnix]

theorem fromUnix_of_not_inRange (u : TUnit) (n : Int) (hu : u ≠ .nanoseconds)
    (h : ¬ tsInRange (n * u.ns) = true) : fromUnix u (.int n) = .err := by
  cases u <;> simp_all [fromUnix]

theorem toUnix_of_ne_ns (u : TUnit) (t : Int) (hu : u ≠ .nanoseconds) :
    toUnix u (.ts t) = .ok (.int (t / u.ns)) := by
  cases u <;> simp_all [toUnix]

theorem ns_pos (u : TUnit) : 0 < u.ns := by
  cases u <;> decide

theorem ns_cases (u : TUnit) : u.ns = 1000000000 ∨ u.ns = 1000000 ∨ u.ns = 1000 ∨ u.ns = 1 := by
  cases u <;> simp [TUnit.ns]

theorem floor_mem_range (lo hi d t : Int) (hd : 0 < d) (hlo : d ∣ lo) (h1 : lo ≤ t) (h2 : t ≤ hi) :
    lo ≤ t / d * d ∧ t / d * d ≤ hi := by
  obtain ⟨k, rfl⟩ := hlo
  constructor
  · rw [Int.mul_comm d k]
    exact Int.mul_le_mul_of_nonneg_right ((Int.le_ediv_iff_mul_le hd).mpr (by rwa [Int.mul_comm] at h1))
      (Int.le_of_lt hd)
  · exact Int.le_trans (Int.ediv_mul_le t (Int.ne_of_gt hd)) h2

theorem ns_dvd_tsMin (u : TUnit) : u.ns ∣ tsMin := by
  cases u <;> decide +kernel

end Conv.Time
