/-
  Lemmas about the JIT path parser model, in the order quoted field, unquoted field, index,
  segment start, whole path, used by the C20 round-trip theorems.
-/
import VrlModel.PathText
import VrlProofs.Lemmas.Utf8
import VrlProofs.Lemmas.Digits

namespace PathText

theorem jit_go {st st' : JitState} {c : Char} (rest : List Char) (h : step st c = .go st') :
    jit st (c :: rest) = jit st' rest := by
  simp [jit, h]

theorem jit_emit {st st' : JitState} {c : Char} {s : Seg} (rest : List Char)
    (h : step st c = .emit s st') : jit st (c :: rest) = (jit st' rest).cons s := by
  simp [jit, h]

theorem jit_invalid {st : JitState} {c : Char} (rest : List Char) (h : step st c = .invalid) :
    jit st (c :: rest) = .err := by
  simp [jit, h]

theorem jit_panic {st : JitState} {c : Char} (rest : List Char) (h : step st c = .panic) :
    jit st (c :: rest) = .panic := by
  simp [jit, h]

theorem isJitChar_of_ser {c : Char} (h : isSerChar c = true) : isJitChar c = true := by
  simp [isJitChar, h]

theorem beq_false_of_pred (p : Char → Bool) {c d : Char} (h : p c = true) (hd : p d = false) :
    (c == d) = false :=
  Bool.eq_false_iff.2 fun hcd => by rw [eq_of_beq hcd, hd] at h; cases h

theorem beq_false_of_ser {c d : Char} (h : isSerChar c = true) (hd : isSerChar d = false) :
    (c == d) = false :=
  beq_false_of_pred isSerChar h hd

theorem beq_false_of_jit {c d : Char} (h : isJitChar c = true) (hd : isJitChar d = false) :
    (c == d) = false :=
  beq_false_of_pred isJitChar h hd

theorem beq_false_of_digit {c d : Char} (h : isDigit c = true) (hd : isDigit d = false) :
    (c == d) = false :=
  beq_false_of_pred isDigit h hd

theorem isJitChar_dot : isJitChar '.' = false := by decide
theorem isJitChar_lbr : isJitChar '[' = false := by decide
theorem isJitChar_quote : isJitChar '"' = false := by decide
theorem isDigit_rbr : isDigit ']' = false := by decide

theorem digitChar_toNat {d : Nat} (h : d < 10) : (digitChar d).toNat = 48 + d := by
  have : ∀ d, d < 10 → (digitChar d).toNat = 48 + d := by decide
  exact this d h

theorem isDigit_digitChar {d : Nat} (h : d < 10) : isDigit (digitChar d) = true := by
  simp only [isDigit, digitChar_toNat h, Bool.and_eq_true, decide_eq_true_eq]
  omega

/-- inside a quoted field the machine is borrowing (`Quote`) or, after the first backslash,
    copying (`EscapedQuote`); both react to a character in the same way. -/
def strSt : Bool → List Char → JitState
  | false, buf => .quote buf
  | true, buf => .escapedQuote buf

theorem step_strSt_close (copying : Bool) (buf : List Char) :
    step (strSt copying buf) '"' = .emit (mkField buf) .cont := by
  cases copying <;> rfl

theorem step_strSt_backslash (copying : Bool) (buf : List Char) :
    step (strSt copying buf) '\\' = .go (.escapeNext buf) := by
  cases copying <;> rfl

theorem step_strSt_plain (copying : Bool) (buf : List Char) {c : Char} (hq : (c == '"') = false)
    (hb : (c == '\\') = false) : step (strSt copying buf) c = .go (strSt copying (buf ++ [c])) := by
  cases copying <;> simp [strSt, step, hq, hb]

theorem step_escapeNext (buf : List Char) {c : Char} (h : (c == '\\' || c == '"') = true) :
    step (.escapeNext buf) c = .go (strSt true (buf ++ [c])) := by
  simp only [step, h, if_true, strSt]

theorem jit_str (cs : List Char) : ∀ (copying : Bool) (buf rest : List Char),
    jit (strSt copying buf) (escapeField cs ++ '"' :: rest)
      = (jit .cont rest).cons (mkField (buf ++ cs)) := by
  fun_induction escapeField cs with
  | case1 =>
    intro copying buf rest
    rw [List.append_nil]
    exact jit_emit rest (step_strSt_close copying buf)
  | case2 c cs hc ih =>
    intro copying buf rest
    rw [List.cons_append, List.cons_append, jit_go _ (step_strSt_backslash copying buf),
      jit_go _ (step_escapeNext buf (Bool.or_comm _ _ ▸ hc)), ih, List.append_assoc]
    rfl
  | case3 c cs hc ih =>
    intro copying buf rest
    rw [Bool.or_eq_true, not_or, Bool.not_eq_true, Bool.not_eq_true] at hc
    rw [List.cons_append, jit_go _ (step_strSt_plain copying buf hc.1 hc.2), ih,
      List.append_assoc]
    rfl

theorem escapeField_id (cs : List Char) (h : ∀ c ∈ cs, (c == '"' || c == '\\') = false) :
    escapeField cs = cs := by
  induction cs with
  | nil => rfl
  | cons c cs ih =>
    have hc := h c (by simp)
    simp only [escapeField, hc, Bool.false_eq_true, if_false]
    rw [ih (fun d hd => h d (by simp [hd]))]

theorem jit_field_run (cs : List Char) : ∀ (acc rest : List Char),
    (∀ c ∈ cs, isJitChar c = true) →
    jit (.field acc) (cs ++ rest) = jit (.field (acc ++ cs)) rest := by
  induction cs with
  | nil => intro acc rest _; simp
  | cons c cs ih =>
    intro acc rest h
    have hc : isJitChar c = true := h c (by simp)
    have h1 : step (.field acc) c = .go (.field (acc ++ [c])) := by simp [step, hc]
    rw [List.cons_append, jit_go _ h1, ih _ _ (fun d hd => h d (by simp [hd])), List.append_assoc]
    rfl

/-- what may follow a rendered segment. -/
def Delim (t : List Char) : Prop := t = [] ∨ (∃ r, t = '.' :: r) ∨ (∃ r, t = '[' :: r)

theorem step_field_dot (acc : List Char) : step (.field acc) '.' = .emit (mkField acc) .dot := by
  simp [step, isJitChar_dot]

theorem step_field_lbr (acc : List Char) :
    step (.field acc) '[' = .emit (mkField acc) .indexStart := by
  simp [step, isJitChar_lbr, show ('[' == '.') = false by decide]

theorem step_field_other (acc : List Char) {c : Char} (hj : ¬ isJitChar c = true)
    (hd : ¬ (c == '.') = true) (hl : ¬ (c == '[') = true) : step (.field acc) c = .invalid := by
  simp [step, hj, hd, hl]

theorem step_field_quote (acc : List Char) : step (.field acc) '"' = .invalid :=
  step_field_other acc (by decide) (by decide) (by decide)

theorem jit_field_end (acc rest : List Char) (h : Delim rest) :
    jit (.field acc) rest = (jit .cont rest).cons (mkField acc) := by
  rcases h with h | ⟨r, h⟩ | ⟨r, h⟩
  · subst h; rfl
  · subst h
    rw [jit_emit _ (step_field_dot acc), jit_go _ (show step .cont '.' = .go .dot by decide)]
  · subst h
    rw [jit_emit _ (step_field_lbr acc), jit_go _ (show step .cont '[' = .go .indexStart by decide)]

/-- the bounds as numerals, which is how `omega` can use them. -/
theorem inIsize_iff (i : Int) :
    inIsize i = true ↔ (-9223372036854775808 ≤ i ∧ i ≤ 9223372036854775807) := by
  unfold inIsize isizeMin isizeMax
  rw [Bool.and_eq_true, decide_eq_true_iff, decide_eq_true_iff]

/-- an index being read has a sign (`Index` / `NegativeIndex`) and a value. -/
def numSt : Bool → Int → JitState
  | false, v => .index v
  | true, v => .negIndex v

def signed (neg : Bool) (m : Nat) : Int := if neg then -(m : Int) else (m : Int)

theorem signed_false (m : Nat) : signed false m = m := rfl
theorem signed_true (m : Nat) : signed true m = -(m : Int) := rfl

/-- the `isize` range is an interval around 0. -/
theorem inIsize_signed_le (neg : Bool) {a b : Nat} (hab : a ≤ b)
    (h : inIsize (signed neg b) = true) : inIsize (signed neg a) = true := by
  rw [inIsize_iff] at h ⊢
  cases neg
  · rw [signed_false] at h ⊢; omega
  · rw [signed_true] at h ⊢; omega

theorem checked_twice {a b : Int} (h : inIsize b = true → inIsize a = true) :
    (if inIsize a then (if inIsize b then some b else none) else none) =
      if inIsize b then some b else none := by
  by_cases hb : inIsize b = true
  · rw [if_pos (h hb)]
  · rw [if_neg hb]
    split <;> rfl

/-- the product fits when the sum does. -/
theorem pushDigit_nat (m d : Nat) : pushDigit (m : Int) (d : Int) =
    if inIsize ((m * 10 + d : Nat) : Int) then some ((m * 10 + d : Nat) : Int) else none := by
  have e : (m : Int) * 10 + (d : Int) = ((m * 10 + d : Nat) : Int) := by
    rw [Int.natCast_add, Int.natCast_mul]; rfl
  rw [pushDigit, e]
  exact checked_twice fun h => by rw [inIsize_iff] at h ⊢; omega

theorem pushDigitNeg_nat (m d : Nat) : pushDigitNeg (-(m : Int)) (d : Int) =
    if inIsize (-((m * 10 + d : Nat) : Int)) then some (-((m * 10 + d : Nat) : Int)) else none := by
  have e : -(m : Int) * 10 - (d : Int) = -((m * 10 + d : Nat) : Int) := by
    rw [Int.natCast_add, Int.natCast_mul, Int.neg_add, Int.neg_mul]; rfl
  rw [pushDigitNeg, e]
  exact checked_twice fun h => by rw [inIsize_iff] at h ⊢; omega

theorem digitVal_bounds {c : Char} (h : isDigit c = true) : 0 ≤ digitVal c ∧ digitVal c ≤ 9 := by
  simp only [isDigit, Bool.and_eq_true, decide_eq_true_eq] at h
  unfold digitVal
  omega

theorem digitVal_eq {c : Char} (h : isDigit c = true) : digitVal c = ((c.toNat - 48 : Nat) : Int) := by
  simp only [isDigit, Bool.and_eq_true, decide_eq_true_eq] at h
  unfold digitVal
  omega

theorem digitVal_digitChar {d : Nat} (h : d < 10) : digitVal (digitChar d) = d := by
  rw [digitVal_eq (isDigit_digitChar h), digitChar_toNat h, Nat.add_sub_cancel_left]

theorem step_numSt_digit (neg : Bool) (m : Nat) {c : Char} (hd : isDigit c = true) :
    step (numSt neg (signed neg m)) c =
      if inIsize (signed neg (m * 10 + (c.toNat - 48))) then
        .go (numSt neg (signed neg (m * 10 + (c.toNat - 48)))) else .panic := by
  cases neg
  · simp only [numSt, signed, step, hd, if_true, digitVal_eq hd, pushDigit_nat,
      Bool.false_eq_true, if_false]
    cases inIsize ((m * 10 + (c.toNat - 48) : Nat) : Int) <;> rfl
  · simp only [numSt, signed, step, hd, if_true, digitVal_eq hd, pushDigitNeg_nat]
    cases inIsize (-((m * 10 + (c.toNat - 48) : Nat) : Int)) <;> rfl

theorem step_numSt_close (neg : Bool) (v : Int) :
    step (numSt neg v) ']' = .emit (.index v) .cont := by
  cases neg <;> rfl

theorem step_numSt_other (neg : Bool) (v : Int) {c : Char} (hd : isDigit c = false)
    (hr : (c == ']') = false) : step (numSt neg v) c = .invalid := by
  cases neg <;> simp [numSt, step, hd, hr]

/-- the number read so far, `m`, continued by the decimal digits `ds`. -/
def accNat (m : Nat) (ds : List Char) : Nat := ds.foldl (fun m c => m * 10 + (c.toNat - 48)) m

open Digits

theorem accNat_eq (m : Nat) (ds : List Char) :
    accNat m ds = ofDigits 10 m (ds.map fun c => c.toNat - 48) := List.foldl_map.symm

theorem le_accNat (ds : List Char) (m : Nat) : m ≤ accNat m ds :=
  accNat_eq m ds ▸ le_ofDigits (by decide) _ m

theorem jit_num_run (neg : Bool) (ds : List Char) : ∀ (m : Nat) (rest : List Char),
    (∀ c ∈ ds, isDigit c = true) → inIsize (signed neg (accNat m ds)) = true →
    jit (numSt neg (signed neg m)) (ds ++ ']' :: rest)
      = (jit .cont rest).cons (.index (signed neg (accNat m ds))) := by
  induction ds with
  | nil => intro m rest _ _; exact jit_emit rest (step_numSt_close neg _)
  | cons d ds ih =>
    intro m rest h hin
    have h1 : step (numSt neg (signed neg m)) d
        = .go (numSt neg (signed neg (m * 10 + (d.toNat - 48)))) := by
      rw [step_numSt_digit neg m (h d (by simp)), if_pos (inIsize_signed_le neg (le_accNat ds _) hin)]
    rw [List.cons_append, jit_go _ h1, ih _ _ (fun c hc => h c (by simp [hc])) hin]
    rfl

/-- `Display for usize` writes the numeral of `n` -/
theorem natDigits_eq (n : Nat) : natDigits n = (toDigits 10 n).map digitChar := by
  fun_induction natDigits n with
  | case1 n h => rw [toDigits_lt h]; rfl
  | case2 n h ih => rw [ih, toDigits_ge (n := n) (by decide) (by omega), List.map_append]; rfl

theorem natDigits_digits (n : Nat) : ∀ c ∈ natDigits n, isDigit c = true := by
  intro c hc
  rw [natDigits_eq] at hc
  obtain ⟨d, hd, rfl⟩ := List.mem_map.mp hc
  exact isDigit_digitChar (toDigits_mem_lt (by decide) n d hd)

theorem accNat_natDigits (n : Nat) : accNat 0 (natDigits n) = n := by
  rw [accNat_eq, natDigits_eq]
  exact ofDigits_map_toDigits (by decide) digitChar _
    (fun d h => by rw [digitChar_toNat h]; exact Nat.add_sub_cancel_left 48 d) n

theorem natDigits_ne_nil (n : Nat) : natDigits n ≠ [] := by
  rw [natDigits_eq]; simpa using toDigits_ne_nil 10 n

/-- `[` has been read: a first digit is taken without overflow check, as by `Index` at 0. -/
theorem jit_indexStart_digits {ds : List Char} (hne : ds ≠ []) (hd : ∀ c ∈ ds, isDigit c = true)
    (t : List Char) : jit .indexStart (ds ++ t) = jit (numSt false (signed false 0)) (ds ++ t) := by
  cases ds with
  | nil => exact absurd rfl hne
  | cons d ds =>
    have hd := hd d (by simp)
    have hin : inIsize (signed false (0 * 10 + (d.toNat - 48))) = true := by
      simp only [isDigit, Bool.and_eq_true, decide_eq_true_eq] at hd
      rw [inIsize_iff, signed_false]
      omega
    -- both sides are in `Index d` after the first digit: the right one by the checked step from 0,
    -- which `hin` lets through, then the left one by the unchecked step of `IndexStart`
    rw [List.cons_append, jit_go _ ((step_numSt_digit false 0 hd).trans (if_pos hin))]
    refine jit_go _ ?_
    simp only [step, hd, if_true, digitVal_eq hd, numSt, signed_false, Nat.zero_mul, Nat.zero_add]

theorem jit_indexStart_int (i : Int) (rest : List Char) (h : inIsize i = true) :
    jit .indexStart (intText i ++ ']' :: rest) = (jit .cont rest).cons (.index i) := by
  unfold intText
  by_cases hneg : i < 0
  · have e : signed true i.natAbs = i := by rw [signed_true]; omega
    rw [if_pos hneg, List.cons_append,
      jit_go _ (show step .indexStart '-' = .go (numSt true (signed true 0)) by decide),
      jit_num_run true _ 0 _ (natDigits_digits _) (by rw [accNat_natDigits, e]; exact h),
      accNat_natDigits, e]
  · have e : signed false i.toNat = i := by rw [signed_false]; omega
    rw [if_neg hneg, jit_indexStart_digits (natDigits_ne_nil _) (natDigits_digits _),
      jit_num_run false _ 0 _ (natDigits_digits _) (by rw [accNat_natDigits, e]; exact h),
      accNat_natDigits, e]

theorem isSerChar_dot : isSerChar '.' = false := by decide
theorem isSerChar_lbr : isSerChar '[' = false := by decide

/-- the states in which a segment may start (`Start`, `Continue`, `EventRoot`, `Dot`): once `.` has
    been dealt with they share the arms `segStart`; an index may follow except after a dot. -/
inductive StartSt : JitState → Bool → Prop
  | start : StartSt .start true
  | cont : StartSt .cont true
  | eventRoot : StartSt .eventRoot true
  | dot : StartSt .dot false

theorem StartSt.dispatch {st : JitState} {allowIndex : Bool} (h : StartSt st allowIndex) {c : Char}
    (hc : (c == '.') = false) : step st c = segStart allowIndex c := by
  cases h <;> simp [step, hc]

theorem StartSt.ser {st : JitState} {allowIndex : Bool} (h : StartSt st allowIndex) {c : Char}
    (hc : isSerChar c = true) : step st c = .go (.field [c]) := by
  rw [h.dispatch (beq_false_of_ser hc isSerChar_dot), segStart, if_pos (isJitChar_of_ser hc)]

theorem StartSt.quote {st : JitState} {allowIndex : Bool} (h : StartSt st allowIndex) :
    step st '"' = .go (.quote []) := by
  rw [h.dispatch (by decide)]
  cases allowIndex <;> rfl

theorem StartSt.lbr {st : JitState} (h : StartSt st true) : step st '[' = .go .indexStart := by
  rw [h.dispatch (by decide)]
  rfl

theorem step_cont_dot : step .cont '.' = .go .dot := by decide
theorem step_start_dot : step .start '.' = .go .eventRoot := by decide

theorem jit_fieldText {st : JitState} {allowIndex : Bool} (hst : StartSt st allowIndex)
    (cs rest : List Char) (hd : Delim rest) :
    jit st (fieldText cs ++ rest) = (jit .cont rest).cons (mkField cs) := by
  unfold fieldText
  by_cases hn : needsQuotes cs = true
  · simp only [hn, if_true]
    rw [List.cons_append, List.append_assoc, jit_go _ hst.quote]
    exact jit_str cs false [] rest
  · simp only [hn]
    cases cs with
    | nil => simp [needsQuotes] at hn
    | cons c cs' =>
      have hall : ∀ d ∈ c :: cs', isSerChar d = true := by
        intro d hd'
        simp only [needsQuotes, List.isEmpty_cons, Bool.false_or, List.any_eq_true, Bool.not_eq_true',
          not_exists, not_and, Bool.not_eq_false] at hn
        exact hn d hd'
      have hc := hall c (by simp)
      rw [if_neg (by simp), List.cons_append, jit_go _ (hst.ser hc),
        jit_field_run cs' [c] rest (fun d hd' => isJitChar_of_ser (hall d (by simp [hd']))),
        jit_field_end _ _ hd]
      rfl

theorem delim_renderFrom (p : CPath) : Delim (renderFrom false p) := by
  cases p with
  | nil => exact Or.inl rfl
  | cons s r =>
    cases s with
    | field cs => exact Or.inr (Or.inl ⟨_, rfl⟩)
    | index i => exact Or.inr (Or.inr ⟨_, rfl⟩)

theorem index_text_append (i : Int) (rest : List Char) :
    '[' :: (intText i ++ [']']) ++ rest = '[' :: (intText i ++ ']' :: rest) := by
  simp

theorem inRange_cons {s : CSeg} {r : CPath} (h : CPath.inRange (s :: r) = true) :
    s.inRange = true ∧ CPath.inRange r = true := by
  simpa [CPath.inRange] using h

theorem jit_seg {st : JitState} {allowIndex : Bool} (hst : StartSt st allowIndex) (s : CSeg)
    (hs : s.inRange = true) (hai : ∀ i, s = .index i → allowIndex = true) (rest : List Char)
    (hd : Delim rest) : jit st (segText true s ++ rest) = (jit .cont rest).cons s.toSeg := by
  cases s with
  | field cs => exact jit_fieldText hst cs rest hd
  | index i =>
    cases hai i rfl
    show jit st ('[' :: (intText i ++ [']']) ++ rest) = _
    rw [index_text_append, jit_go _ hst.lbr, jit_indexStart_int i _ hs]
    rfl

theorem jit_cont_render (p : CPath) : CPath.inRange p = true →
    jit .cont (renderFrom false p) = .ok p.toPath := by
  induction p with
  | nil => intro _; rfl
  | cons s r ih =>
    intro h
    have ⟨hs, hr⟩ := inRange_cons h
    have hd := delim_renderFrom r
    -- after a segment a field is announced by `.`, an index follows directly
    cases s with
    | field cs =>
      show jit .cont ('.' :: (segText true (.field cs) ++ renderFrom false r)) = _
      rw [jit_go _ step_cont_dot, jit_seg .dot _ hs nofun _ hd, ih hr]
      rfl
    | index i =>
      show jit .cont (segText true (.index i) ++ renderFrom false r) = _
      rw [jit_seg .cont _ hs (fun _ _ => rfl) _ hd, ih hr]
      rfl

theorem jit_first_render {st : JitState} (hst : StartSt st true) (s : CSeg) (r : CPath)
    (h : CPath.inRange (s :: r) = true) :
    jit st (renderFrom true (s :: r)) = .ok (CPath.toPath (s :: r)) := by
  have ⟨hs, hr⟩ := inRange_cons h
  show jit st (segText true s ++ renderFrom false r) = _
  rw [jit_seg hst s hs (fun _ _ => rfl) _ (delim_renderFrom r), jit_cont_render r hr]
  rfl

theorem toC_toPath (p : CPath) : Path.toC p.toPath = some p := by
  induction p with
  | nil => rfl
  | cons s r ih =>
    have hs : Seg.toC s.toSeg = some s := by
      cases s with
      | field cs => simp [CSeg.toSeg, Seg.toC, Utf8.decode_encode]
      | index i => rfl
    simp only [Path.toC, CPath.toPath, List.map_cons, List.mapM_cons, hs] at ih ⊢
    rw [ih]
    rfl

theorem toSeg_of_toC : ∀ {s : Seg} {cs : CSeg}, Seg.toC s = some cs → cs.toSeg = s
  | .field k, _, h => by
    obtain ⟨v, hv, rfl⟩ := Option.map_eq_some_iff.mp h
    exact congrArg Seg.field (Utf8.encode_decode k v hv)
  | .index _, _, h => by cases h; rfl

theorem toPath_of_toC : ∀ (p : Path) (cp : CPath), Path.toC p = some cp → cp.toPath = p
  | [], cp, h => by
    simp [Path.toC] at h
    subst h; rfl
  | s :: r, cp, h => by
    simp only [Path.toC, List.mapM_cons] at h
    obtain ⟨cs, hs, h⟩ := Option.bind_eq_some_iff.mp h
    obtain ⟨cr, hr, h⟩ := Option.bind_eq_some_iff.mp h
    cases h
    show cs.toSeg :: CPath.toPath cr = s :: r
    rw [toSeg_of_toC hs, toPath_of_toC r cr hr]

end PathText
