/-
  Helper lemmas for C32 (i): the alias expansion of `parse_grok_rule` is a depth-first traversal of
  the reference graph whose current path is `alias_stack`; the closure computation of
  `cycleReachable` finds exactly the cycles of that graph.
-/
import VrlProofs.Lemmas.C32

namespace C32
open Grok

variable {P : Prims} {aliases : List (Str × Str)} {self : Str → Ctx → Out Ctx}

/-- the two outcomes that only the recursion through alias definitions produces. -/
inductive Stuck where
  | fuel
  | circular (first : Str)

def Stuck.out {α : Type} : Stuck → Out α
  | .fuel => .fuel
  | .circular x => .err (.circular x)

/-- `x` is `s.out` for some `s : Stuck`. The error is matched on its own, so that the test reduces to
    one on `e` whatever `α` is and a failed `x : Out α` can be compared with `x >>= f : Out β`. -/
def isStuck {α : Type} : Out α → Bool
  | .fuel => true
  | .err e => (match e with | .circular _ => true | _ => false)
  | _ => false

theorem ne_out_of_not_isStuck {α : Type} {x : Out α} (h : isStuck x = false) (s : Stuck) : x ≠ s.out := by
  rintro rfl; cases s <;> cases h

theorem bind_eq_stuck {α β : Type} {x : Out α} {f : α → Out β} {s : Stuck} (h : (x >>= f) = s.out) :
    x = s.out ∨ ∃ a, x = .ok a ∧ f a = s.out := by
  cases x with
  | ok a => exact .inr ⟨a, rfl, h⟩
  | _ => cases s <;> cases h <;> exact .inl rfl

/-- a step that does not recurse: it is never stuck, and on success the stack is `S`. -/
def Quiet (S : List Str) (x : Out Ctx) : Prop := isStuck x = false ∧ ∀ c, x = .ok c → c.stack = S

theorem quiet_ok {S : List Str} {c : Ctx} (h : c.stack = S) : Quiet S (.ok c) :=
  ⟨rfl, fun _ e => by cases e; exact h⟩

theorem quiet_bind {α : Type} {S : List Str} {x : Out α} {f : α → Out Ctx} (hx : isStuck x = false)
    (hf : ∀ a, x = .ok a → Quiet S (f a)) : Quiet S (x >>= f) := by
  cases x with
  | ok a => exact hf a rfl
  | _ => exact ⟨hx, nofun⟩

theorem filterOf_not_isStuck (f : Fn) : isStuck (filterOf f) = false := by
  fun_cases filterOf f <;> rfl

theorem registerDest_quiet (p : Pat) (c : Ctx) : Quiet c.stack (registerDest p c) := by
  obtain ⟨fn, _ | ⟨path, _ | f⟩⟩ := p
  · exact quiet_ok rfl
  · exact quiet_ok rfl
  · rw [registerDest_filter]
    exact quiet_bind (filterOf_not_isStuck f) fun _ _ => quiet_ok rfl

theorem withFilter_stack (g : Option Nat) (c : Ctx) (flt : Filter) (s : Str) :
    (withFilter g c flt s).stack = c.stack := by
  cases g <;> rfl

theorem resolveMatchFn_quiet (g : Option Nat) (p : Pat) (c : Ctx) : Quiet c.stack (resolveMatchFn g p c) := by
  unfold resolveMatchFn
  split
  · split
    · exact quiet_ok rfl
    · exact ⟨rfl, nofun⟩
  iterate 4 exact quiet_ok (withFilter_stack ..)
  · split <;> exact ⟨rfl, nofun⟩
  · exact quiet_ok rfl

theorem openGroup_stack (g : Option Nat) (c : Ctx) : (openGroup g c).stack = c.stack := by
  cases g <;> rfl

theorem closePure_stack (g : Option Nat) (c : Ctx) : (closePure g c).stack = c.stack := by
  cases g <;> rfl

theorem resolveBuiltin_quiet (g : Option Nat) (p : Pat) (c : Ctx) : Quiet c.stack (resolveBuiltin g p c) := by
  rw [resolveBuiltin_eq]
  split
  · have h := resolveMatchFn_quiet g p (openGroup g c)
    rw [openGroup_stack] at h
    exact quiet_bind h.1 fun c3 h3 => quiet_ok (h.2 c3 h3)
  · have h := resolveMatchFn_quiet g p (c.append cs!"%{")
    exact quiet_bind h.1 fun c3 h3 => quiet_ok ((closePure_stack g c3).trans (h.2 c3 h3))

def KeepsStack (self : Str → Ctx → Out Ctx) : Prop :=
  ∀ d c c', self d c = .ok c' → c'.stack = c.stack

/-- the expansion enters the definition `d` of the alias `a` from the stack `S`, with outcome `r`. -/
def Enters (self : Str → Ctx → Out Ctx) (S : List Str) (a d : Str) (r : Out Ctx) : Prop :=
  ∃ cin : Ctx, cin.stack = S ++ [a] ∧ self d cin = r

theorem parseAlias_ok (hk : KeepsStack self) {name d : Str} {c c' : Ctx}
    (h : parseAlias self name d c = .ok c') :
    c'.stack = c.stack ∧ name ∉ c.stack ∧ ∃ cout, Enters self c.stack name d (.ok cout) := by
  rw [parseAlias_eq] at h
  split at h
  · cases h
  · rename_i hn
    obtain ⟨c'', hrun, h⟩ := bind_eq_ok h
    cases h
    exact ⟨by simp [hk _ _ _ hrun], by simpa using hn, c'', _, rfl, hrun⟩

theorem parseAlias_stuck {name d : Str} {c : Ctx} {s : Stuck}
    (h : parseAlias self name d c = s.out) :
    (name ∈ c.stack ∧ s = .circular (c.stack.headD [])) ∨
      (name ∉ c.stack ∧ Enters self c.stack name d s.out) := by
  rw [parseAlias_eq] at h
  split at h
  · rename_i hn
    cases s <;> cases h
    exact .inl ⟨by simpa using hn, rfl⟩
  · rename_i hn
    rcases bind_eq_stuck h with h | ⟨_, _, h⟩
    · exact .inr ⟨by simpa using hn, _, rfl, h⟩
    · cases s <;> cases h

theorem resolvePat_builtin {p : Pat} (self : Str → Ctx → Out Ctx) (c : Ctx)
    (hd : lookupAlias aliases p.fn.name = none) : Quiet c.stack (resolvePat aliases self p c) := by
  have h := registerDest_quiet p c
  rw [resolvePat_eq, hd]
  exact quiet_bind h.1 fun c1 h1 => by rw [← h.2 c1 h1]; exact resolveBuiltin_quiet ..

theorem enterGroup_stack (g : Option Nat) (c : Ctx) : (enterGroup g c).stack = c.stack := by
  cases g <;> rfl

theorem leaveGroup_stack (g : Option Nat) (c : Ctx) : (leaveGroup g c).stack = c.stack := by
  cases g <;> rfl

theorem resolvePat_ok {p : Pat} {c c' : Ctx} {d : Str}
    (hk : KeepsStack self) (hd : lookupAlias aliases p.fn.name = some d)
    (h : resolvePat aliases self p c = .ok c') :
    c'.stack = c.stack ∧ p.fn.name ∉ c.stack ∧ ∃ cout, Enters self c.stack p.fn.name d (.ok cout) := by
  rw [resolvePat_eq, hd] at h
  obtain ⟨c1, h1, h⟩ := bind_eq_ok h
  obtain ⟨c2, h2, h⟩ := bind_eq_ok h
  cases h
  have := parseAlias_ok hk h2
  rwa [enterGroup_stack, (registerDest_quiet p c).2 c1 h1, ← leaveGroup_stack _ c2] at this

theorem resolvePat_stuck {p : Pat} {c : Ctx} {d : Str} {s : Stuck}
    (hd : lookupAlias aliases p.fn.name = some d) (h : resolvePat aliases self p c = s.out) :
    (p.fn.name ∈ c.stack ∧ s = .circular (c.stack.headD [])) ∨
      (p.fn.name ∉ c.stack ∧ Enters self c.stack p.fn.name d s.out) := by
  rw [resolvePat_eq, hd] at h
  rcases bind_eq_stuck h with h | ⟨c1, h1, h⟩
  · exact absurd h (ne_out_of_not_isStuck (registerDest_quiet p c).1 s)
  · rcases bind_eq_stuck h with h | ⟨_, _, h⟩
    · have := parseAlias_stuck h
      rwa [enterGroup_stack, (registerDest_quiet p c).2 c1 h1] at this
    · cases s <;> cases h

theorem resolvePat_keeps {p : Pat} {c c' : Ctx}
    (hk : KeepsStack self) (h : resolvePat aliases self p c = .ok c') : c'.stack = c.stack := by
  cases hd : lookupAlias aliases p.fn.name with
  | none => exact (resolvePat_builtin self c hd).2 c' h
  | some d => exact (resolvePat_ok hk hd h).1

theorem phName_of_parse {s : Str} {p : Pat} (h : parsePlaceholder P s = .ok p) :
    phName P s = some p.fn.name := by
  simp [phName, h]

theorem refsOfPieces_ph {s : Str} {p : Pat} (aliases : List (Str × Str)) (rest : List Piece)
    (hp : parsePlaceholder P s = .ok p) :
    refsOfPieces P aliases (.ph s :: rest) =
      if (lookupAlias aliases p.fn.name).isSome then p.fn.name :: refsOfPieces P aliases rest
      else refsOfPieces P aliases rest := by
  simp only [refsOfPieces, phName_of_parse hp]

theorem resolvePieces_ok (hk : KeepsStack self) (ps : List Piece) : ∀ (c c' : Ctx),
    resolvePieces P aliases self ps c = .ok c' →
    c'.stack = c.stack ∧
    ∀ a ∈ refsOfPieces P aliases ps, a ∉ c.stack ∧
      ∃ d cout, lookupAlias aliases a = some d ∧ Enters self c.stack a d (.ok cout) := by
  induction ps with
  | nil => intro c c' h; cases h; exact ⟨rfl, nofun⟩
  | cons pc rest ih =>
    intro c c' h
    cases pc with
    | text s => exact ih (c.append s) c' h
    | ph s =>
      rw [resolvePieces_ph] at h
      split at h
      · rename_i p hp
        obtain ⟨c1, h1, h⟩ := bind_eq_ok h
        have ih' := ih _ _ h
        rw [resolvePat_keeps hk h1] at ih'
        refine ⟨ih'.1, fun a ha => ?_⟩
        rw [refsOfPieces_ph aliases rest hp] at ha
        split at ha
        · rename_i hd
          obtain ⟨d, hd⟩ := Option.isSome_iff_exists.mp hd
          rcases List.mem_cons.mp ha with rfl | ha
          · obtain ⟨_, hn, cout, hen⟩ := resolvePat_ok hk hd h1
            exact ⟨hn, d, cout, hd, hen⟩
          · exact ih'.2 a ha
        · exact ih'.2 a ha
      · cases h
      · cases h

theorem resolvePieces_stuck (hk : KeepsStack self) {s : Stuck} (ps : List Piece) : ∀ (c : Ctx),
    resolvePieces P aliases self ps c = s.out →
    ∃ a ∈ refsOfPieces P aliases ps, ∃ d, lookupAlias aliases a = some d ∧
      ((a ∈ c.stack ∧ s = .circular (c.stack.headD [])) ∨ (a ∉ c.stack ∧ Enters self c.stack a d s.out)) := by
  induction ps with
  | nil => intro c h; cases s <;> cases h
  | cons pc rest ih =>
    intro c h
    cases pc with
    | text t => exact ih (c.append t) h
    | ph t =>
      rw [resolvePieces_ph] at h
      split at h
      · rename_i p hp
        rw [refsOfPieces_ph aliases rest hp]
        rcases bind_eq_stuck h with h | ⟨c1, h1, h⟩
        · cases hd : lookupAlias aliases p.fn.name with
          | none => exact absurd h (ne_out_of_not_isStuck (resolvePat_builtin self c hd).1 s)
          | some d => exact ⟨_, List.mem_cons_self, d, hd, resolvePat_stuck hd h⟩
        · obtain ⟨a, ha, hcase⟩ := ih _ h
          rw [resolvePat_keeps hk h1] at hcase
          refine ⟨a, ?_, hcase⟩
          split
          · exact List.mem_cons_of_mem _ ha
          · exact ha
      · cases s <;> cases h
      · cases s <;> cases h

theorem keepsStack_parseRuleF (P : Prims) (aliases : List (Str × Str)) :
    ∀ n, KeepsStack (parseRuleF P aliases n) := by
  intro n
  induction n with
  | zero => intro d c c' h; cases h
  | succ n ih => intro d c c' h; exact (resolvePieces_ok ih _ _ _ h).1

/-- number of defined aliases that are not in `S`. -/
def remaining (aliases : List (Str × Str)) (S : List Str) : Nat :=
  ((aliases.map Prod.fst).filter (fun k => !S.contains k)).length

theorem remaining_lt {S T : List Str} {a : Str}
    (hST : ∀ x ∈ S, x ∈ T) (ha : a ∈ aliases.map Prod.fst) (hS : a ∉ S) (hT : a ∈ T) :
    remaining aliases T < remaining aliases S := by
  have e : (aliases.map Prod.fst).filter (fun k => !T.contains k)
      = ((aliases.map Prod.fst).filter (fun k => !S.contains k)).filter (fun k => !T.contains k) := by
    rw [List.filter_filter]
    exact List.filter_congr fun x _ => by simpa using fun h hS => h (hST x hS)
  rw [remaining, e]
  exact List.length_filter_lt_length_iff_exists.mpr ⟨a, List.mem_filter.mpr ⟨ha, by simpa using hS⟩, by simpa using hT⟩

theorem remaining_le (aliases : List (Str × Str)) (S : List Str) : remaining aliases S ≤ aliases.length := by
  simpa [remaining] using List.length_filter_le (fun k => !S.contains k) (aliases.map Prod.fst)

theorem lookupAlias_mem {a d : Str} (h : lookupAlias aliases a = some d) :
    a ∈ aliases.map Prod.fst := by
  induction aliases with
  | nil => cases h
  | cons kv rest ih =>
    simp only [lookupAlias] at h
    split at h
    · simp [*]
    · simp [ih h]

inductive Reaches (P : Prims) (aliases : List (Str × Str)) : Str → Str → Prop where
  | refl (a : Str) : Reaches P aliases a a
  | head {a b c : Str} : b ∈ succs P aliases a → Reaches P aliases b c → Reaches P aliases a c

theorem mem_succs {a b : Str} :
    b ∈ succs P aliases a ↔ ∃ d, lookupAlias aliases a = some d ∧ b ∈ refs P aliases d := by
  unfold succs
  cases lookupAlias aliases a <;> simp

theorem refsOfPieces_key {ps : List Piece} {b : Str}
    (h : b ∈ refsOfPieces P aliases ps) : b ∈ aliases.map Prod.fst := by
  induction ps with
  | nil => cases h
  | cons pc rest ih =>
    cases pc with
    | text s => exact ih h
    | ph s =>
      simp only [refsOfPieces] at h
      split at h
      · split at h
        · rename_i hsome
          rcases List.mem_cons.mp h with rfl | h
          · obtain ⟨d, hd⟩ := Option.isSome_iff_exists.mp hsome
            exact lookupAlias_mem hd
          · exact ih h
        · exact ih h
      · exact ih h

theorem succs_key {a b : Str} (h : b ∈ succs P aliases a) : b ∈ aliases.map Prod.fst := by
  obtain ⟨d, _, hb⟩ := mem_succs.mp h
  exact refsOfPieces_key hb

theorem mem_addNew {S xs : List Str} {x : Str} : x ∈ addNew S xs ↔ x ∈ S ∨ x ∈ xs := by
  unfold addNew
  induction xs generalizing S with
  | nil => simp
  | cons y ys ih =>
    have : x ∈ (if S.contains y then S else S ++ [y]) ↔ x ∈ S ∨ x = y := by
      split
      · rename_i hy
        exact ⟨.inl, fun h => h.elim id fun e => e ▸ by simpa using hy⟩
      · simp
    rw [List.foldl_cons, ih, this, List.mem_cons, or_assoc]

theorem mem_closeStep {S : List Str} {x : Str} :
    x ∈ closeStep P aliases S ↔ x ∈ S ∨ ∃ a ∈ S, x ∈ succs P aliases a := by
  have gen : ∀ (l acc : List Str), x ∈ l.foldl (fun acc a => addNew acc (succs P aliases a)) acc ↔
      x ∈ acc ∨ ∃ a ∈ l, x ∈ succs P aliases a := by
    intro l
    induction l with
    | nil => simp
    | cons y ys ih => intro acc; rw [List.foldl_cons, ih, mem_addNew]; simp [or_assoc]
  exact gen S S

theorem subset_closure {x : Str} : ∀ (n : Nat) (S : List Str),
    x ∈ S → x ∈ closure P aliases n S := by
  intro n
  induction n with
  | zero => exact fun _ h => h
  | succ n ih => exact fun S h => ih _ (mem_closeStep.mpr (.inl h))

theorem closure_sound {b : Str} : ∀ (n : Nat) (S : List Str),
    b ∈ closure P aliases n S → ∃ s ∈ S, Reaches P aliases s b := by
  intro n
  induction n with
  | zero => exact fun S h => ⟨b, h, .refl b⟩
  | succ n ih =>
    intro S h
    obtain ⟨s, hs, hr⟩ := ih _ h
    rcases mem_closeStep.mp hs with hs | ⟨a, ha, hs⟩
    · exact ⟨s, hs, hr⟩
    · exact ⟨a, ha, .head hs hr⟩

theorem remaining_closeStep_lt {S : List Str} {x : Str} (hx : x ∈ closeStep P aliases S) (hx' : x ∉ S) :
    remaining aliases (closeStep P aliases S) < remaining aliases S := by
  refine remaining_lt (fun y hy => mem_closeStep.mpr (.inl hy)) ?_ hx' hx
  rcases mem_closeStep.mp hx with h | ⟨a, _, ha⟩
  · exact absurd h hx'
  · exact succs_key ha

theorem closed_of_stationary {S : List Str} {s b : Str}
    (hstat : ∀ x, x ∈ closeStep P aliases S → x ∈ S) (hr : Reaches P aliases s b) (hs : s ∈ S) : b ∈ S := by
  induction hr with
  | refl => exact hs
  | head hc _ ih => exact ih (hstat _ (mem_closeStep.mpr (.inr ⟨_, hs, hc⟩)))

/-- `remaining aliases S` bounds the number of rounds that add something. -/
theorem closure_complete {s b : Str} (hr : Reaches P aliases s b) :
    ∀ (n : Nat) (S : List Str), remaining aliases S ≤ n → s ∈ S → b ∈ closure P aliases n S
  | n, S, hm, hs => by
    by_cases hstat : ∀ x, x ∈ closeStep P aliases S → x ∈ S
    · exact subset_closure n S (closed_of_stationary hstat hr hs)
    · obtain ⟨x, hx⟩ := Classical.not_forall.mp hstat
      obtain ⟨hx, hx'⟩ := Classical.not_imp.mp hx
      have := remaining_closeStep_lt hx hx'
      match n with
      | 0 => omega
      | n + 1 => exact closure_complete hr n _ (by omega) (mem_closeStep.mpr (.inl hs))

theorem mem_closure_iff {X : List Str} {b : Str} :
    b ∈ closure P aliases aliases.length (addNew [] X) ↔ ∃ s ∈ X, Reaches P aliases s b := by
  constructor
  · intro h
    obtain ⟨s, hs, hr⟩ := closure_sound _ _ h
    exact ⟨s, by simpa [mem_addNew] using hs, hr⟩
  · rintro ⟨s, hs, hr⟩
    exact closure_complete hr _ _ (remaining_le ..) (mem_addNew.mpr (.inr hs))

theorem walk_of_reaches {s b : Str} (hr : Reaches P aliases s b) :
    ∀ {text : Str}, s ∈ refs P aliases text → ∃ w, Walk P aliases text w ∧ w.getLast? = some b := by
  induction hr with
  | refl a => exact fun hs => ⟨[a], .one hs, rfl⟩
  | head hb _ ih =>
    intro text hs
    obtain ⟨d, hd, hbd⟩ := mem_succs.mp hb
    obtain ⟨w, hw, hl⟩ := ih hbd
    refine ⟨_ :: w, .cons hs hd hw, ?_⟩
    cases w with
    | nil => cases hl
    | cons y ys => simpa [List.getLast?_cons_cons] using hl

theorem reaches_of_walk {text : Str} {w : List Str}
    (hw : Walk P aliases text w) : ∀ {b : Str}, b ∈ w → ∃ s ∈ refs P aliases text, Reaches P aliases s b := by
  induction hw with
  | one ha => intro b hb; obtain rfl := List.mem_singleton.mp hb; exact ⟨_, ha, .refl _⟩
  | cons ha hd _ ih =>
    intro b hb
    rcases List.mem_cons.mp hb with rfl | hb
    · exact ⟨_, ha, .refl _⟩
    · obtain ⟨s, hs, hr⟩ := ih hb
      exact ⟨_, ha, .head (mem_succs.mpr ⟨_, hd, hs⟩) hr⟩

theorem walk_append {text : Str} {w1 : List Str}
    (h1 : Walk P aliases text w1) :
    ∀ {a da : Str} {w2 : List Str}, w1.getLast? = some a → lookupAlias aliases a = some da →
      Walk P aliases da w2 → Walk P aliases text (w1 ++ w2) := by
  induction h1 with
  | one ha =>
    intro a da w2 hl hda h2
    obtain rfl : _ = a := by simpa using hl
    exact .cons ha hda h2
  | @cons text x d w hx hd hw ih =>
    intro a da w2 hl hda h2
    have hl' : w.getLast? = some a := by
      cases w with
      | nil => cases hw
      | cons y ys => simpa [List.getLast?_cons_cons] using hl
    exact .cons hx hd (ih hl' hda h2)

/-- an alias reachable from `text` lies on a cycle: what the walks with a repetition and the closure
    computation of the oracle both come to. -/
def ReachesCycle (P : Prims) (aliases : List (Str × Str)) (text : Str) : Prop :=
  ∃ a, (∃ s ∈ refs P aliases text, Reaches P aliases s a) ∧ ∃ t ∈ succs P aliases a, Reaches P aliases t a

theorem hasCycleFrom_iff {text : Str} : HasCycleFrom P aliases text ↔ ReachesCycle P aliases text := by
  constructor
  -- the first name of the walk that occurs again later is on a cycle
  · rintro ⟨w, hw, hnd⟩
    induction hw with
    | one _ => exact absurd (by simp) hnd
    | @cons text x d w' hx hd hw' ih =>
      by_cases hmem : x ∈ w'
      · obtain ⟨t, ht, hr⟩ := reaches_of_walk hw' hmem
        exact ⟨x, ⟨x, hx, .refl x⟩, t, mem_succs.mpr ⟨d, hd, ht⟩, hr⟩
      · obtain ⟨a, ⟨s, hs, hr⟩, hloop⟩ := ih fun h => hnd (List.nodup_cons.mpr ⟨hmem, h⟩)
        exact ⟨a, ⟨x, hx, .head (mem_succs.mpr ⟨d, hd, hs⟩) hr⟩, hloop⟩
  -- a walk to `a` followed by a walk from a successor of `a` back to `a` visits `a` twice
  · rintro ⟨a, ⟨s, hs, hr⟩, t, ht, hloop⟩
    obtain ⟨w1, hw1, hl1⟩ := walk_of_reaches hr hs
    obtain ⟨d, hd, htd⟩ := mem_succs.mp ht
    obtain ⟨w2, hw2, hl2⟩ := walk_of_reaches hloop htd
    refine ⟨w1 ++ w2, walk_append hw1 hl1 hd hw2, fun hnd => ?_⟩
    exact (List.nodup_append.mp hnd).2.2 a (List.mem_of_getLast? hl1) a (List.mem_of_getLast? hl2) rfl

theorem cycleReachable_spec {text : Str} :
    cycleReachable P aliases text = true ↔ ReachesCycle P aliases text := by
  simp only [ReachesCycle, cycleReachable, reachable, List.any_eq_true, List.contains_eq_mem, decide_eq_true_eq, mem_closure_iff]

end C32
