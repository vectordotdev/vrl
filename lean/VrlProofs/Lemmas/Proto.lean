/-
  C26, what does not depend on the value/descriptor nesting: the field store of a dynamic message,
  the two loops over the fields of a descriptor, what a lookup sees after normalisation, and the
  round trip of one message given that of its fields (`FieldRT`, `message_roundtrip`).
-/
import VrlModel.Proto
import VrlModel.ProtoSpec
import VrlProofs.Lemmas.Value
import VrlProofs.Lemmas.Sorted

namespace Proto

namespace PFields

/-- what the loop of `encode_message` does to the store for one field: `remove` or `insert` -/
def put (fs : PFields) (n : Nat) : Option PValue → PFields
  | none => fs.clear n
  | some v => fs.set n v

theorem get_put_same : (fs : PFields) → (n : Nat) → (o : Option PValue) → (fs.put n o).get n = o
  | .nil, n, none => rfl
  | .nil, n, some v => if_pos rfl
  | .cons k w rest, n, o => by
    by_cases h : k = n
    · cases o with
      | none => simp only [put, clear, h, if_true]; exact get_put_same rest n none
      | some v => simp only [put, set, h, if_true, get]
    · cases o with
      | none => simp only [put, clear, h, if_false, get]; exact get_put_same rest n none
      | some v => simp only [put, set, h, if_false, get]; exact get_put_same rest n (some v)

theorem get_put_other : (fs : PFields) → (n k : Nat) → (o : Option PValue) → n ≠ k →
    (fs.put n o).get k = fs.get k
  | .nil, n, k, none, _ => rfl
  | .nil, n, k, some v, h => if_neg h
  | .cons j w rest, n, k, o, h => by
    by_cases hj : j = n
    · subst hj
      cases o with
      | none => simp only [put, clear, if_true, get, h, if_false]; exact get_put_other rest j k none h
      | some v => simp only [put, set, if_true, get, h, if_false]
    · cases o with
      | none => simp only [put, clear, hj, if_false, get]; rw [← get_put_other rest n k none h]; rfl
      | some v => simp only [put, set, hj, if_false, get]; rw [← get_put_other rest n k (some v) h]; rfl

theorem get_set_same (fs : PFields) (n : Nat) (v : PValue) : (fs.set n v).get n = some v :=
  get_put_same fs n (some v)

theorem get_set_other (fs : PFields) (n k : Nat) (v : PValue) (h : n ≠ k) : (fs.set n v).get k = fs.get k :=
  get_put_other fs n k (some v) h

theorem get_clear_same (fs : PFields) (n : Nat) : (fs.clear n).get n = none :=
  get_put_same fs n none

theorem get_clear_other (fs : PFields) (n k : Nat) (h : n ≠ k) : (fs.clear n).get k = fs.get k :=
  get_put_other fs n k none h

def distinct : PFields → Bool
  | .nil => true
  | .cons n _ rest => (rest.get n).isNone && rest.distinct

theorem distinct_put : (fs : PFields) → (n : Nat) → (o : Option PValue) → fs.distinct = true →
    (fs.put n o).distinct = true
  | .nil, n, none, _ => rfl
  | .nil, n, some v, _ => rfl
  | .cons k w rest, n, o, h => by
    simp only [distinct, Bool.and_eq_true] at h
    have ih := distinct_put rest n o h.2
    by_cases hk : k = n
    · subst hk
      cases o with
      | none => simpa only [put, clear, if_true] using ih
      | some v => simpa only [put, set, if_true, distinct, Bool.and_eq_true] using h
    · have hg : ((rest.put n o).get k).isNone = true := by
        rw [get_put_other rest n k o (fun e => hk e.symm)]; exact h.1
      cases o with
      | none => simp only [put, clear, hk, if_false, distinct, Bool.and_eq_true]; exact ⟨hg, ih⟩
      | some v => simp only [put, set, hk, if_false, distinct, Bool.and_eq_true]; exact ⟨hg, ih⟩

end PFields

theorem distinctBy_cons {α β : Type} [DecidableEq β] {key : α → β} {a : α} {l : List α} :
    distinctBy key (a :: l) = true ↔ (∀ b ∈ l, key a ≠ key b) ∧ distinctBy key l = true := by
  simp only [distinctBy, Bool.and_eq_true, List.all_eq_true, decide_eq_true_eq]

theorem find_of_mem_distinct {α β : Type} [DecidableEq β] (key : α → β) (p : α → Bool) (a : α)
    (hp : ∀ x, p x = true ↔ key x = key a) :
    (l : List α) → distinctBy key l = true → a ∈ l → l.find? p = some a
  | [], _, h => by cases h
  | b :: bs, hd, hm => by
    have hd := distinctBy_cons.mp hd
    rcases List.mem_cons.mp hm with h | h
    · subst h
      have : p a = true := (hp a).mpr rfl
      simp [this]
    · have hne : key b ≠ key a := hd.1 a h
      have : p b = false := by
        cases hpb : p b
        · rfl
        · exact absurd ((hp b).mp hpb) hne
      simp only [List.find?_cons, this]
      exact find_of_mem_distinct key p a hp bs hd.2 h

theorem findField_of_mem (fields : List Field) (f : Field)
    (hd : distinctBy (fun f : Field => f.name) fields = true) (hm : f ∈ fields) :
    findField fields f.name = some f := by
  unfold findField
  exact find_of_mem_distinct (fun f : Field => f.name) _ f (by intro x; simp) fields hd hm

theorem findField_some {fields : List Field} {k : List Nat} {f : Field} (h : findField fields k = some f) :
    f.name = k ∧ f ∈ fields := by
  unfold findField at h
  have h1 := List.find?_some h
  have h2 := List.mem_of_find?_eq_some h
  simp at h1
  exact ⟨h1, h2⟩

theorem findField_cons_same (f : Field) (rest : List Field) : findField (f :: rest) f.name = some f := by
  simp [findField]

theorem findField_cons_other (f : Field) (rest : List Field) (k : List Nat) (h : f.name ≠ k) :
    findField (f :: rest) k = findField rest k := by
  simp [findField, h]

theorem findField_none_of_distinct (f : Field) (rest : List Field)
    (hd : ∀ b ∈ rest, f.name ≠ b.name) : findField rest f.name = none := by
  unfold findField
  rw [List.find?_eq_none]
  intro b hb
  simpa using fun e => hd b hb e.symm

/-- The third clause (numbers of no field in the list keep what `acc` held) carries the induction. -/
theorem encodeFields_spec (conv : Field → Option (Option PValue)) :
    (fields : List Field) → (acc : PFields) →
    distinctBy (fun f : Field => f.number) fields = true →
    (∀ f ∈ fields, ∃ o, conv f = some o ∧ ∀ pv, o = some pv → validFor f pv = true) →
    ∃ fs, encodeFields conv fields acc = some fs ∧
      (∀ f ∈ fields, ∀ o, conv f = some o → fs.get f.number = o) ∧
      (∀ n, (∀ f ∈ fields, f.number ≠ n) → fs.get n = acc.get n) ∧
      (acc.distinct = true → fs.distinct = true)
  | [], acc, _, _ => ⟨acc, rfl, (fun _ hf => nomatch hf), fun _ _ => rfl, id⟩
  | f :: rest, acc, hd, h => by
    have hd := distinctBy_cons.mp hd
    obtain ⟨o, ho, hv⟩ := h f List.mem_cons_self
    obtain ⟨fs, h1, h2, h3, h4⟩ := encodeFields_spec conv rest (acc.put f.number o) hd.2
      (fun g hg => h g (List.mem_cons_of_mem _ hg))
    refine ⟨fs, ?_, ?_, ?_, fun ha => h4 (PFields.distinct_put _ _ _ ha)⟩
    · cases o with
      | none => simpa only [encodeFields, ho, PFields.put] using h1
      | some pv => simpa only [encodeFields, ho, hv pv rfl, if_true, PFields.put] using h1
    · intro g hg o' ho'
      rcases List.mem_cons.mp hg with rfl | e
      · cases ho.symm.trans ho'
        rw [h3 g.number (fun g' hg' => (hd.1 g' hg').symm)]
        exact PFields.get_put_same _ _ _
      · exact h2 g e o' ho'
    · intro n hn
      rw [h3 n (fun g hg => hn g (List.mem_cons_of_mem _ hg))]
      exact PFields.get_put_other _ _ _ _ (hn f List.mem_cons_self)

theorem collectFields_spec (look : Field → Option (Option Value)) (e : Field → Option Value) :
    (fields : List Field) → (acc : VMap) → (∀ f ∈ fields, look f = some (e f)) →
    distinctBy (fun f : Field => f.name) fields = true → acc.SortedKeys = true →
    ∃ obj, collectFields look fields acc = some obj ∧ obj.SortedKeys = true ∧
      ∀ k, obj.get k =
        match findField fields k with
        | some f => (match e f with | some x => some x | none => acc.get k)
        | none => acc.get k
  | [], acc, _, _, hs => ⟨acc, rfl, hs, fun _ => rfl⟩
  | f :: rest, acc, h, hd, hs => by
    have hd := distinctBy_cons.mp hd
    have hf := h f List.mem_cons_self
    have hrest := fun g hg => h g (List.mem_cons_of_mem _ hg)
    have hnone := findField_none_of_distinct f rest hd.1
    cases he : e f with
    | none =>
      rw [he] at hf
      obtain ⟨obj, h1, h2, h3⟩ := collectFields_spec look e rest acc hrest hd.2 hs
      refine ⟨obj, by simp only [collectFields, hf, h1], h2, fun k => ?_⟩
      rw [h3 k]
      by_cases hk : f.name = k
      · subst hk; simp only [findField_cons_same, hnone, he]
      · rw [findField_cons_other f rest k hk]
    | some x =>
      rw [he] at hf
      obtain ⟨obj, h1, h2, h3⟩ := collectFields_spec look e rest (acc.insert f.name x) hrest hd.2
        (VMap.sortedKeys_insert acc _ _ hs)
      refine ⟨obj, by simp only [collectFields, hf, h1], h2, fun k => ?_⟩
      rw [h3 k]
      by_cases hk : f.name = k
      · subst hk; simp only [findField_cons_same, hnone, he]; exact VMap.get_insert_same _ _ _
      · rw [findField_cons_other f rest k hk, VMap.get_insert_other _ _ _ _ hk]

theorem toValueLookup_eq (pool : Pool) : (fs : PFields) → (f : Field) →
    toValueLookup pool fs f =
      match fs.get f.number with
      | none => some none
      | some pv => if hasValue pool f pv then (toValue pool (some f) pv).map some else some none
  | .nil, f => rfl
  | .cons n pv rest, f => by
    simp only [toValueLookup, PFields.get]
    split
    · rfl
    · exact toValueLookup_eq pool rest f

/-- keys strictly increasing (the values are not looked at): equal to `VMap.SortedKeys` (`keysSorted_eq`) -/
def keysSorted : VMap → Bool
  | .nil => true
  | .cons k _ m => VMap.allGt k m && keysSorted m

theorem keysSorted_eq : (m : VMap) → keysSorted m = m.SortedKeys
  | .nil => rfl
  | .cons _ _ m => by rw [keysSorted, VMap.SortedKeys, keysSorted_eq m]

theorem allGt_of_get : (m : VMap) → (k : List Nat) → keysSorted m = true →
    (∀ q, (q = k ∨ Key.lt q k = true) → m.get q = none) → VMap.allGt k m = true
  | .nil, _, _, _ => rfl
  | .cons l v m, k, hs, h => by
    simp only [keysSorted, Bool.and_eq_true] at hs
    have hget : (VMap.cons l v m).get l = some v := if_pos rfl
    have hkl : Key.lt k l = true :=
      Key.lt_of_not_lt_of_ne (fun h1 => nomatch (h l (Or.inr h1)).symm.trans hget)
        (fun e => nomatch (h l (Or.inl e.symm)).symm.trans hget)
    rw [VMap.allGt_cons]
    exact ⟨hkl, VMap.allGt_trans m k l hkl hs.1⟩

/-- what `ddMap` keeps of the entry `x` under the key `k` -/
def ddEntry (pool : Pool) (fields : List Field) (k : List Nat) (x : Value) : Option Value :=
  match findField fields k with
  | some f => if isDefaultValue pool f x then none else some (dropDefaults pool f x)
  | none => some x

theorem ddMap_cons (pool : Pool) (fields : List Field) (k : List Nat) (x : Value) (rest : VMap) :
    ddMap pool fields (.cons k x rest) =
      match ddEntry pool fields k x with
      | some y => .cons k y (ddMap pool fields rest)
      | none => ddMap pool fields rest := by
  unfold ddEntry
  cases hf : findField fields k with
  | none => simp only [ddMap, hf]
  | some f => cases hd : isDefaultValue pool f x <;> simp only [ddMap, hf, hd, Bool.false_eq_true, if_false, if_true]

theorem allGt_ddMap (pool : Pool) (fields : List Field) : (m : VMap) → (k : List Nat) →
    VMap.allGt k m = true → VMap.allGt k (ddMap pool fields m) = true
  | .nil, _, _ => rfl
  | .cons l x rest, k, h => by
    rw [VMap.allGt_cons] at h
    have ih := allGt_ddMap pool fields rest k h.2
    rw [ddMap_cons]
    cases ddEntry pool fields l x with
    | none => exact ih
    | some y => exact (Bool.and_eq_true _ _).mpr ⟨h.1, ih⟩

theorem allGt_ddEntries (pool : Pool) (vk : Kind) : (m : VMap) → (k : List Nat) →
    VMap.allGt k m = true → VMap.allGt k (ddEntries pool vk m) = true
  | .nil, _, _ => rfl
  | .cons l x rest, k, h => by
    have h : (Key.lt k l && VMap.allGt k rest) = true := h
    show (Key.lt k l && VMap.allGt k (ddEntries pool vk rest)) = true
    rw [Bool.and_eq_true] at h ⊢
    exact ⟨h.1, allGt_ddEntries pool vk rest k h.2⟩

theorem ddMap_spec (pool : Pool) (fields : List Field) : (m : VMap) → m.SortedKeys = true →
    (ddMap pool fields m).SortedKeys = true ∧
      ∀ k, (ddMap pool fields m).get k = (m.get k).bind (ddEntry pool fields k)
  | .nil, _ => ⟨rfl, fun _ => rfl⟩
  | .cons l x rest, h => by
    rw [VMap.sortedKeys_cons] at h
    obtain ⟨ih1, ih2⟩ := ddMap_spec pool fields rest h.2
    have hgt := allGt_ddMap pool fields rest l h.1
    rw [ddMap_cons]
    refine ⟨?_, fun k => ?_⟩
    · cases ddEntry pool fields l x with
      | none => exact ih1
      | some y => exact (Bool.and_eq_true _ _).mpr ⟨hgt, ih1⟩
    · by_cases e : l = k
      · -- nothing of the rest is stored under `l`, whether or not the entry for `l` is kept
        subst e
        show _ = (if l = l then some x else rest.get l).bind _
        rw [if_pos rfl]
        cases hd : ddEntry pool fields l x with
        | none => exact (VMap.get_none_of_allGt _ l hgt).trans hd.symm
        | some y => exact (if_pos rfl).trans hd.symm
      · show _ = (if l = k then some x else rest.get k).bind _
        rw [if_neg e, ← ih2 k]
        cases ddEntry pool fields l x with
        | none => rfl
        | some y => exact if_neg e

/-! `toValue` of a normalised message is `toValue` of the message only when every store has distinct
numbers and every repeated field holds a list (`C26.witness_bare_repeated`): `PFields.distinct`
and `hl` below. -/

/-- `none`: the message as built; `some w`: `normalize pool w` of it (`false` as `has_field` /
    `get_field` show it, `true` after the wire) -/
def normOpt (pool : Pool) : Option Bool → PValue → PValue
  | none, pv => pv
  | some w, pv => normalize pool w pv

def normFieldsOpt (pool : Pool) (fields : List Field) : Option Bool → PFields → PFields
  | none, fs => fs
  | some w, fs => normFields pool w fields fs

def normListOpt (pool : Pool) : Option Bool → PList → PList
  | none, xs => xs
  | some w, xs => normList pool w xs

def normMapOpt (pool : Pool) : Option Bool → PMap → PMap
  | none, es => es
  | some w, es => normMap pool w es

theorem normOpt_list (pool : Pool) (mode : Option Bool) (xs : PList) :
    normOpt pool mode (.list xs) = .list (normListOpt pool mode xs) := by
  cases mode <;> rfl

theorem normOpt_map (pool : Pool) (mode : Option Bool) (es : PMap) :
    normOpt pool mode (.map es) = .map (normMapOpt pool mode es) := by
  cases mode <;> rfl

theorem normListOpt_cons (pool : Pool) (mode : Option Bool) (v : PValue) (vs : PList) :
    normListOpt pool mode (.cons v vs) = .cons (normOpt pool mode v) (normListOpt pool mode vs) := by
  cases mode <;> rfl

theorem normMapOpt_cons (pool : Pool) (mode : Option Bool) (k : MapKey) (v : PValue) (es : PMap) :
    normMapOpt pool mode (.cons k v es) = .cons k (normOpt pool mode v) (normMapOpt pool mode es) := by
  cases mode <;> rfl

theorem normOpt_message {pool : Pool} {r : Nat} {md : MsgDesc} (h : pool.msg r = some md)
    (mode : Option Bool) (fs : PFields) :
    normOpt pool mode (.message r fs) = .message r (normFieldsOpt pool md.fields mode fs) := by
  cases mode with
  | none => rfl
  | some w => simp only [normOpt, normalize, h, normFieldsOpt]

theorem normOpt_enumNumber (pool : Pool) (mode : Option Bool) (n : Int) :
    normOpt pool mode (.enumNumber n) = .enumNumber n := by
  cases mode <;> rfl

theorem normOpt_of_scalar (pool : Pool) (mode : Option Bool) (pv : PValue) (s : Scalar)
    (h : validKind pv (.scalar s) = true) : normOpt pool mode pv = pv := by
  cases mode with
  | none => rfl
  | some w => cases pv <;> first | rfl | cases h

theorem normList_isEmpty (pool : Pool) (w : Bool) (xs : PList) : (normList pool w xs).isEmpty = xs.isEmpty := by
  cases xs <;> rfl

theorem normMap_isEmpty (pool : Pool) (w : Bool) (es : PMap) : (normMap pool w es).isEmpty = es.isEmpty := by
  cases es <;> rfl

/-- message-typed fields have presence -/
theorem isDefault_message (pool : Pool) (f : Field) (r : Nat) (fs : PFields) :
    isDefault pool f (.message r fs) = false := by
  show (if (f.isList || f.isMap) = true then false else _) = false
  split
  · rfl
  · cases f.kind <;> rfl

theorem isDefault_normalize (pool : Pool) (w : Bool) (f : Field) (pv : PValue) :
    isDefault pool f (normalize pool w pv) = isDefault pool f pv := by
  cases pv with
  | message r fs =>
    show isDefault pool f (match pool.msg r with
      | some md => .message r (normFields pool w md.fields fs)
      | none => .message r fs) = _
    cases pool.msg r <;> simp only [isDefault_message]
  | list xs =>
    show (f.isList && (normList pool w xs).isEmpty) = (f.isList && xs.isEmpty)
    rw [normList_isEmpty]
  | map es =>
    show (f.isMap && (normMap pool w es).isEmpty) = (f.isMap && es.isEmpty)
    rw [normMap_isEmpty]
  | _ => rfl

theorem hasValue_normalize (pool : Pool) (w : Bool) (f : Field) (pv : PValue) :
    hasValue pool f (normalize pool w pv) = hasValue pool f pv := by
  simp only [hasValue, isDefault_normalize]

theorem get_normFields (pool : Pool) (w : Bool) (fields : List Field)
    (hnum : distinctBy (fun f : Field => f.number) fields = true) :
    (fs : PFields) → fs.distinct = true → ∀ f ∈ fields,
    (normFields pool w fields fs).get f.number =
      match fs.get f.number with
      | none => none
      | some pv =>
        if hasValue pool f pv then some (wrapList (w && f.isList) pv (normalize pool w pv)) else none
  | .nil, _, f, _ => rfl
  | .cons n pv rest, hd, f, hf => by
    simp only [PFields.distinct, Bool.and_eq_true] at hd
    have ih := get_normFields pool w fields hnum rest hd.2 f hf
    by_cases hn : n = f.number
    · subst hn
      have hfind : fields.find? (fun g => g.number == f.number) = some f :=
        find_of_mem_distinct (fun f : Field => f.number) _ f (by intro x; simp) fields hnum hf
      have hrest : rest.get f.number = none := by simpa using hd.1
      rw [hrest] at ih
      simp only [normFields, hfind, PFields.get, if_true]
      split
      · simp only [PFields.get, if_true]
      · exact ih
    · simp only [normFields, PFields.get, hn, if_false]
      split
      · split
        · simp only [PFields.get, hn, if_false]; exact ih
        · exact ih
      · exact ih

/-- `hl`: a repeated field holds a list, so the wire does not wrap it (`wrapList`) -/
theorem toValueLookup_normFieldsOpt (pool : Pool) (fields : List Field)
    (hnum : distinctBy (fun f : Field => f.number) fields = true) (fs : PFields) (hd : fs.distinct = true)
    (f : Field) (hf : f ∈ fields)
    (hl : ∀ pv, fs.get f.number = some pv → f.isList = true → ∃ xs, pv = .list xs) (mode : Option Bool) :
    toValueLookup pool (normFieldsOpt pool fields mode fs) f =
      match fs.get f.number with
      | none => some none
      | some pv =>
        if hasValue pool f pv then (toValue pool (some f) (normOpt pool mode pv)).map some else some none := by
  rw [toValueLookup_eq]
  cases mode with
  | none => rfl
  | some w =>
    simp only [normFieldsOpt, get_normFields pool w fields hnum fs hd f hf, normOpt]
    cases hg : fs.get f.number with
    | none => rfl
    | some pv =>
      have hwrap : wrapList (w && f.isList) pv (normalize pool w pv) = normalize pool w pv := by
        unfold wrapList
        cases hi : f.isList with
        | false => simp only [Bool.and_false, Bool.false_eq_true, if_false]
        | true => obtain ⟨xs, rfl⟩ := hl pv hg hi; simp only [Bool.and_true]; split <;> rfl
      cases hh : hasValue pool f pv with
      | false => simp only [hh, Bool.false_eq_true, if_false]
      | true => simp only [if_true, hwrap, hasValue_normalize, hh]

/-- What the two case tables owe each other for one field: `ox` is `map.get(field_name)`, `o` what
    `convert_value` made of it.  `validFor` is there for the `encode_message` loop (`try_set_field`),
    the list clause because the wire wraps anything else in a repeated field (`wrapList`). -/
def FieldRT (pool : Pool) (f : Field) (ox : Option Value) (o : Option PValue) : Prop :=
  match ox with
  | none => o = none
  | some x => ∃ pv, o = some pv ∧ validFor f pv = true ∧ (f.isList = true → ∃ xs, pv = .list xs) ∧
      hasValue pool f pv = !isDefaultValue pool f x ∧
      ∀ mode, toValue pool (some f) (normOpt pool mode pv) = some (dropDefaults pool f x)

/-- Both sides are key-sorted objects (`collectFields` inserts in key order, `ddMap` filters a sorted
    object), so they are compared entry by entry through `get` (`VMap.ext_of_sortedKeys`). -/
theorem message_roundtrip (pool : Pool) (fields : List Field) (m : VMap)
    (conv : Field → Option (Option PValue))
    (hnames : distinctBy (fun f : Field => f.name) fields = true)
    (hnums : distinctBy (fun f : Field => f.number) fields = true)
    (hs : m.SortedKeys = true)
    (hkeys : ∀ k x, m.get k = some x → ∃ f, findField fields k = some f)
    (h : ∀ f ∈ fields, ∃ o, conv f = some o ∧ FieldRT pool f (m.get f.name) o) :
    ∃ fs, encodeFields conv fields .nil = some fs ∧ ∀ mode,
      collectFields (fun f => toValueLookup pool (normFieldsOpt pool fields mode fs) f) fields .nil =
        some (ddMap pool fields m) := by
  obtain ⟨fs, h1, h2, _, hdist⟩ := encodeFields_spec conv fields .nil hnums (by
    intro f hf
    obtain ⟨o, ho, hrt⟩ := h f hf
    refine ⟨o, ho, ?_⟩
    rintro pv rfl
    cases hx : m.get f.name <;> rw [hx] at hrt
    · cases hrt
    · obtain ⟨_, ⟨⟩, hv, _⟩ := hrt
      exact hv)
  refine ⟨fs, h1, fun mode => ?_⟩
  -- what the lookup of a field gives: the entry of `ddMap` under its name
  let e : Field → Option Value := fun f => (m.get f.name).bind (ddEntry pool fields f.name)
  have hlook : ∀ f ∈ fields, toValueLookup pool (normFieldsOpt pool fields mode fs) f = some (e f) := by
    intro f hf
    obtain ⟨o, ho, hrt⟩ := h f hf
    have key := toValueLookup_normFieldsOpt pool fields hnums fs (hdist rfl) f hf
    rw [h2 f hf o ho] at key
    cases hx : m.get f.name <;> rw [hx] at hrt
    · subst hrt
      rw [key nofun]
      simp only [e, hx]; rfl
    · obtain ⟨pv, rfl, _, hlist, hhas, htv⟩ := hrt
      rw [key (by rintro _ ⟨⟩; exact hlist)]
      simp only [e, hx, hhas, htv mode, Option.map_some, Option.bind_some, ddEntry,
        findField_of_mem fields f hnames hf]
      cases isDefaultValue pool f _ <;> rfl
  obtain ⟨hsd, hgd⟩ := ddMap_spec pool fields m hs
  obtain ⟨obj, ho, hso, hgo⟩ := collectFields_spec _ e fields .nil hlook hnames rfl
  rw [ho]
  congr 1
  apply VMap.ext_of_sortedKeys _ _ hso hsd
  intro k
  rw [hgo k, hgd k]
  cases hff : findField fields k with
  | none =>
    cases hx : m.get k with
    | none => rfl
    | some x =>
      obtain ⟨f, hf⟩ := hkeys k x hx
      rw [hff] at hf; cases hf
  | some f =>
    obtain ⟨rfl, _⟩ := findField_some hff
    show (match e f with | some x => some x | none => none) = e f
    cases e f <;> rfl

end Proto
