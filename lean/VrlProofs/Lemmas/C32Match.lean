/-
  Helper lemmas for C32 (iv): every capture of the reference matcher is a contiguous substring of
  the input (for every expression of the subset, any nesting, greedy or lazy).
-/
import VrlModel.GrokRegex

namespace Rx
open Grok (Str)

variable {input : Str}

/-- every captured text is a contiguous part of `input`. -/
def CapsOK (input : Str) (caps : Caps) : Prop := ∀ nt ∈ caps, nt.2 <:+: input

theorem setCap_ok {caps : Caps} (n t : Str) (h : CapsOK input caps) (ht : t <:+: input) :
    CapsOK input (setCap caps n t) := by
  induction caps with
  | nil => intro nt hnt; simp [setCap] at hnt; subst hnt; exact ht
  | cons kv rest ih =>
    obtain ⟨k, v⟩ := kv
    intro nt hnt
    simp only [setCap] at hnt
    split at hnt
    -- `k = n`: the entry is replaced
    · rcases List.mem_cons.mp hnt with rfl | h'
      · exact ht
      · exact h nt (List.mem_cons_of_mem _ h')
    -- `k ≠ n`: the entry stays, the rest is searched
    · rcases List.mem_cons.mp hnt with rfl | h'
      · exact h _ (by simp)
      · exact ih (fun x hx => h x (List.mem_cons_of_mem _ hx)) nt h'

/-- the text consumed between two positions of the input is a substring of the input. -/
theorem take_infix {input a b : Str} (ha : a <:+ input) (hb : b <:+ a) :
    a.take (a.length - b.length) <:+: input := by
  obtain ⟨pre, hpre⟩ := hb
  obtain ⟨pre2, hpre2⟩ := ha
  subst hpre
  have : (pre ++ b).take ((pre ++ b).length - b.length) = pre := by simp
  rw [this]
  exact ⟨pre2, b, by simp [← hpre2]⟩

/-- whatever `k` answers from a later position with well-formed captures is well formed. -/
def ContOK (input : Str) (k : K) (bound : Str) : Prop :=
  ∀ (st' : St) (caps' res' : Caps), st'.rest <:+ bound → CapsOK input caps' → k st' caps' = some res' → CapsOK input res'

theorem contOK_mono {k : K} {b1 b2 : Str} (h : ContOK input k b1)
    (hb : b2 <:+ b1) : ContOK input k b2 :=
  fun st' caps' res' hs hc hk => h st' caps' res' (List.IsSuffix.trans hs hb) hc hk

/-- the property proved of `run re`, abstracted so that it can be assumed of a loop body. -/
def RunOK (input : Str) (body : K → K) : Prop :=
  ∀ (k : K) (st : St) (caps res : Caps),
    st.rest <:+ input → CapsOK input caps → ContOK input k st.rest → body k st caps = some res → CapsOK input res

theorem orElse_some {a : Option Caps} {b : Unit → Option Caps} {r : Caps} (h : orElse a b = some r) :
    a = some r ∨ b () = some r := by
  unfold orElse at h
  cases a with
  | some x => left; exact h
  | none => right; exact h

theorem iter_ok {body : K → K} (hbody : RunOK input body) (k : K) (g : Bool) :
    ∀ (n : Nat) (st : St) (caps res : Caps),
      st.rest <:+ input → CapsOK input caps → ContOK input k st.rest →
      iter body k g n st caps = some res → CapsOK input res := by
  intro n
  induction n with
  | zero =>
    intro st caps res _ hc hk h
    exact hk st caps res (List.suffix_refl _) hc h
  | succ n ih =>
    intro st caps res hs hc hk h
    have hagain : body (fun st' caps' =>
        if st'.rest.length < st.rest.length then iter body k g n st' caps' else none) st caps = some res → CapsOK input res := by
      intro h'
      refine hbody _ st caps res hs hc ?_ h'
      intro st' caps' res' hs' hc' hk'
      dsimp only at hk'
      split at hk'
      · exact ih st' caps' res' (List.IsSuffix.trans hs' hs) hc' (contOK_mono hk hs') hk'
      · cases hk'
    dsimp only [iter] at h
    split at h
    · rcases orElse_some h with h' | h'
      · exact hagain h'
      · exact hk st caps res (List.suffix_refl _) hc h'
    · rcases orElse_some h with h' | h'
      · exact hk st caps res (List.suffix_refl _) hc h'
      · exact hagain h'

theorem oneChar_ok (input : Str) (p : Char → Bool) : RunOK input (oneChar p) := by
  intro k st caps res _ hc hk h
  revert h
  fun_cases oneChar p k st caps <;> intro h
  · rename_i c r hr _
    exact hk ⟨some c, r⟩ caps res (by rw [hr]; exact List.suffix_cons c r) hc h
  · cases h
  · cases h

theorem guard_ok (input : Str) (cond : St → Bool) :
    RunOK input (fun k st caps => if cond st then k st caps else none) := by
  intro k st caps res _ hc hk h
  simp only at h
  split at h
  · exact hk st caps res (List.suffix_refl _) hc h
  · cases h

theorem run_ok (input : Str) (re : Re) : RunOK input (run re) := by
  induction re with
  | eps => intro k st caps res _ hc hk h; exact hk st caps res (List.suffix_refl _) hc h
  | chr c => exact oneChar_ok input _
  | any => exact oneChar_ok input _
  | set neg items => exact oneChar_ok input _
  | seq a b iha ihb =>
    intro k st caps res hs hc hk h
    dsimp only [run] at h
    refine iha _ st caps res hs hc ?_ h
    intro st' caps' res' hs' hc' hk'
    exact ihb k st' caps' res' (List.IsSuffix.trans hs' hs) hc' (contOK_mono hk hs') hk'
  | alt a b iha ihb =>
    intro k st caps res hs hc hk h
    dsimp only [run] at h
    rcases orElse_some h with h' | h'
    · exact iha k st caps res hs hc hk h'
    · exact ihb k st caps res hs hc hk h'
  | rep kind g r ih =>
    intro k st caps res hs hc hk h
    cases kind with
    | star =>
      dsimp only [run] at h
      exact iter_ok ih k g _ st caps res hs hc hk h
    | plus =>
      dsimp only [run] at h
      refine ih _ st caps res hs hc ?_ h
      intro st' caps' res' hs' hc' hk'
      exact iter_ok ih k g _ st' caps' res' (List.IsSuffix.trans hs' hs) hc' (contOK_mono hk hs') hk'
    | opt =>
      dsimp only [run] at h
      split at h
      · rcases orElse_some h with h' | h'
        · exact ih k st caps res hs hc hk h'
        · exact hk st caps res (List.suffix_refl _) hc h'
      · rcases orElse_some h with h' | h'
        · exact hk st caps res (List.suffix_refl _) hc h'
        · exact ih k st caps res hs hc hk h'
  | grp name r ih =>
    intro k st caps res hs hc hk h
    cases name with
    | none => dsimp only [run] at h; exact ih k st caps res hs hc hk h
    | some n =>
      dsimp only [run] at h
      refine ih _ st caps res hs hc ?_ h
      intro st' caps' res' hs' hc' hk'
      exact hk st' _ res' hs' (setCap_ok n _ hc' (take_infix hs hs')) hk'
  | bos => exact guard_ok input (fun st => st.prev.isNone)
  | eos => exact guard_ok input (fun st => st.rest.isEmpty)
  | bol => exact guard_ok input (fun st => st.prev.isNone || st.prev = some '\n')
  | eol => exact guard_ok input (fun st => st.rest.isEmpty || st.rest.head? = some '\n')
  | wordb => exact guard_ok input (fun st => atWordB st)
  | nwordb =>
    intro k st caps res _ hc hk h
    dsimp only [run] at h
    split at h
    · cases h
    · exact hk st caps res (List.suffix_refl _) hc h

theorem matchAt_ok {re : Re} {prev : Option Char} {rest : Str} {caps : Caps}
    (hs : rest <:+ input) (h : matchAt re prev rest = some caps) : CapsOK input caps := by
  unfold matchAt at h
  refine run_ok input re _ ⟨prev, rest⟩ [] caps hs (fun _ h => nomatch h) ?_ h
  intro st' caps' res' _ hc' hk'
  simp at hk'; subst hk'; exact hc'

theorem searchFrom_ok {re : Re} : ∀ (rest : Str) (prev : Option Char) (caps : Caps),
    rest <:+ input → searchFrom re prev rest = some caps → CapsOK input caps := by
  intro rest
  induction rest with
  | nil => intro prev caps hs h; simp only [searchFrom] at h; exact matchAt_ok hs h
  | cons c cs ih =>
    intro prev caps hs h
    simp only [searchFrom] at h
    split at h
    · rename_i r hr; simp at h; subst h; exact matchAt_ok hs hr
    · exact ih (some c) caps (List.IsSuffix.trans (List.suffix_cons c cs) hs) h

end Rx
