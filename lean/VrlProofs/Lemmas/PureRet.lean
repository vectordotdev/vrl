/-
  An expression of the effect-free fragment `pureE` leaves the whole state untouched and never
  evaluates to `return`, by one induction (`pure_quiet`). C34 uses both halves: a discarded pure
  statement can be deleted, and it cannot end the program early with success.
-/
import VrlProofs.Lemmas.Pure
import VrlProofs.Lemmas.EvalBind

namespace Lang

theorem ofArith_no_ret (a : Arith.Res Value) (v : Value) : ofArith a ≠ .ret v := by
  rcases ofArith_shape a with ⟨x, h⟩ | h | h <;> rw [h] <;> nofun

theorem binop_no_ret (o : Opcode) (a b v : Value) : binop o a b ≠ .ret v := by
  rcases binop_shape o a b with ⟨x, h⟩ | h | h <;> rw [h] <;> nofun

/-- the evaluation left the state `s` as it was and did not end in `return` (`ret v` is that outcome
    in the result type at hand) -/
def Quiet {α : Type} (ret : Value → α) (s : St) (x : α × St) : Prop := x.2 = s ∧ ∀ v, x.1 ≠ ret v

theorem bindOk_quiet {s : St} {x : Res × St} {k : Value → St → Res × St} (hx : Quiet .ret s x)
    (hk : ∀ v, Quiet .ret s (k v s)) : Quiet .ret s (bindOk x k) := by
  rcases bindOk_cases x k with ⟨v, s1, rfl, h⟩ | ⟨-, h⟩ <;> rw [h]
  · cases hx.1; exact hk v
  · exact hx

/- Every construct of the fragment evaluates its sub-expressions in order, each in the unchanged
   state, hands on the first outcome that is not a value — by induction not a `return` — and
   otherwise computes a value or an error from the values. For the literals, whose elements are
   collected in `Except`, the outcome of a sub-evaluation is generalised to `x` before the `match`
   on it is split. -/
mutual
  theorem pure_quiet : (e : Expr) → pureE e = true → ∀ s, Quiet .ret s (eval e s)
    | .lit _, _, _ | .noop, _, _ | .var _, _, _ | .qvar _ _, _, _ => ⟨rfl, nofun⟩
    | .existsVar n _, _, s => by rw [eval_existsVar]; split <;> exact ⟨rfl, nofun⟩
    | .grp e, hp, s => pure_quiet e hp s
    | .not e, hp, s => by
      rw [eval_not]; exact bindOk_quiet (pure_quiet e hp s) fun v => by split <;> exact ⟨rfl, nofun⟩
    | .qexpr e _, hp, s => by
      rw [eval_qexpr]; exact bindOk_quiet (pure_quiet e hp s) fun _ => ⟨rfl, nofun⟩
    | .existsExpr e _, hp, s => by
      rw [eval_existsExpr]; exact bindOk_quiet (pure_quiet e hp s) fun _ => ⟨rfl, nofun⟩
    | .arr es, hp, s => by
      obtain ⟨h1, n1⟩ := pureList_quiet es hp s
      rw [eval_arr]
      generalize evalList es s = x at h1 n1
      split
      · exact ⟨h1, nofun⟩
      · exact ⟨h1, fun v e => n1 v (congrArg _ e)⟩
    | .obj kvs, hp, s => by
      obtain ⟨h1, n1⟩ := pureKVs_quiet kvs hp s
      rw [eval_obj]
      generalize evalKVs kvs s = x at h1 n1
      split
      · exact ⟨h1, nofun⟩
      · exact ⟨h1, fun v e => n1 v (congrArg _ e)⟩
    | .op o l r, hp, s => by
      obtain ⟨hol, hr⟩ := Bool.and_eq_true_iff.mp hp
      obtain ⟨ho, hl⟩ := Bool.and_eq_true_iff.mp hol
      rw [eval_op_strict o ho]
      exact bindOk_quiet (pure_quiet l hl s) fun _ => bindOk_quiet (pure_quiet r hr s) fun _ =>
        ⟨rfl, binop_no_ret _ _ _⟩
    | .call name _ _ args hasClosure _ _, hp, s => by
      -- `pureFnName name` is not needed: every call without closure keeps the state and returns only
      -- through its arguments, a name outside the modelled subset being out of model (`oom`)
      obtain ⟨hnc, ha⟩ := Bool.and_eq_true_iff.mp hp
      cases hasClosure with
      | true => exact absurd (Bool.and_eq_true_iff.mp hnc).2 Bool.false_ne_true
      | false =>
        have hq := pureArgs_quiet args ha
        exact ⟨callFn_stable name _ (fun k t h => (hq k t h).1) s,
          callFn_no_ret name _ (fun k t h => (hq k t h).2) s⟩
    | .blk _, h, _ | .ifte _ _ _ _, h, _ | .asg _ _, h, _ | .iasg _ _ _ _, h, _ | .qext _ _, h, _
    | .abort _ _, h, _ | .ret _, h, _ | .delExt _ _ _ _, h, _ | .delVar _ _ _ _, h, _
    | .delExpr _ _ _ _, h, _ | .existsExt _ _, h, _ => absurd h Bool.false_ne_true

  theorem pureList_quiet : (es : Exprs) → pureS es = true → ∀ s, Quiet (.error ∘ .ret) s (evalList es s)
    | .nil, _, _ => ⟨rfl, nofun⟩
    | .cons e es, hp, s => by
      obtain ⟨he, hes⟩ := Bool.and_eq_true_iff.mp hp
      obtain ⟨h1, n1⟩ := pure_quiet e he s
      rw [evalList_cons]
      generalize eval e s = x at h1 n1
      split
      · obtain ⟨h2, n2⟩ := pureList_quiet es hes _
        generalize evalList es _ = y at h2 n2
        split
        · exact ⟨h2.trans h1, nofun⟩
        · exact ⟨h2.trans h1, n2⟩
      · exact ⟨h1, fun v e => n1 v (Except.error.inj e)⟩

  theorem pureKVs_quiet : (k : KExprs) → pureK k = true → ∀ s, Quiet (.error ∘ .ret) s (evalKVs k s)
    | .nil, _, _ => ⟨rfl, nofun⟩
    | .cons _ e kes, hp, s => by
      obtain ⟨he, hes⟩ := Bool.and_eq_true_iff.mp hp
      obtain ⟨h1, n1⟩ := pure_quiet e he s
      rw [evalKVs_cons]
      generalize eval e s = x at h1 n1
      split
      · obtain ⟨h2, n2⟩ := pureKVs_quiet kes hes _
        generalize evalKVs kes _ = y at h2 n2
        split
        · exact ⟨h2.trans h1, nofun⟩
        · exact ⟨h2.trans h1, n2⟩
      · exact ⟨h1, fun v e => n1 v (Except.error.inj e)⟩

  theorem pureArgs_quiet : (as : Args) → pureA as = true → ∀ k t, (k, t) ∈ thunks as → Stable t ∧ NoRet t
    | .nil, _, _, _, hm => nomatch hm
    | .cons _ e as, hp, k, t, hm => by
      obtain ⟨he, has⟩ := Bool.and_eq_true_iff.mp hp
      rcases List.mem_cons.mp hm with e1 | e1
      · cases e1; exact ⟨fun s => (pure_quiet e he s).1, fun s => (pure_quiet e he s).2⟩
      · exact pureArgs_quiet as has k t e1
end

theorem pure_no_ret : (e : Expr) → pureE e = true → ∀ s v, (eval e s).1 ≠ .ret v :=
  fun e h s => (pure_quiet e h s).2

theorem pureList_no_ret : (es : Exprs) → pureS es = true → ∀ s v, (evalList es s).1 ≠ .error (.ret v) :=
  fun es h s => (pureList_quiet es h s).2

theorem pureKVs_no_ret : (k : KExprs) → pureK k = true → ∀ s v, (evalKVs k s).1 ≠ .error (.ret v) :=
  fun k h s => (pureKVs_quiet k h s).2

theorem pureArgs_no_ret : (as : Args) → pureA as = true → ∀ k t, (k, t) ∈ thunks as → NoRet t :=
  fun as h k t hm => (pureArgs_quiet as h k t hm).2

end Lang
