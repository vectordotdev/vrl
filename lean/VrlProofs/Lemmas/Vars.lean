import VrlModel.Lang.Eval

/-! Algebra of the runtime variable store (`RuntimeState.variables`) and of the closure
    parameter bookkeeping (`insert` / `cleanup` of function/closure.rs). -/

namespace Lang

theorem find_filter_ne {α : Type} (l : List (String × α)) (n m : String) (h : n ≠ m) :
    (l.filter (·.1 != n)).find? (·.1 == m) = l.find? (·.1 == m) := by
  rw [List.find?_filter]
  congr; funext x
  by_cases hx : x.1 = m <;> simp [hx, Ne.symm h]

theorem find_filter_same (l : List (String × Value)) (n : String) :
    (l.filter (·.1 != n)).find? (·.1 == n) = none := by
  rw [List.find?_filter, List.find?_eq_none]
  intro x _
  by_cases hx : x.1 = n <;> simp [hx]

namespace St

@[simp] theorem getVar_setVar_same (s : St) (n : String) (v : Value) :
    (s.setVar n v).getVar n = some v := by
  simp [getVar, setVar]

theorem getVar_setVar_other (s : St) (n m : String) (v : Value) (h : n ≠ m) :
    (s.setVar n v).getVar m = s.getVar m := by
  have hm : (n == m) = false := by simp [h]
  simp [getVar, setVar, hm, find_filter_ne _ _ _ h]

@[simp] theorem getVar_delVar_same (s : St) (n : String) : (s.delVar n).getVar n = none := by
  simp [getVar, delVar]

theorem getVar_delVar_other (s : St) (n m : String) (h : n ≠ m) :
    (s.delVar n).getVar m = s.getVar m := by
  simp [getVar, delVar, find_filter_ne _ _ _ h]

end St

/-- binding a parameter and later restoring it gives back the outer value, whatever happened to
    the state in between. -/
theorem cCleanup_restores (s t : St) (p : String) (v : Value) :
    (cCleanup t (some p) (cInsert s (some p) v).1).getVar p = s.getVar p := by
  simp only [cInsert, cCleanup]
  cases h : s.getVar p with
  | none => simp
  | some w => simp

theorem cCleanup_other (t : St) (i : Option String) (old : Option Value) (p : String)
    (h : i ≠ some p) : (cCleanup t i old).getVar p = t.getVar p := by
  cases i with
  | none => rfl
  | some n =>
    have hn : n ≠ p := by intro e; exact h (by rw [e])
    cases old with
    | none => simp [cCleanup, St.getVar_delVar_other _ _ _ hn]
    | some w => simp [cCleanup, St.getVar_setVar_other _ _ _ _ hn]

theorem cInsert_other (s : St) (i : Option String) (v : Value) (p : String) (h : i ≠ some p) :
    (cInsert s i v).2.getVar p = s.getVar p := by
  cases i with
  | none => rfl
  | some n =>
    have hn : n ≠ p := by intro e; exact h (by rw [e])
    simp [cInsert, St.getVar_setVar_other _ _ _ _ hn]

/-- the same for two parameters bound in order and restored in reverse order, also when both have
    the same name -/
theorem cCleanup_restores_pair (s t : St) (i0 i1 : Option String) (a v : Value) (p : String)
    (hp : i0 = some p ∨ i1 = some p) :
    (cCleanup (cCleanup t i1 (cInsert (cInsert s i0 a).2 i1 v).1) i0 (cInsert s i0 a).1).getVar p =
      s.getVar p := by
  by_cases h0 : i0 = some p
  · rw [h0]; exact cCleanup_restores _ _ _ _
  · rw [cCleanup_other _ _ _ _ h0, hp.resolve_left h0, cCleanup_restores, cInsert_other _ _ _ _ h0]

end Lang
