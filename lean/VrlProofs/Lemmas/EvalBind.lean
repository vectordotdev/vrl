import VrlModel.Lang.Pure
import VrlProofs.Lemmas.Eval

/-! `Expression::resolve` evaluates an operand with `?` and goes on with its value: `bindOk`.
    Equations of `Lang.eval` for the forms whose arm a proof rewrites with (`.grp`, `.blk`, `.noop` and
    `abort` without a message are used up to unfolding); from `eval_op_strict` on in the shape of
    `bindOk`, so that a property `bindOk` preserves is proved of each such form in one step
    (`eval_iasg` has one arm more, for the error it catches). `binop_shape` and `tryAnd_shape` say what
    the value-level `Lang.binop` / `tryAnd` of an operator can end with; several files check such a
    property against them. -/

namespace Lang

/-- go on with the value of a successful evaluation; any other outcome is the outcome of the whole -/
def bindOk (x : Res × St) (k : Value → St → Res × St) : Res × St :=
  match x with
  | (.ok v, s) => k v s
  | r => r

theorem bindOk_cases (x : Res × St) (k : Value → St → Res × St) :
    (∃ v s, x = (.ok v, s) ∧ bindOk x k = k v s) ∨ ((∀ v, x.1 ≠ .ok v) ∧ bindOk x k = x) := by
  obtain ⟨r, s⟩ := x
  cases r
  case ok v => exact Or.inl ⟨v, s, rfl, rfl⟩
  all_goals exact Or.inr ⟨nofun, rfl⟩

theorem bindOk_ok (v : Value) (s : St) (k : Value → St → Res × St) : bindOk (.ok v, s) k = k v s := rfl

theorem bindOk_of_not_ok {x : Res × St} (k : Value → St → Res × St) (h : ∀ v, x.1 ≠ .ok v) :
    bindOk x k = x := by
  obtain ⟨r, s⟩ := x
  cases r with
  | ok v => exact absurd rfl (h v)
  | _ => rfl

theorem bindOk_keeps {J : St → Prop} {x : Res × St} {k : Value → St → Res × St} (hx : J x.2)
    (hk : ∀ v s, J s → J (k v s).2) : J (bindOk x k).2 := by
  rcases bindOk_cases x k with ⟨v, s, rfl, h⟩ | ⟨-, h⟩ <;> rw [h]
  · exact hk v s hx
  · exact hx

theorem eval_lit (v : Value) (s : St) : eval (.lit v) s = (.ok v, s) := by rfl
theorem eval_var (n : String) (s : St) : eval (.var n) s = (.ok ((s.getVar n).getD .null), s) := by rfl
theorem eval_qvar (n : String) (p : Path) (s : St) :
    eval (.qvar n p) s = (.ok ((((s.getVar n).getD .null).get p).getD .null), s) := by rfl
theorem eval_qext (m : Bool) (p : Path) (s : St) :
    eval (.qext m p) s = (.ok ((s.targetGet m p).1.getD .null), (s.targetGet m p).2) := by rfl
theorem eval_existsVar (n : String) (p : Path) (s : St) :
    eval (.existsVar n p) s =
      (match s.getVar n with
       | some v => (.ok (.bool (v.get p).isSome), s)
       | none => (.ok (.bool false), s)) := by rfl
theorem eval_existsExt (m : Bool) (p : Path) (s : St) :
    eval (.existsExt m p) s = (.ok (.bool (s.targetGet m p).1.isSome), (s.targetGet m p).2) := by rfl
theorem eval_call (name : String) (a b : Nat) (args : Args) (hasClosure : Bool) (cvars : List String)
    (cbody : Exprs) (s : St) :
    eval (.call name a b args hasClosure cvars cbody) s =
      callFn name (thunks args) (if hasClosure then some (cvars, fun s => evalSeq cbody s) else none)
        (if hasClosure then { s with evClosure := true } else s) := by rfl
theorem eval_arr (es : Exprs) (s : St) :
    eval (.arr es) s =
      (match evalList es s with
       | (.ok vs, s) => (.ok (.arr vs), s)
       | (.error r, s) => (r, s)) := by rfl
theorem eval_obj (kvs : KExprs) (s : St) :
    eval (.obj kvs) s =
      (match evalKVs kvs s with
       | (.ok mp, s) => (.ok (.obj mp), s)
       | (.error r, s) => (r, s)) := by rfl
theorem eval_err (l r : Expr) (s : St) :
    eval (.op .err l r) s =
      (match eval l { s with evCatch := true } with
       | (.err, s) => eval r s
       | x => x) := by rfl

theorem evalSeq_one (e : Expr) (s : St) : evalSeq (.cons e .nil) s = eval e s := by rfl
theorem evalList_cons (e : Expr) (es : Exprs) (s : St) :
    evalList (.cons e es) s =
      (match eval e s with
       | (.ok v, s) =>
         (match evalList es s with
          | (.ok vs, s) => (.ok (.cons v vs), s)
          | r => r)
       | (r, s) => (.error r, s)) := by rfl
theorem evalKVs_cons (k : List Nat) (e : Expr) (kes : KExprs) (s : St) :
    evalKVs (.cons k e kes) s =
      (match eval e s with
       | (.ok v, s) =>
         (match evalKVs kes s with
          | (.ok mp, s) => (.ok (.cons k v mp), s)
          | r => r)
       | (r, s) => (.error r, s)) := by rfl

theorem ofArith_shape (r : Arith.Res Value) : (∃ x, ofArith r = .ok x) ∨ ofArith r = .err ∨ ofArith r = .panic := by
  cases r
  · exact Or.inl ⟨_, rfl⟩
  · exact Or.inr (Or.inl rfl)
  · exact Or.inr (Or.inr rfl)

theorem binop_shape (o : Opcode) (v w : Value) :
    (∃ x, binop o v w = .ok x) ∨ binop o v w = .err ∨ binop o v w = .panic := by
  cases o <;> first | exact ofArith_shape _ | exact Or.inl ⟨_, rfl⟩ | exact Or.inr (Or.inr rfl)

theorem tryAnd_shape (v w : Value) :
    (∃ b, tryAnd v w = .ok (.bool b)) ∨ tryAnd v w = .err := by
  unfold tryAnd Arith.tryAnd
  split <;> first | exact Or.inl ⟨_, rfl⟩ | exact Or.inr rfl

/-- `plainOp` admits the opcodes whose operands are both evaluated first: what the `_strict` lemmas are about -/
theorem eval_op_strict (o : Opcode) (ho : plainOp o = true) (l r : Expr) (s : St) :
    eval (.op o l r) s =
      bindOk (eval l s) fun v s => bindOk (eval r s) fun w s => (binop o v w, s) := by
  -- the arm is the catch-all after those of `??`, `||`, `&&`: it is stuck while the opcode is a variable
  cases o <;> first | rfl | cases ho

/-- `null` and `false`: the values on which `||` evaluates its right operand and `&&` does not -/
def falsy : Value → Bool
  | .null | .bool false => true
  | _ => false

theorem eval_or (l r : Expr) (s : St) :
    eval (.op .or l r) s =
      bindOk (eval l { s with evShort := true }) fun v s => if falsy v then eval r s else (.ok v, s) := by
  show (match eval l { s with evShort := true } with
    | (.ok .null, s) | (.ok (.bool false), s) =>
      (match eval r s with
       | (.ok v, s) => (Res.ok v, s) | (.panic, s) => (.panic, s) | (.oom, s) => (.oom, s) | r => r)
    | r => r) = _
  -- the inner `match` rewrites the error of the right operand, which the model does not keep: the identity
  have inner : ∀ x : Res × St, (match x with
      | (.ok v, s) => (Res.ok v, s) | (.panic, s) => (.panic, s) | (.oom, s) => (.oom, s) | r => r) = x := by
    rintro ⟨r2, s2⟩; cases r2 <;> rfl
  obtain ⟨r1, s1⟩ := eval l { s with evShort := true }
  cases r1
  case ok v =>
    cases v
    case bool b => cases b <;> first | rfl | exact inner _
    all_goals first | rfl | exact inner _
  all_goals rfl

theorem eval_and (l r : Expr) (s : St) :
    eval (.op .and l r) s =
      bindOk (eval l { s with evShort := true }) fun v s =>
        if falsy v then (.ok (.bool false), s) else bindOk (eval r s) fun w s => (tryAnd v w, s) := by
  show (match eval l { s with evShort := true } with
    | (.ok .null, s) | (.ok (.bool false), s) => (Res.ok (.bool false), s)
    | (.ok v, s) => (match eval r s with | (.ok w, s) => (tryAnd v w, s) | r => r)
    | r => r) = _
  obtain ⟨r1, s1⟩ := eval l { s with evShort := true }
  cases r1
  case ok v =>
    cases v
    case bool b => cases b <;> rfl
    all_goals rfl
  all_goals rfl

theorem eval_not (e : Expr) (s : St) :
    eval (.not e) s = bindOk (eval e s) fun v s =>
      match v with
      | .bool b => (.ok (.bool (!b)), s)
      | _ => (.err, s) := by
  show (match eval e s with
    | (.ok (.bool b), s) => (Res.ok (.bool (!b)), s) | (.ok _, s) => (.err, s) | r => r) = _
  obtain ⟨r, s1⟩ := eval e s
  cases r
  case ok v => cases v <;> rfl
  all_goals rfl

theorem eval_qexpr (e : Expr) (p : Path) (s : St) :
    eval (.qexpr e p) s = bindOk (eval e s) fun v s => (.ok ((v.get p).getD .null), s) := by
  rfl

theorem eval_existsExpr (e : Expr) (p : Path) (s : St) :
    eval (.existsExpr e p) s = bindOk (eval e s) fun v s => (.ok (.bool (v.get p).isSome), s) := by
  rfl

theorem eval_ret (e : Expr) (s : St) :
    eval (.ret e) s = bindOk (eval e s) fun v s => (.ret v, { s with evRet := true }) := by
  rfl

theorem eval_asg (t : Tgt) (e : Expr) (s : St) :
    eval (.asg t e) s = bindOk (eval e s) fun v s =>
      match t.insert v s with
      | some s => (.ok v, s)
      | none => (.panic, s) := by
  rfl

theorem eval_abort_msg (msg : Expr) (s : St) :
    eval (.abort true msg) s = bindOk (eval msg s) fun v s =>
      match v with
      | .bytes b => if validUtf8 b then (.abort (some b), { s with evAbort := true }) else (.oom, s)
      | _ => (.err, s) := by
  show (match eval msg s with
    | (.ok (.bytes b), s) => if validUtf8 b then (Res.abort (some b), { s with evAbort := true }) else (.oom, s)
    | (.ok _, s) => (.err, s)
    | r => r) = _
  obtain ⟨r, s1⟩ := eval msg s
  cases r
  case ok v => cases v <;> rfl
  all_goals rfl

theorem eval_ifte (pred thn : Exprs) (hasElse : Bool) (els : Exprs) (s : St) :
    eval (.ifte pred thn hasElse els) s = bindOk (evalSeq pred { s with evShort := true }) fun v s =>
      match v with
      | .bool true => evalSeq thn s
      | .bool false => if hasElse then evalSeq els s else (.ok .null, s)
      | _ => (.err, s) := by
  show (match evalSeq pred { s with evShort := true } with
    | (.ok (.bool true), s) => evalSeq thn s
    | (.ok (.bool false), s) => if hasElse then evalSeq els s else (.ok .null, s)
    | (.ok _, s) => (.err, s)
    | r => r) = _
  obtain ⟨r, s1⟩ := evalSeq pred { s with evShort := true }
  cases r
  case ok v =>
    cases v
    case bool b => cases b <;> rfl
    all_goals rfl
  all_goals rfl

/-- the `compact` argument of `del`: evaluated when given, `false` otherwise -/
def evalCompact (hasC : Bool) (c : Expr) (s : St) : Res × St :=
  if hasC then eval c s else (.ok (.bool false), s)

theorem evalCompact_cases (hasC : Bool) (c : Expr) (s : St) :
    evalCompact hasC c s = eval c s ∨ evalCompact hasC c s = (.ok (.bool false), s) := by
  cases hasC
  · exact Or.inr rfl
  · exact Or.inl rfl

theorem eval_delExt (m : Bool) (p : Path) (hasC : Bool) (c : Expr) (s : St) :
    eval (.delExt m p hasC c) s = bindOk (evalCompact hasC c s) fun v s =>
      match v with
      | .bool compact => (.ok ((s.targetRemove m p compact).1.getD .null), (s.targetRemove m p compact).2)
      | _ => (.err, s) := by
  show (match evalCompact hasC c s with
    | (.ok (.bool compact), s) =>
      let (r, s) := s.targetRemove m p compact
      (Res.ok (r.getD .null), s)
    | (.ok _, s) => (.err, s)
    | r => r) = _
  obtain ⟨r, s1⟩ := evalCompact hasC c s
  cases r
  case ok v => cases v <;> rfl
  all_goals rfl

theorem eval_delVar (n : String) (p : Path) (hasC : Bool) (c : Expr) (s : St) :
    eval (.delVar n p hasC c) s = bindOk (evalCompact hasC c s) fun v s =>
      match v with
      | .bool compact =>
        (match s.getVar n with
         | some x => (.ok ((x.remove p compact).1.getD .null), s.setVar n (x.remove p compact).2)
         | none => (.ok .null, s))
      | _ => (.err, s) := by
  show (match evalCompact hasC c s with
    | (.ok (.bool compact), s) =>
      (match s.getVar n with
       | some v =>
         let (r, v') := v.remove p compact
         (Res.ok (r.getD .null), s.setVar n v')
       | none => (.ok .null, s))
    | (.ok _, s) => (.err, s)
    | r => r) = _
  obtain ⟨r, s1⟩ := evalCompact hasC c s
  cases r
  case ok v => cases v <;> rfl
  all_goals rfl

theorem eval_delExpr (e : Expr) (p : Path) (hasC : Bool) (c : Expr) (s : St) :
    eval (.delExpr e p hasC c) s = bindOk (evalCompact hasC c s) fun v s =>
      match v with
      | .bool _ => bindOk (eval e s) fun x s => (.ok ((x.get p).getD .null), s)
      | _ => (.err, s) := by
  show (match evalCompact hasC c s with
    | (.ok (.bool _), s) =>
      (match eval e s with
       | (.ok v, s) => (Res.ok ((v.get p).getD .null), s)
       | r => r)
    | (.ok _, s) => (.err, s)
    | r => r) = _
  obtain ⟨r, s1⟩ := evalCompact hasC c s
  cases r
  case ok v => cases v <;> rfl
  all_goals rfl

/-- `ok, err = e` after `e` evaluated to `v` -/
def iasgOk (okT errT : Tgt) (v : Value) (s : St) : Res × St :=
  match okT.insert v s with
  | none => (.panic, s)
  | some s =>
    match errT.insert .null s with
    | none => (.panic, s)
    | some s => (.ok v, s)

/-- `ok, err = e` after `e` raised a run-time error: `ok` gets the default, `err` the message -/
def iasgErr (okT errT : Tgt) (dflt : Value) (s : St) : Res × St :=
  match okT.insert dflt s with
  | none => (.panic, s)
  | some s =>
    match s.errs with
    | [] => (.oom, s)
    | msg :: rest =>
      match errT.insert (.bytes msg) { s with errs := rest } with
      | none => (.panic, { s with errs := rest })
      | some s => (.ok (.bytes msg), s)

theorem eval_iasg (okT errT : Tgt) (e : Expr) (dflt : Value) (s : St) :
    eval (.iasg okT errT e dflt) s =
      (match eval e { s with evCatch := true } with
       | (.ok v, s) => iasgOk okT errT v s
       | (.err, s) => iasgErr okT errT dflt s
       | x => x) := by
  show (match eval e { s with evCatch := true } with
    | (.ok v, s) => iasgOk okT errT v s
    | (.panic, s) => (.panic, s)
    | (.oom, s) => (.oom, s)
    | (.abort x, s) => (.abort x, s)
    | (.ret x, s) => (.ret x, s)
    | (.err, s) => iasgErr okT errT dflt s) = _
  obtain ⟨r, s1⟩ := eval e { s with evCatch := true }
  cases r <;> rfl

theorem evalSeq_cons (e e' : Expr) (es : Exprs) (s : St) :
    evalSeq (.cons e (.cons e' es)) s = bindOk (eval e s) fun _ s => evalSeq (.cons e' es) s := by
  rfl

end Lang
