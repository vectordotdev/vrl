import VrlModel.Lang.TypeSpec

/-! Equations of `Lang.typeInfo` and `Lang.checks` (and of their loops over sequences, array and
    object literals) for the expression forms whose arm a proof has to see written out; all hold by
    unfolding the definition, and the other forms are used up to that unfolding. (`rw [typeInfo]`
    instead makes Lean build the equation of the whole mutual definition at every use.) -/

namespace Lang

variable (T : TState)

theorem typeInfo_arr (es : Exprs) : typeInfo (.arr es) T = ((typeArr es T {}).1.finish, (typeArr es T {}).2) := by rfl
theorem typeInfo_obj (kvs : KExprs) :
    typeInfo (.obj kvs) T = ((typeObj kvs T {}).1.finish, (typeObj kvs T {}).2) := by rfl
theorem typeInfo_ifte (pred thn : Exprs) (hasElse : Bool) (els : Exprs) :
    typeInfo (.ifte pred thn hasElse els) T =
      ifResult hasElse (typeSeq pred T {}).1.finish
        (typeSeq thn (typeSeq pred T {}).2 {}).1.finish
        (scopedState (typeSeq pred T {}).2.locals (typeSeq thn (typeSeq pred T {}).2 {}).2)
        (typeSeq els (typeSeq pred T {}).2 {}).1.finish
        (scopedState (typeSeq pred T {}).2.locals (typeSeq els (typeSeq pred T {}).2 {}).2)
        (typeSeq pred T {}).2 := by rfl
theorem typeInfo_op (o : Opcode) (l r : Expr) :
    typeInfo (.op o l r) T =
      (opDef o (typeInfo l T).1 (constOf l T) (typeInfo r (typeInfo l T).2).1 (constOf r (typeInfo l T).2),
       opState o (typeInfo l T).1 (constOf l T) (typeInfo l T).2 (typeInfo r (typeInfo l T).2).2) := by rfl
theorem typeInfo_qvar (n : String) (p : Path) : typeInfo (.qvar n p) T = ((varDef T n).atPath p, T) := by rfl
theorem typeInfo_var (n : String) : typeInfo (.var n) T = (varDef T n, T) := by rfl
theorem typeInfo_delExt_compact (m : Bool) (p : Path) (c : Expr) :
    typeInfo (.delExt m p true c) T =
      (let rt := TypeDef.ofKind (((typeInfo c T).2.extKind m).atPath p)
       rt.maybeFallible (rt.fallible || delFallible true (typeInfo c T).1.kind),
       delExternal (typeInfo c T).2 (some (m, p)) ((constOf c (typeInfo c T).2).bind asBoolean)) := by rfl
theorem typeInfo_delVar_compact (n : String) (p : Path) (c : Expr) :
    typeInfo (.delVar n p true c) T =
      (let rt := (varDef (typeInfo c T).2 n).atPath p
       rt.maybeFallible (rt.fallible || delFallible true (typeInfo c T).1.kind),
       delVarUpdate (delExternal (typeInfo c T).2 none ((constOf c (typeInfo c T).2).bind asBoolean)) n p
         ((constOf c (typeInfo c T).2).bind asBoolean)) := by rfl

theorem typeArr_nil (acc : ArrAcc) : typeArr .nil T acc = (acc, T) := by rfl
theorem typeArr_cons (e : Expr) (es : Exprs) (acc : ArrAcc) :
    typeArr (.cons e es) T acc =
      if (acc.step (typeInfo e T).1.upgradeUndefined).stop.isSome then
        (acc.step (typeInfo e T).1.upgradeUndefined, (typeInfo e T).2)
      else typeArr es (typeInfo e T).2 (acc.step (typeInfo e T).1.upgradeUndefined) := by rfl
theorem typeObj_nil (acc : ObjAcc) : typeObj .nil T acc = (acc, T) := by rfl
theorem typeObj_cons (k : Key) (e : Expr) (kes : KExprs) (acc : ObjAcc) :
    typeObj (.cons k e kes) T acc =
      if (acc.step k (typeInfo e T).1.upgradeUndefined).stop.isSome then
        (acc.step k (typeInfo e T).1.upgradeUndefined, (typeInfo e T).2)
      else typeObj kes (typeInfo e T).2 (acc.step k (typeInfo e T).1.upgradeUndefined) := by rfl

theorem checks_op (o : Opcode) (l r : Expr) :
    checks (.op o l r) T =
      checks l T ++ (if o == .err then chk .errPartialEffects (effectFree l) else []) ++
      checks r (typeInfo l T).2 ++
      opChecks o (typeInfo l T).1 (constOf l T) (typeInfo l T).2 (typeInfo r (typeInfo l T).2).1
        (typeInfo r (typeInfo l T).2).2 := by rfl
theorem checks_ifte (pred thn : Exprs) (hasElse : Bool) (els : Exprs) :
    checks (.ifte pred thn hasElse els) T =
      checksSeq pred T {} ++
      chk .structural ((typeSeq pred T {}).1.finish.kind.isBoolean && !(typeSeq pred T {}).1.finish.fallible) ++
      checksSeq thn (typeSeq pred T {}).2 {} ++
      chk .structural ((typeSeq pred T {}).2.locals.all fun (n, _) =>
        ((typeSeq thn (typeSeq pred T {}).2 {}).2.getVar n).isSome) ++
      (if hasElse then
        checksSeq els (typeSeq pred T {}).2 {} ++
        chk .structural ((typeSeq pred T {}).2.locals.all fun (n, _) =>
          ((typeSeq els (typeSeq pred T {}).2 {}).2.getVar n).isSome) ++
        chk .kindUnion (unionOk (typeSeq thn (typeSeq pred T {}).2 {}).1.finish.kind
          (typeSeq els (typeSeq pred T {}).2 {}).1.finish.kind) ++
        chk .kindUnion (unionOk (typeSeq thn (typeSeq pred T {}).2 {}).1.finish.returns
          (typeSeq els (typeSeq pred T {}).2 {}).1.finish.returns) ++
        chk .kindUnion (unionOk ((typeSeq thn (typeSeq pred T {}).2 {}).1.finish.returns.union
          (typeSeq els (typeSeq pred T {}).2 {}).1.finish.returns) (typeSeq pred T {}).1.finish.returns) ++
        mergeChecks (scopedState (typeSeq pred T {}).2.locals (typeSeq thn (typeSeq pred T {}).2 {}).2)
          (scopedState (typeSeq pred T {}).2.locals (typeSeq els (typeSeq pred T {}).2 {}).2)
      else
        chk .kindUnion (unionOk (typeSeq thn (typeSeq pred T {}).2 {}).1.finish.returns
          (typeSeq pred T {}).1.finish.returns) ++
        mergeChecks (scopedState (typeSeq pred T {}).2.locals (typeSeq thn (typeSeq pred T {}).2 {}).2)
          (typeSeq pred T {}).2) := by rfl
theorem checksSeq_cons (e : Expr) (es : Exprs) (acc : BlockAcc) :
    checksSeq (.cons e es) T acc =
      checks e T ++ chk .kindUnion (unionOk acc.returns (typeInfo e T).1.returns) ++
        checksSeq es (typeInfo e T).2 (acc.step (typeInfo e T).1) := by rfl
theorem checksArr_cons (e : Expr) (es : Exprs) (acc : ArrAcc) :
    checksArr (.cons e es) T acc =
      checks e T ++ chk .kindUnion (typeInfo e T).1.returns.isNever ++
        checksArr es (typeInfo e T).2 (acc.step (typeInfo e T).1.upgradeUndefined) := by rfl
theorem checksObj_cons (k : Key) (e : Expr) (kes : KExprs) (acc : ObjAcc) :
    checksObj (.cons k e kes) T acc =
      checks e T ++ chk .kindUnion (typeInfo e T).1.returns.isNever ++
        checksObj kes (typeInfo e T).2 (acc.step k (typeInfo e T).1.upgradeUndefined) := by rfl

end Lang
