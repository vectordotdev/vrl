/-
  C03: type_defs built with `Kind::union` (`values`: `reduced_kind`; `push`: `set_unknown(unknown ∪ item)`
  and `known.insert(exact_len, item)`, with `exact_length` of a literal array), on top of C19's union
  soundness (`Spec.mergeKeepF_sound`).
  The C19 hypotheses are kept: known maps key-sorted (`SortedK`) and no `Infinite` unknown other
  than `any` (`hasNonAnyInf = false`), that is `Spec.Tame`.
-/
import VrlProofs.Lemmas.C03Coll

namespace C03
open Spec

/-! ### the fold of `reduced_kind` -/

def unionAll (acc : Kind) (m : KList) : Kind := m.foldl (fun acc _ k => acc.union k) acc

/-- the fold of `reduced_kind` is the fold `at_path` makes at a negative index, with every key selected -/
theorem unionAll_eq (acc : Kind) (m : KList) : unionAll acc m = unionFold (fun _ => True) m acc := rfl

theorem unionAll_sound {m : KList} {acc : Kind} (ha : Tame acc) (tm : TameL m) :
    Tame (unionAll acc m) ∧ LocSub acc (unionAll acc m) ∧
      ∀ q K, m.get q = some K → LocSub K (unionAll acc m) := by
  rw [unionAll_eq]
  obtain ⟨h1, h2, h3⟩ := unionFold_sound (fun _ => True) m acc ha tm
  exact ⟨h3, h1, fun q K hg => h2 q K hg trivial⟩

theorem tame_unknownKind {c : Col} (h : TameC c) : Tame c.unknownKind :=
  (TameC.unknown h).toKind

/-- what `reduced_kind` unions with the unknown kind: the union of the known kinds. -/
def reducedBase : KList → Kind
  | .nil => Kind.never
  | .cons _ v rest => unionAll v rest

theorem reducedKind_eq (c : Col) :
    c.reducedKind = (reducedBase c.known).union c.unknownKind.withoutUndefined := by
  unfold Col.reducedKind reducedBase
  cases c.known <;> rfl

theorem reducedBase_sound : (known : KList) → TameL known →
    Tame (reducedBase known) ∧ ∀ q K, known.get q = some K → LocSub K (reducedBase known)
  | .nil, _ => ⟨⟨rfl, rfl⟩, nofun⟩
  | .cons k v rest, tk => by
    obtain ⟨hbase, hacc, hget⟩ := unionAll_sound (tameL_cons.mp tk).1 (tameL_cons.mp tk).2
    refine ⟨hbase, fun q K hq => ?_⟩
    simp only [KList.get] at hq
    split at hq
    · cases hq; exact hacc
    · exact hget q K hq

theorem tame_reducedKind {c : Col} (h : TameC c) : Tame c.reducedKind :=
  reducedKind_eq c ▸
    tame_union (reducedBase_sound _ (TameC.known h)).1 (tame_unknownKind h).withoutUndefined

/-- **`Collection::reduced_kind` contains every element of every member** (for tame collections). -/
theorem mem_reducedKind {c : Col} (hs : c.SortedK = true) (hi : c.hasNonAnyInf = false)
    {x : Value} {q : Key} (h : mem x (slotKind c q) = true) : mem x c.reducedKind = true := by
  have hU := (tame_unknownKind ⟨hs, hi⟩).withoutUndefined
  obtain ⟨hbase, hget⟩ := reducedBase_sound _ (TameC.known ⟨hs, hi⟩)
  rw [← mem_loc] at h
  rw [reducedKind_eq]
  cases hq : c.known.get q with
  | some K =>
    rw [loc_of_get hq] at h
    exact (union_locSub_left hbase hU).elem ((hget q K hq).elem h)
  | none =>
    rw [loc_of_none hq] at h
    exact (union_locSub_right hbase hU).elem ((mem_withoutUndefined x _).trans h)

/-- `Unknown::from(&k)` answers `json` for a kind that only *looks* like json at the top level
    (C19 class `hasExactToInf`); excluded. -/
def ofKindOk (k : Kind) : Bool := k.isAny || !k.isJson

theorem mem_ofKind {x : Value} {k : Kind} (hk : ofKindOk k = true) (h : mem x k = true) :
    mem x (unknownElemKind (Unknown.ofKind k)) = true := by
  unfold Unknown.ofKind
  split
  · exact Spec.mem_infAny x
  · rename_i hna
    split
    · rename_i hj
      simp [ofKindOk, hna, hj] at hk
    · exact h

/-- membership in `array(Collection::empty().with_unknown(k))` / `c.set_unknown(k)` for a
    collection without known indices -/
theorem mem_arr_unknownOnly (ys : VList) (k : Kind) (hk : ofKindOk k = true)
    (h : ∀ j x, ys.getN j = some x → mem x k = true) :
    mem (.arr ys) (Kind.ofArray (.mk .nil (Unknown.ofKind k))) = true := by
  apply mem_arr_of_noKnown ys _ (.mk .nil (Unknown.ofKind k)) rfl rfl
  intro j x hj
  exact mem_ofKind hk (h j x hj)

theorem known_nil_of_isEmpty {l : KList} (h : l.isEmpty = true) : l = .nil := by
  cases l <;> first | rfl | cases h

/-- `c.set_unknown(c.unknown_kind() ∪ K)`: what `push` and `append` declare for an array kind
    without known indices. -/
theorem mem_arr_widened {xs ys : VList} {k0 K : Kind} {c : Col} (hm : mem (.arr xs) k0 = true)
    (hc : k0.array = some c) (hkn : c.known = .nil) (hU : Tame c.unknownKind) (hK : Tame K)
    (hok : ofKindOk (c.unknownKind.union K) = true)
    (h : ∀ j y, ys.getN j = some y → (∃ j', xs.getN j' = some y) ∨ mem y K = true) :
    mem (.arr ys) (Kind.ofArray (.mk .nil (Unknown.ofKind (c.unknownKind.union K)))) = true := by
  apply mem_arr_unknownOnly _ _ hok
  intro j y hj
  rcases h j y hj with ⟨j', hg⟩ | hy
  · apply (union_locSub_left hU hK).elem
    simp only [Col.unknownKind, mem_unknown_toKind]
    exact mem_elem_of_noKnown hm hc hkn hg
  · exact (union_locSub_right hU hK).elem hy

theorem getN_valuesL {c : Col} : (m : VMap) → memMap m c = true → (j : Nat) → (x : Value) →
    (Coll.ofList (Coll.valuesL m)).getN j = some x → ∃ q, mem x (slotKind c q) = true
  | .nil, _, _, _, h => by simp [Coll.valuesL, Coll.ofList, VList.getN] at h
  | .cons k v m, hm, 0, x, h => by
    simp only [Coll.valuesL, Coll.ofList, VList.getN, Option.some.injEq] at h
    subst h
    simp only [memMap, Bool.and_eq_true] at hm
    exact ⟨k, hm.1⟩
  | .cons k v m, hm, j + 1, x, h => by
    simp only [Coll.valuesL, Coll.ofList, VList.getN] at h
    simp only [memMap, Bool.and_eq_true] at hm
    exact getN_valuesL m hm.2 j x h

theorem getN_append_single (a : VList) (x : Value) (j : Nat) (y : Value)
    (h : (a.append (.cons x .nil)).getN j = some y) :
    (j < a.length ∧ a.getN j = some y) ∨ (j = a.length ∧ y = x) := by
  rw [VList.getN_append] at h
  split at h
  · exact .inl ⟨‹_›, h⟩
  · match hj : j - a.length, h with
    | 0, h => exact .inr ⟨by omega, by cases h; rfl⟩
    | n + 1, h => cases h

/-! ### `exact_length` of a literal array (`push` onto a literal) -/

theorem kindOf_defined (x : Value) : x.kindOf.containsAnyDefined = true := by
  cases x <;> rfl

/-- the step of `largest_known_index` -/
def lkiStep (acc : Option Nat) (k : Key) (v : Kind) : Option Nat :=
  if v.containsAnyDefined then
    (match acc with
     | Option.none => some k.idx
     | some m => some (max m k.idx))
  else acc

theorem largestKnownIndex_eq (c : Col) : c.largestKnownIndex = c.known.foldl lkiStep none := rfl

theorem largest_kindsFrom : (xs : VList) → (i : Nat) → (acc : Option Nat) →
    (∀ m, acc = some m → m ≤ i) →
    (VList.kindsFrom xs i).foldl lkiStep acc = (if xs.length = 0 then acc else some (i + xs.length - 1))
  | .nil, i, acc, _ => by simp [VList.kindsFrom, KList.foldl, VList.length]
  | .cons x xs, i, acc, h => by
    have hstep : lkiStep acc (Key.ofIdx i) x.kindOf = some i := by
      cases acc with
      | none => simp [lkiStep, kindOf_defined, Key.ofIdx, Key.idx]
      | some m =>
        have := h m rfl
        simp [lkiStep, kindOf_defined, Key.ofIdx, Key.idx, Nat.max_eq_right this]
    simp only [VList.kindsFrom, KList.foldl, hstep]
    rw [largest_kindsFrom xs (i + 1) (some i) (by intro m hm; cases hm; omega)]
    simp only [VList.length]
    split
    · rename_i h0; simp [h0]
    · rename_i h0
      have : ¬ (xs.length + 1 = 0) := by omega
      simp only [this, if_false]
      congr 1; omega

theorem exactLength_lit (a : VList) :
    (Col.ofKnown (VList.kindsFrom a 0)).exactLength = some a.length := by
  have hu : (Col.ofKnown (VList.kindsFrom a 0)).unknownKind.containsAnyDefined = false := by
    show (Unknown.ofKind Kind.undefined).toKind.containsAnyDefined = false
    decide
  unfold Col.exactLength
  rw [hu]
  simp only [Bool.false_eq_true, if_false, Col.minLength, largestKnownIndex_eq, Col.ofKnown, Col.known]
  rw [largest_kindsFrom a 0 none (by intro m h; cases h)]
  cases a with
  | nil => rfl
  | cons x xs => simp [VList.length]

end C03
