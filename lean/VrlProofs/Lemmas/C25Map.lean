/-
  flatten / unflatten (C25): sorted association lists as finite maps —
  `collect::<BTreeMap>` (`ofList`) and iteration (`toList`) on key-sorted objects
  (`VMap.SortedKeys`, with extensionality through `get`, in Lemmas/Value.lean).
-/
import VrlModel.C25
import VrlProofs.Lemmas.Value

namespace Conv.Flat

theorem foldl_insert_sortedKeys (es : Entries) : ∀ (acc : VMap), acc.SortedKeys = true →
    (es.foldl (fun acc e => acc.insert e.1 e.2) acc).SortedKeys = true := by
  induction es with
  | nil => intro acc h; exact h
  | cons e es ih => intro acc h; exact ih _ (VMap.sortedKeys_insert acc e.1 e.2 h)

theorem sortedKeys_ofList (es : Entries) : (ofList es).SortedKeys = true :=
  foldl_insert_sortedKeys es .nil rfl

theorem get_foldl_notin (es : Entries) : ∀ (acc : VMap) (k : Key), k ∉ es.map (·.1) →
    (es.foldl (fun acc e => acc.insert e.1 e.2) acc).get k = acc.get k := by
  induction es with
  | nil => intro acc k _; rfl
  | cons e es ih =>
    intro acc k hk
    simp only [List.map_cons, List.mem_cons, not_or] at hk
    simp only [List.foldl_cons]
    rw [ih _ k hk.2, VMap.get_insert_other acc e.1 k e.2 (fun h => hk.1 h.symm)]

theorem get_foldl_in (es : Entries) : ∀ (acc : VMap) (k : Key) (v : Value),
    (es.map (·.1)).Nodup → (k, v) ∈ es →
    (es.foldl (fun acc e => acc.insert e.1 e.2) acc).get k = some v := by
  induction es with
  | nil => intro acc k v _ h; simp at h
  | cons e es ih =>
    intro acc k v hnd hin
    simp only [List.map_cons, List.nodup_cons] at hnd
    simp only [List.foldl_cons]
    rcases List.mem_cons.mp hin with h | h
    · subst h
      rw [get_foldl_notin es _ _ hnd.1, VMap.get_insert_same]
    · exact ih _ k v hnd.2 h

theorem get_ofList_in (es : Entries) (k : Key) (v : Value) (hnd : (es.map (·.1)).Nodup)
    (hin : (k, v) ∈ es) : (ofList es).get k = some v := get_foldl_in es .nil k v hnd hin

theorem get_ofList_notin (es : Entries) (k : Key) (hk : k ∉ es.map (·.1)) :
    (ofList es).get k = none := get_foldl_notin es .nil k hk

theorem mem_toList_of_get (m : VMap) (k : Key) (v : Value) (h : m.get k = some v) : (k, v) ∈ toList m := by
  revert h
  fun_induction VMap.get m k with
  | case1 => intro h; cases h -- nil
  | case2 => intro h; cases h; simp [toList] -- hit
  | case3 l w m k hne ih => intro h; simp [toList, ih h] -- miss

theorem get_of_mem_toList : (m : VMap) → (k : Key) → (v : Value) → m.SortedKeys = true →
    (k, v) ∈ toList m → m.get k = some v
  | .nil, _, _, _, h => by simp [toList] at h
  | .cons l w m, k, v, hs, h => by
    rw [VMap.sortedKeys_cons] at hs
    simp only [toList, List.mem_cons, Prod.mk.injEq] at h
    rcases h with ⟨h1, h2⟩ | h
    · subst h1; subst h2; simp [VMap.get]
    · exact VMap.get_cons_of_allGt w hs.1 (get_of_mem_toList m k v hs.2 h)

theorem keys_toList_nodup : (m : VMap) → m.SortedKeys = true → ((toList m).map (·.1)).Nodup
  | .nil, _ => by simp [toList]
  | .cons l w m, hs => by
    rw [VMap.sortedKeys_cons] at hs
    simp only [toList, List.map_cons, List.nodup_cons]
    refine ⟨?_, keys_toList_nodup m hs.2⟩
    intro hmem
    obtain ⟨e, he, hk⟩ := List.mem_map.mp hmem
    have := get_of_mem_toList m e.1 e.2 hs.2 he
    rw [hk, VMap.get_none_of_allGt m l hs.1] at this
    cases this

theorem toList_ofList_perm (es : Entries) (hnd : (es.map (·.1)).Nodup) :
    (toList (ofList es)).Perm es := by
  have hs := sortedKeys_ofList es
  have hnd1 := keys_toList_nodup (ofList es) hs
  have nd_of_keys : ∀ (l : Entries), (l.map (·.1)).Nodup → l.Nodup := by
    intro l h
    exact List.Pairwise.of_map (·.1) (fun a b (hab : a.1 ≠ b.1) (e : a = b) => hab (by rw [e])) h
  apply (List.perm_ext_iff_of_nodup (nd_of_keys _ hnd1) (nd_of_keys _ hnd)).mpr
  intro e
  constructor
  · intro he
    have hg := get_of_mem_toList (ofList es) e.1 e.2 hs he
    by_cases hk : e.1 ∈ es.map (·.1)
    · obtain ⟨e', he', hk'⟩ := List.mem_map.mp hk
      have := get_ofList_in es e'.1 e'.2 hnd he'
      rw [hk', hg] at this
      have hv : e.2 = e'.2 := by injection this
      have : e = e' := Prod.ext hk'.symm hv
      rw [this]; exact he'
    · rw [get_ofList_notin es e.1 hk] at hg
      cases hg
  · intro he
    exact mem_toList_of_get _ _ _ (get_ofList_in es e.1 e.2 hnd he)

end Conv.Flat
