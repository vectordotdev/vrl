/-
  Helper lemmas for C32 (grok rules): the reference escaper `esc`, segmentation and expansion of
  placeholder-free text, tokenising/parsing/matching of escaped literals by the reference matcher;
  the functions of `parse_grok_rule` in bind form, on which both the traversal invariant and the flat-rule
  source rest.
-/
import VrlModel.C32

namespace C32
open Grok Rx

@[simp] theorem bind_ok {α β : Type} (a : α) (f : α → Out β) : (Out.ok a >>= f) = f a := rfl
@[simp] theorem bind_err {α β : Type} (e : Err) (f : α → Out β) : ((Out.err e : Out α) >>= f) = .err e := rfl
@[simp] theorem bind_panic {α β : Type} (f : α → Out β) : ((Out.panic : Out α) >>= f) = .panic := rfl
@[simp] theorem bind_oom {α β : Type} (f : α → Out β) : ((Out.oom : Out α) >>= f) = .oom := rfl
@[simp] theorem bind_fuel {α β : Type} (f : α → Out β) : ((Out.fuel : Out α) >>= f) = .fuel := rfl
@[simp] theorem pure_eq_ok {α : Type} (a : α) : (pure a : Out α) = .ok a := rfl

theorem bind_eq_ok {α β : Type} {x : Out α} {f : α → Out β} {b : β} (h : (x >>= f) = .ok b) :
    ∃ a, x = .ok a ∧ f a = .ok b := by
  cases x with
  | ok a => exact ⟨a, rfl, h⟩
  | _ => cases h

theorem not_meta {c m : Char} (h : metas.contains c = false) (hm : metas.contains m = true) : c ≠ m := by
  rintro rfl; rw [hm] at h; cases h

theorem esc_append_head (s tail : Str) (c : Char) (h : (esc s ++ tail).head? = some c) :
    c = '\\' ∨ metas.contains c = false ∨ tail.head? = some c := by
  cases s with
  | nil => exact .inr (.inr h)
  | cons d ds =>
    simp only [esc] at h
    split at h
    · exact .inl (by simpa using h.symm)
    · rename_i hd
      obtain rfl : d = c := by simpa using h
      exact .inr (.inl (by simpa using hd))

/-! ### placeholder-free text

  Every metacharacter of an escaped text follows a backslash, so neither `%{` nor `(?` occurs in it. -/

def hasPair (x y : Char) : Str → Bool
  | [] => false
  | c :: cs => (c == x && cs.head? == some y) || hasPair x y cs

theorem hasPair_esc_append {x y : Char} (hx : x ≠ '\\') (hy : metas.contains y = true) (hy' : y ≠ '\\')
    (s tail : Str) (ht : hasPair x y tail = false) (hh : tail.head? ≠ some y) :
    hasPair x y (esc s ++ tail) = false := by
  induction s with
  | nil => exact ht
  | cons c cs ih =>
    have hhead : (esc cs ++ tail).head? ≠ some y := by
      intro e
      rcases esc_append_head cs tail y e with h | h | h
      · exact hy' h
      · rw [hy] at h; cases h
      · exact hh h
    have hb : ((esc cs ++ tail).head? == some y) = false := beq_eq_false_iff_ne.mpr hhead
    have hx' : ('\\' == x) = false := beq_eq_false_iff_ne.mpr (Ne.symm hx)
    simp only [esc]
    split <;> simp only [List.cons_append, hasPair, ih, hb, hx', Bool.false_and, Bool.and_false, Bool.or_false]

/-- no `%{` in the text. -/
def noPh : Str → Bool
  | [] => true
  | c :: cs => !(c == '%' && cs.head? == some '{') && noPh cs

theorem noPh_eq (t : Str) : noPh t = !hasPair '%' '{' t := by
  induction t with
  | nil => rfl
  | cons c cs ih => simp [noPh, hasPair, ih]

theorem noPh_esc_append (s tail : Str) (ht : noPh tail = true) (hh : tail.head? ≠ some '{') :
    noPh (esc s ++ tail) = true := by
  rw [noPh_eq] at ht ⊢
  rw [hasPair_esc_append (by decide) (by decide) (by decide) s tail (by simpa using ht) hh]; rfl

theorem noPh_esc (s : Str) : noPh (esc s) = true := by
  simpa using noPh_esc_append s [] rfl (by simp)

theorem noPh_cons {c : Char} {cs : Str} (h : noPh (c :: cs) = true) :
    (c = '%' → ∀ body, cs ≠ '{' :: body) ∧ noPh cs = true := by
  simp only [noPh, Bool.and_eq_true, Bool.not_eq_true'] at h
  refine ⟨?_, h.2⟩
  rintro rfl body rfl
  simp at h

theorem segF_noPh (n : Nat) (t acc : Str) (hn : t.length < n) (hp : noPh t = true) :
    segF n t acc = [.text (acc.reverse ++ t)] := by
  -- cases 3, 4: the text starts with `%{`; 5, 6: the character goes to `acc`
  fun_induction segF n t acc with
  | case1 => simp at hn
  | case2 => simp [flush]
  | case3 | case4 => exact absurd rfl ((noPh_cons hp).1 rfl _)
  | case5 _ _ _ _ ih | case6 _ _ _ _ _ ih => simpa using ih (by simpa using hn) (noPh_cons hp).2

theorem seg_noPh (t : Str) (h : noPh t = true) : seg t = [.text t] := by
  unfold seg; rw [segF_noPh _ t [] (by omega) h]; simp

theorem replaceAllF_noPair (x y : Char) (rest to : Str) (s : Str) : ∀ n, hasPair x y s = false →
    replaceAllF (x :: y :: rest) to n s = s := by
  induction s with
  | nil => intro n _; cases n <;> rfl
  | cons c cs ih =>
    intro n h
    simp only [hasPair, Bool.or_eq_false_iff] at h
    cases n with
    | zero => rfl
    | succ n =>
      have : (x :: y :: rest).isPrefixOf (c :: cs) = false := by
        cases cs with
        | nil => simp [List.isPrefixOf]
        | cons d ds =>
          have h1 : c = x → d ≠ y := by simpa using h.1
          simpa [List.isPrefixOf] using fun a b => absurd b.symm (h1 a.symm)
      simp [replaceAllF, this, ih n h.2]

theorem wrap_esc (s : Str) : wrap (esc s) = litSource s := by
  have h := hasPair_esc_append (x := '(') (y := '?') (by decide) (by decide) (by decide) s [] rfl (by simp)
  rw [List.append_nil] at h
  unfold wrap replaceAll litSource
  rw [replaceAllF_noPair _ _ _ _ _ _ h, replaceAllF_noPair _ _ _ _ _ _ h]

theorem findGrok_noPh (t : Str) (h : noPh t = true) : findGrok t = none := by
  -- cases 2, 3: the text starts with `%{`; 4–6: the search moves on
  fun_induction findGrok t with
  | case1 => rfl
  | case2 | case3 => exact absurd rfl ((noPh_cons h).1 rfl _)
  | case4 _ _ ih | case5 _ _ ih | case6 _ _ _ ih => exact ih (noPh_cons h).2

abbrev atomChr (c : Char) : Rx.Tok := .atom (.chr c)

theorem step_esc_meta {c : Char} (h : metas.contains c = true) :
    Rx.step .esc c = some ([atomChr c], .norm) :=
  (by decide +kernel : ∀ c ∈ metas, Rx.step .esc c = some ([atomChr c], .norm)) c (by simpa using h)

/-- every character `stepNorm` treats specially is one of `metas`. -/
theorem stepNorm_plain {c : Char} (h : metas.contains c = false) :
    Rx.stepNorm c = some ([atomChr c], .norm) := by
  have n (m : Char) (hm : metas.contains m = true := by decide +kernel) : c ≠ m := not_meta h hm
  simp [Rx.stepNorm, atomChr, n '\\', n '(', n ')', n '[', n '.', n '*', n '+', n '?', n '|', n '^', n '$', n ']',
    n '{']

theorem tokenize_esc (s tail : Str) (ts : List Rx.Tok) (h : Rx.tokenizeFrom .norm tail = .ok ts) :
    Rx.tokenizeFrom .norm (esc s ++ tail) = .ok (s.map atomChr ++ ts) := by
  induction s with
  | nil => simpa [esc] using h
  | cons c cs ih =>
    simp only [esc]
    split
    · rename_i hc
      have h1 : Rx.step .norm '\\' = some ([], .esc) := by decide
      simp only [List.cons_append, Rx.tokenizeFrom, h1, step_esc_meta hc, ih]
      simp
    · rename_i hc
      have h1 : Rx.step .norm c = some ([atomChr c], .norm) := stepNorm_plain (by simpa using hc)
      simp only [List.cons_append, Rx.tokenizeFrom, h1, ih]
      simp

theorem tokenize_literal_source (s : Str) :
    Rx.tokenize (litSource s)
      = .ok (.flagM :: .anchor .bos :: (s.map atomChr ++ [.anchor .eos])) := by
  have htail : Rx.tokenizeFrom .norm cs!"\\z" = .ok [.anchor .eos] := rfl
  simp [Rx.tokenize, litSource, Rx.tokenizeFrom, Rx.step, Rx.stepNorm, tokenize_esc s _ _ htail]

def litSeq : Str → Rx.Re → Rx.Re
  | [], tl => tl
  | c :: cs, tl => .seq (.chr c) (litSeq cs tl)

/-- the expression of a literal-only rule: `\A c₁ … cₙ \z`. -/
def litRe (s : Str) : Rx.Re := .seq .bos (litSeq s (.seq .eos .eps))

theorem foldl_rev_chr (s : Str) (init : Rx.Re) :
    (s.reverse.map Rx.Re.chr).foldl (fun acc a => Rx.Re.seq a acc) init = litSeq s init := by
  induction s with
  | nil => rfl
  | cons c cs ih =>
    simp only [List.reverse_cons, List.map_append, List.map_cons, List.map_nil, List.foldl_append,
      List.foldl_cons, List.foldl_nil, ih, litSeq]

/-- after a non-empty run of literal characters a quantifier may follow (`canQ = 1`). -/
theorem parseToks_atoms (s : Str) (ts : List Rx.Tok) :
    ∀ (kind : Option (Option Str)) (alts cur : List Rx.Re) (q : Nat) (fs : List Rx.Frame),
      Rx.parseToks (s.map atomChr ++ ts) (⟨kind, alts, cur, q⟩ :: fs)
        = Rx.parseToks ts (⟨kind, alts, s.reverse.map Rx.Re.chr ++ cur, if s = [] then q else 1⟩ :: fs) := by
  induction s with
  | nil => intro kind alts cur q fs; simp
  | cons c cs ih =>
    intro kind alts cur q fs
    simp only [List.map_cons, List.cons_append, Rx.parseToks, Rx.pstep]
    simpa using ih kind alts (.chr c :: cur) 1 fs

theorem parse_literal_source (s : Str) :
    Rx.parse (litSource s) = .ok (litRe s) := by
  unfold Rx.parse
  rw [tokenize_literal_source]
  simp only [Rx.parseToks, Rx.pstep, Rx.Frame.empty]
  rw [parseToks_atoms]
  simp only [Rx.parseToks, Rx.pstep, Rx.Frame.finish, Rx.mkAlt, Rx.mkSeq, List.foldl_cons, List.foldl_nil,
    List.foldl_append, foldl_rev_chr, litRe]

theorem run_litSeq_eos (s : Str) : ∀ (p : Option Char) (t : Str) (caps : Rx.Caps),
    Rx.run (litSeq s (.seq .eos .eps)) (fun _ c => some c) ⟨p, t⟩ caps = if t = s then some caps else none := by
  induction s with
  | nil =>
    intro p t caps
    dsimp only [litSeq, Rx.run]
    cases t <;> simp
  | cons c cs ih =>
    intro p t caps
    dsimp only [litSeq, Rx.run, Rx.oneChar]
    cases t with
    | nil => simp
    | cons d t' =>
      by_cases hd : d = c
      · subst hd; simp [ih]
      · simp [hd]

theorem matchAt_litRe_start (s t : Str) :
    Rx.matchAt (litRe s) none t = if t = s then some [] else none := by
  dsimp only [Rx.matchAt, litRe, Rx.run]
  simp [run_litSeq_eos]

theorem matchAt_litRe_later (s t : Str) (c : Char) : Rx.matchAt (litRe s) (some c) t = none := by
  dsimp only [Rx.matchAt, litRe, Rx.run]
  simp

theorem searchFrom_litRe_later (s : Str) : ∀ (t : Str) (c : Char), Rx.searchFrom (litRe s) (some c) t = none := by
  intro t
  induction t with
  | nil => intro c; simp [Rx.searchFrom, matchAt_litRe_later]
  | cons d ds ih => intro c; simp [Rx.searchFrom, matchAt_litRe_later, ih]

theorem search_litRe (s t : Str) : Rx.search (litRe s) t = if t = s then some [] else none := by
  unfold Rx.search
  cases t with
  | nil => simp [Rx.searchFrom, matchAt_litRe_start]
  | cons d ds =>
    simp only [Rx.searchFrom, matchAt_litRe_start]
    by_cases h : d :: ds = s
    · simp [h]
    · simp [h, searchFrom_litRe_later]

theorem groupNames_litSeq (s : Str) (tl : Rx.Re) : Rx.groupNames (litSeq s tl) = Rx.groupNames tl := by
  induction s with
  | nil => rfl
  | cons c cs ih => simp [litSeq, Rx.groupNames, ih]

theorem groupNames_litRe (s : Str) : Rx.groupNames (litRe s) = [] := by
  simp [litRe, Rx.groupNames, groupNames_litSeq]

theorem refCompile_litSource (s : Str) : Rx.refCompile (litSource s) = .ok (litRe s) := by
  unfold Rx.refCompile
  rw [parse_literal_source]
  simp [groupNames_litRe, Rx.nodup]

theorem noPh_litSource (s : Str) : noPh (litSource s) = true := by
  have h := noPh_esc_append s cs!"\\z" (by decide) (by decide)
  unfold litSource
  simp only [List.cons_append, List.nil_append, noPh, h]
  simp

theorem grokExpand_noPh (lib : List (Str × Str)) (src : Str) (h : noPh src = true) :
    grokExpand lib src = .ok ⟨src, [], 0⟩ := by
  unfold grokExpand
  rw [show (1024 : Nat) = 1023 + 1 from rfl, expandF, findGrok_noPh _ h]

theorem compileRule_of_source {P : Prims} {E : Engine} {lib aliases : List (Str × Str)} {rule src : Str}
    {fields : List (Nat × Field)} (h : ruleSource P aliases rule = .ok (src, fields))
    (hno : noPh src = true) :
    compileRule P E lib aliases rule =
      match E.compile src with
      | .ok rx => .ok ⟨rx, patternNames [] (E.names rx), fields⟩
      | .bad => .err .regex
      | .unsupported => .oom := by
  unfold compileRule
  simp only [h, bind_ok, grokExpand_noPh _ _ hno]
  cases E.compile src <;> rfl

/-- a placeholder with a destination is wrapped in its named group, one without is inlined bare. -/
def enterGroup : Option Nat → Ctx → Ctx
  | some g, c => openGroup (some g) c
  | none, c => c

def leaveGroup : Option Nat → Ctx → Ctx
  | some _, c => c.append cs!")"
  | none, c => c

theorem registerDest_filter (fn f : Fn) (path : List Str) (c : Ctx) :
    registerDest ⟨fn, some ⟨path, some f⟩⟩ c = filterOf f >>= fun flt =>
      pure { c with fields := insertField c.fields c.fields.length ⟨path, [flt]⟩ } := by
  simp only [registerDest]
  cases filterOf f <;> rfl

theorem resolveBuiltin_eq (g : Option Nat) (p : Pat) (c : Ctx) :
    resolveBuiltin g p c =
      if isGroupMatcher p.fn.name then
        resolveMatchFn g p (openGroup g c) >>= fun c3 => pure (c3.append cs!")")
      else resolveMatchFn g p (c.append cs!"%{") >>= fun c3 => pure (closePure g c3) := by
  unfold resolveBuiltin
  split <;> cases resolveMatchFn .. <;> rfl

theorem parseAlias_eq (self : Str → Ctx → Out Ctx) (name d : Str) (c : Ctx) :
    parseAlias self name d c =
      if c.stack.contains name then .err (.circular (c.stack.headD []))
      else self d { c with stack := c.stack ++ [name] } >>= fun c' =>
        pure { c' with stack := c'.stack.dropLast } := by
  unfold parseAlias
  split
  · rfl
  · cases self d _ <;> rfl

theorem resolvePat_eq {aliases : List (Str × Str)} (self : Str → Ctx → Out Ctx) (p : Pat) (c : Ctx) :
    resolvePat aliases self p c = registerDest p c >>= fun c1 =>
      match lookupAlias aliases p.fn.name with
      | some d =>
        parseAlias self p.fn.name d (enterGroup (p.dest.map fun _ => c.fields.length) c1) >>= fun c2 =>
          pure (leaveGroup (p.dest.map fun _ => c.fields.length) c2)
      | none => resolveBuiltin (p.dest.map fun _ => c.fields.length) p c1 := by
  unfold resolvePat
  cases registerDest p c <;> try rfl
  cases lookupAlias aliases p.fn.name with
  | none => rfl
  | some d =>
    cases p.dest <;> simp only [bind_ok, Option.map_none, Option.map_some, enterGroup, leaveGroup] <;>
      cases parseAlias .. <;> rfl

theorem resolvePieces_ph (P : Prims) (aliases : List (Str × Str)) (self : Str → Ctx → Out Ctx) (s : Str)
    (rest : List Piece) (c : Ctx) :
    resolvePieces P aliases self (.ph s :: rest) c =
      match parsePlaceholder P s with
      | .ok p => resolvePat aliases self p c >>= resolvePieces P aliases self rest
      | .error .syntax => .err .syntax
      | .error .oom => .oom := by
  simp only [resolvePieces]
  cases parsePlaceholder P s with
  | ok p => simp only; cases resolvePat .. <;> rfl
  | error e => cases e <;> rfl

end C32
