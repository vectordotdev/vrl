/-
  Lemmas for C23 about `VrlModel.Crypt`: the block paddings are reversible (the unpadding lemmas
  `*_end` speak of any block that ends with the padding, whatever its length: no 16 in them); the
  three name tables; what the arms of a cipher family have in common and which outcomes they can
  have; the IPv4-mapped detour of addresses.
-/
import VrlModel.Crypt

namespace Crypt

/-- The padding depends on the position through `n = 16 - pos ≥ 1` only. -/
theorem padBytes_succ (s : Pad) (fill : Filler) {pos k : Nat} (h : 16 - pos = k + 1) :
    padBytes s fill pos = match s with
      | .pkcs7 => List.replicate k (k + 1) ++ [k + 1]
      | .iso10126 => (List.range k).map (fill (k + 1)) ++ [k + 1]
      | .ansix923 => List.replicate k 0 ++ [k + 1]
      | .iso7816 => 0x80 :: List.replicate k 0 := by
  cases s <;> simp only [padBytes, h, Nat.add_sub_cancel, List.replicate_succ']

theorem padBytes_length (s : Pad) (fill : Filler) (pos : Nat) (h : pos < 16) :
    (padBytes s fill pos).length = 16 - pos := by
  obtain ⟨k, hk⟩ : ∃ k, 16 - pos = k + 1 := ⟨15 - pos, by omega⟩
  rw [padBytes_succ s fill hk, hk]
  cases s <;> simp

theorem length_drop_blocks (msg : Bytes) : (msg.drop (msg.length / 16 * 16)).length = msg.length % 16 := by
  rw [List.length_drop, Nat.mul_comm, ← Nat.mod_eq_sub_mul_div]

theorem pad_eq (s : Pad) (fill : Filler) (msg : Bytes) :
    pad s fill msg = msg ++ padBytes s fill (msg.length % 16) := by
  simp only [pad, length_drop_blocks]
  rw [← List.append_assoc, List.take_append_drop]

theorem pad_length (s : Pad) (fill : Filler) (msg : Bytes) :
    (pad s fill msg).length = (msg.length / 16 + 1) * 16 := by
  have h : msg.length % 16 < 16 := Nat.mod_lt _ (by decide)
  rw [pad_eq, List.length_append, padBytes_length s fill _ h]
  omega

theorem pad_length_mod (s : Pad) (fill : Filler) (msg : Bytes) : (pad s fill msg).length % 16 = 0 := by
  rw [pad_length]; exact Nat.mul_mod_left _ _

theorem any_ne_replicate (k v : Nat) : (List.replicate k v).any (fun x => x != v) = false := by
  simp only [List.any_replicate, bne_self_eq_false, ite_self]

/-- The three equations are the quantities `pkcs7Unpad` and `ansiUnpad` compute, in their order:
    the count read from the last byte, the start of the padding, the bytes they check. -/
theorem block_end (tail : Bytes) {body : Bytes} {k : Nat} (hk : body.length = k) :
    let blk := tail ++ (body ++ [k + 1])
    blk.getD (blk.length - 1) 0 = k + 1 ∧ blk.length - (k + 1) = tail.length ∧
      (blk.drop tail.length).take (blk.length - 1 - tail.length) = body := by
  subst hk
  have hl : (tail ++ (body ++ [body.length + 1])).length = tail.length + (body.length + 1) := by simp
  refine ⟨?_, ?_, ?_⟩
  · rw [hl, ← List.append_assoc]
    show ((tail ++ body) ++ _).getD (tail.length + body.length) 0 = _
    rw [← List.length_append]
    simp [List.getD]
  · rw [hl, Nat.add_sub_cancel]
  · rw [hl, List.drop_left]
    show (body ++ _).take (tail.length + body.length - tail.length) = _
    rw [Nat.add_sub_cancel_left, List.take_left]

theorem pkcs7Unpad_end (tail : Bytes) {body : Bytes} {k : Nat} (hk : body.length = k) (strict : Bool)
    (hb : strict = true → body.any (fun v => v != k + 1) = false) :
    pkcs7Unpad (tail ++ (body ++ [k + 1])) strict = some tail.length := by
  obtain ⟨h1, h2, h3⟩ := block_end tail hk
  unfold pkcs7Unpad
  simp only [h1, h2, h3]
  rw [if_neg (by simp [← hk]), if_neg]
  cases strict
  · nofun
  · rw [hb rfl]; nofun

theorem ansiUnpad_end (tail : Bytes) (k : Nat) :
    ansiUnpad (tail ++ (List.replicate k 0 ++ [k + 1])) = some tail.length := by
  obtain ⟨h1, h2, h3⟩ := block_end tail (List.length_replicate (n := k) (a := 0))
  unfold ansiUnpad
  simp only [h1, h2, h3]
  rw [if_neg (by simp), if_neg]
  rw [any_ne_replicate]; nofun

theorem iso7816Scan_zeros (k : Nat) (rest : Bytes) :
    iso7816Scan (List.replicate k 0 ++ 0x80 :: rest) = some rest.length := by
  induction k with
  | zero => simp [iso7816Scan]
  | succ k ih => simp [List.replicate_succ, iso7816Scan, ih]

theorem rawUnpad_padded (s : Pad) (fill : Filler) (tail : Bytes) (h : tail.length < 16) :
    rawUnpad s (tail ++ padBytes s fill tail.length) = some tail.length := by
  obtain ⟨k, hk⟩ : ∃ k, 16 - tail.length = k + 1 := ⟨15 - tail.length, by omega⟩
  rw [padBytes_succ s fill hk]
  cases s with
  | pkcs7 => exact pkcs7Unpad_end tail List.length_replicate true fun _ => any_ne_replicate ..
  | iso10126 => exact pkcs7Unpad_end tail (by rw [List.length_map, List.length_range]) false nofun
  | ansix923 => exact ansiUnpad_end tail k
  | iso7816 =>
    show iso7816Scan (tail ++ 0x80 :: List.replicate k 0).reverse = _
    rw [List.reverse_append, List.reverse_cons, List.reverse_replicate, List.append_assoc,
      List.singleton_append, iso7816Scan_zeros, List.length_reverse]

theorem unpadBlocks_append (s : Pad) (blocks : Bytes) {last : Bytes} {n : Nat} (hl : last.length = 16)
    (hr : rawUnpad s last = some n) : unpadBlocks s (blocks ++ last) = some (blocks ++ last.take n) := by
  have hlen : (blocks ++ last).length = blocks.length + 16 := by rw [List.length_append, hl]
  unfold unpadBlocks
  rw [if_neg (by rw [hlen]; omega)]
  simp only [hlen, Nat.add_sub_cancel, List.drop_left, hr, List.take_length_add_append]

theorem unpadBlocks_pad (s : Pad) (fill : Filler) (msg : Bytes) :
    unpadBlocks s (pad s fill msg) = some msg := by
  have htl : (msg.drop (msg.length / 16 * 16)).length < 16 :=
    length_drop_blocks msg ▸ Nat.mod_lt _ (by decide)
  rw [pad, unpadBlocks_append s _ (by rw [List.length_append, padBytes_length s fill _ htl]; omega)
    (rawUnpad_padded s fill _ htl), List.take_left, List.take_append_drop]

theorem lookupArms_isSome (t : List Arm) (n : Bytes) :
    (lookupArms t n).isSome = true ↔ n ∈ t.flatMap (·.1) := by
  induction t with
  | nil => simp [lookupArms]
  | cons arm rest ih =>
    obtain ⟨pats, a⟩ := arm
    simp only [lookupArms, List.flatMap_cons, List.mem_append]
    by_cases h : pats.contains n = true
    · simp [List.contains_iff_mem.mp h]
    · have h' : ¬ n ∈ pats := fun hm => h (List.contains_iff_mem.mpr hm)
      simp [h', ih]

theorem encryptArms_eq_decryptArms : encryptArms = decryptArms := rfl

/-- `is_valid_algorithm` lists the patterns of the arms in another order (`-CTR` before `-CTR-LE`). -/
theorem names_perm : (encryptArms.flatMap (·.1)).Perm validNames := by decide +kernel

theorem checkSizes_none_iff (a : Alg) (key iv : Bytes) :
    checkSizes a key iv = none ↔ key.length = keyLen a ∧ iv.length = ivLen a := by
  unfold checkSizes
  by_cases hk : key.length = keyLen a <;> by_cases hi : iv.length = ivLen a <;> simp [hk, hi]

theorem orPanic_eq_ok {ε : Type} (o : Option Bytes) (c : Bytes) :
    (orPanic o : Res ε) = .ok c ↔ o = some c := by
  cases o <;> simp [orPanic]

theorem orPanic_eq_panic {ε : Type} (o : Option Bytes) :
    (orPanic o : Res ε) = .panic ↔ o = none := by
  cases o <;> simp [orPanic]

theorem orPanic_ne_err {ε : Type} (o : Option Bytes) (e : ε) : (orPanic o : Res ε) ≠ .err e := by
  cases o <;> simp [orPanic]

theorem orInvalid_eq_ok (o : Option Bytes) (c : Bytes) : orInvalid o = .ok c ↔ o = some c := by
  cases o <;> simp [orInvalid]

theorem orInvalid_ne_panic (o : Option Bytes) : orInvalid o ≠ .panic := by
  cases o <;> simp [orInvalid]

theorem orInvalid_eq_err (o : Option Bytes) (e : Err) : orInvalid o = .err e ↔ o = none ∧ e = .invalidInput := by
  cases o <;> simp [orInvalid, eq_comm]

section
variable (P : Prims) (a : Alg) (key iv : Bytes)

/-- The arms fall into four families: CFB, the keystream modes, CBC with a padding, the AEADs.
    Within a family they differ only in the cipher the primitive is told to be. -/
theorem Alg.family :
    (∃ k, a = .cfb k) ∨
    (a.isKeystream = true ∧ (∀ x, encryptWith P a key iv x = orPanic (P.keystream a key iv x)) ∧
      (∀ x, decryptWith P a key iv x = orPanic (P.keystream a key iv x)) ∧ ∀ n, ctLen a n = n) ∨
    (∃ k s, a = .cbc k s) ∨
    (a.isAead = true ∧ (∀ x, encryptWith P a key iv x = orPanic (P.aeadEnc a key iv x)) ∧
      (∀ x, decryptWith P a key iv x = orInvalid (P.aeadDec a key iv x)) ∧ ∀ n, ctLen a n = n + 16) := by
  cases a
  case cfb => exact .inl ⟨_, rfl⟩
  case cbc => exact .inr (.inr (.inl ⟨_, _, rfl⟩))
  case ofb | ctrLE | ctrBE => exact .inr (.inl ⟨rfl, fun _ => rfl, fun _ => rfl, fun _ => rfl⟩)
  all_goals exact .inr (.inr (.inr ⟨rfl, fun _ => rfl, fun _ => rfl, fun _ => rfl⟩))

theorem decryptWith_cbc (k : KeySize) (s : Pad) (ct : Bytes) :
    decryptWith P (.cbc k s) key iv ct =
      orInvalid (if ct.length % 16 ≠ 0 then none else unpadBlocks s (P.cbcDec k key iv ct)) := by
  simp only [decryptWith]
  split
  · rfl
  · cases unpadBlocks s (P.cbcDec k key iv ct) <;> rfl

theorem encryptWith_ne_err (x : Bytes) (e : Err) : encryptWith P a key iv x ≠ .err e := by
  -- every arm is `.ok _` or `orPanic _`
  cases a <;> first | exact orPanic_ne_err _ _ | nofun

variable {a key iv} {x : Bytes}

theorem decryptWith_err {e : Err} (h : decryptWith P a key iv x = .err e) :
    e = .invalidInput ∧ (a.isAead = true ∨ ∃ ks s, a = .cbc ks s) := by
  rcases a.family P key iv with ⟨k, rfl⟩ | ⟨-, -, hdec, -⟩ | ⟨k, s, rfl⟩ | ⟨ha, -, hdec, -⟩
  · cases h
  · rw [hdec] at h; exact absurd h (orPanic_ne_err _ _)
  · rw [decryptWith_cbc, orInvalid_eq_err] at h; exact ⟨h.2, .inr ⟨k, s, rfl⟩⟩
  · rw [hdec, orInvalid_eq_err] at h; exact ⟨h.2, .inl ha⟩

theorem decryptWith_panic (h : decryptWith P a key iv x = .panic) :
    a.isKeystream = true ∧ P.keystream a key iv x = none := by
  rcases a.family P key iv with ⟨k, rfl⟩ | ⟨hk, -, hdec, -⟩ | ⟨k, s, rfl⟩ | ⟨-, -, hdec, -⟩
  · cases h
  · rw [hdec, orPanic_eq_panic] at h; exact ⟨hk, h⟩
  · rw [decryptWith_cbc] at h; exact absurd h (orInvalid_ne_panic _)
  · rw [hdec] at h; exact absurd h (orInvalid_ne_panic _)

end

def Ip.WF : Ip → Prop
  | .v4 o => o.length = 4
  | .v6 o => o.length = 16

theorem v4Prefix_length : v4Prefix.length = 12 := rfl

theorem ipToBytes_length (ip : Ip) (h : ip.WF) : (ipToBytes ip).length = 16 := by
  cases ip <;> simp_all [ipToBytes, Ip.WF, v4Prefix_length]

theorem isV4Form_iff (b : Bytes) : isV4Form b = true ↔ b.take 12 = v4Prefix := by
  simp [isV4Form]

theorem isV4Form_v4 (o : Bytes) : isV4Form (v4Prefix ++ o) = true := by
  rw [isV4Form_iff, List.take_left' v4Prefix_length]

theorem bytesToIp_isV4 (b : Bytes) : (bytesToIp b).isV4 = isV4Form b := by
  unfold bytesToIp
  cases h : isV4Form b <;> simp [Ip.isV4]

theorem bytesToIp_WF (b : Bytes) (h : b.length = 16) : (bytesToIp b).WF := by
  unfold bytesToIp
  cases hv : isV4Form b <;> simp [Ip.WF, h]

theorem ipToBytes_bytesToIp (b : Bytes) : ipToBytes (bytesToIp b) = b := by
  unfold bytesToIp
  cases hv : isV4Form b with
  | false => simp [ipToBytes]
  | true =>
    simp only [if_true, ipToBytes]
    rw [← (isV4Form_iff b).mp hv, List.take_append_drop]

theorem bytesToIp_ipToBytes (ip : Ip) (h : D_v4mapped ip = false) : bytesToIp (ipToBytes ip) = ip := by
  cases ip with
  | v4 o =>
    simp only [ipToBytes, bytesToIp, isV4Form_v4, if_true]
    rw [List.drop_left' v4Prefix_length]
  | v6 o =>
    simp only [D_v4mapped] at h
    simp [ipToBytes, bytesToIp, h]

theorem bytesToIp_ipToBytes_mapped (o : Bytes) (h : isV4Form o = true) :
    bytesToIp (ipToBytes (.v6 o)) = .v4 (o.drop 12) := by
  simp [ipToBytes, bytesToIp, h]

end Crypt
