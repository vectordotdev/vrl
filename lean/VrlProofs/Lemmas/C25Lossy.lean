/-
  `String::from_utf8_lossy` on ASCII: it leaves ASCII text alone, and only ASCII text comes out
  as ASCII (whatever replaces or continues a non-ASCII lead byte starts with a byte ≥ 128).
-/
import VrlModel.Conv.Basic

namespace Conv
open Utf8

theorem lossyF_cons_ascii (fuel b : Nat) (t : List Nat) (hb : b < 128) :
    lossyF (fuel + 1) (b :: t) = b :: lossyF fuel t := by
  simp only [lossyF, hb, ↓reduceIte]

/-- every branch for a non-ASCII lead byte emits first either that byte or U+FFFD -/
theorem lossyF_cons_head (fuel b : Nat) (t : List Nat) (hb : ¬ b < 128) :
    ∃ c r, lossyF (fuel + 1) (b :: t) = c :: r ∧ 128 ≤ c := by
  have ite : ∀ (p : Prop) [Decidable p] (x y : List Nat), (∃ c r, x = c :: r ∧ 128 ≤ c) →
      (∃ c r, y = c :: r ∧ 128 ≤ c) → ∃ c r, (if p then x else y) = c :: r ∧ 128 ≤ c := by
    intro p _ x y hx hy; split <;> assumption
  simp only [lossyF, hb, ↓reduceIte]
  -- one goal per sequence length, so that the case splits work on small terms
  refine ite _ _ _ ?_ (ite _ _ _ ?_ (ite _ _ _ ?_ ?_))
  all_goals repeat' split
  all_goals exact ⟨_, _, rfl, by omega⟩

theorem lossyF_ascii : ∀ (fuel : Nat) (s : List Nat), s.length ≤ fuel → (∀ c ∈ s, c < 128) →
    lossyF fuel s = s
  | _, [], _, _ => by cases ‹Nat› <;> rfl
  | 0, _ :: _, h, _ => by simp at h
  | fuel + 1, b :: t, h, ha => by
    rw [lossyF_cons_ascii fuel b t (ha b (by simp)),
      lossyF_ascii fuel t (by simpa using h) (fun c hc => ha c (by simp [hc]))]

theorem lossy_ascii (s : List Nat) (h : ∀ c ∈ s, c < 128) : lossy s = s :=
  lossyF_ascii s.length s (Nat.le_refl _) h

theorem lossyF_ascii_out : ∀ (fuel : Nat) (s : List Nat), s.length ≤ fuel →
    (∀ c ∈ lossyF fuel s, c < 128) → lossyF fuel s = s
  | _, [], _, _ => by cases ‹Nat› <;> rfl
  | 0, _ :: _, h, _ => by simp at h
  | fuel + 1, b :: t, h, ha => by
    by_cases hb : b < 128
    · rw [lossyF_cons_ascii fuel b t hb] at ha ⊢
      rw [lossyF_ascii_out fuel t (by simpa using h) (fun c hc => ha c (by simp [hc]))]
    · obtain ⟨c, r, hcr, hc⟩ := lossyF_cons_head fuel b t hb
      have := ha c (by simp [hcr])
      omega

theorem lossy_ascii_out (s : List Nat) (h : ∀ c ∈ lossy s, c < 128) : lossy s = s :=
  lossyF_ascii_out s.length s (Nat.le_refl _) h

end Conv
