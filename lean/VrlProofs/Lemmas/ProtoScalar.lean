/-
  C26, leaves of the case tables: integer casts, float casts, enum lookups, and the round trip of a
  scalar (`convScalar` against `toValue`).
-/
import VrlProofs.Lemmas.Proto
import VrlProofs.Lemmas.F64

namespace Proto

theorem and_decide_iff {p q : Prop} [Decidable p] [Decidable q] :
    (decide p && decide q) = true ↔ p ∧ q := by
  rw [Bool.and_eq_true, decide_eq_true_iff, decide_eq_true_iff]

theorem inI32_iff (i : Int) : inI32 i = true ↔ -2147483648 ≤ i ∧ i < 2147483648 := and_decide_iff
theorem inU32_iff (i : Int) : inU32 i = true ↔ 0 ≤ i ∧ i < 4294967296 := and_decide_iff
theorem inI64_iff (i : Int) : inI64 i = true ↔ -9223372036854775808 ≤ i ∧ i < 9223372036854775808 := and_decide_iff

/-- a two's-complement cast is the identity on the range of its type -/
theorem wrap_signed (p i : Int) (h0 : -p ≤ i) (h1 : i < p) : (i + p) % (2 * p) - p = i := by
  have a : 0 ≤ i + p := by have := Int.add_le_add_right h0 p; rwa [Int.add_left_neg] at this
  have b : i + p < 2 * p := by rw [Int.two_mul]; exact Int.add_lt_add_right h1 p
  rw [Int.emod_eq_of_lt a b]
  exact Int.add_sub_cancel i p

theorem wrapI32_of_in (i : Int) (h : inI32 i = true) : wrapI32 i = i :=
  have h := (inI32_iff i).mp h
  wrap_signed p31 i h.1 h.2

theorem wrapU32_of_in (i : Int) (h : inU32 i = true) : wrapU32 i = i :=
  have h := (inU32_iff i).mp h
  Int.emod_eq_of_lt h.1 h.2

/-- the range of a `uint64` row without defect is `[0, 2^63)` (`defectScalar`), not that of `u64` -/
theorem wrapU64_of_in (i : Int) (h0 : 0 ≤ i) (h1 : i < p63) : wrapU64 i = i :=
  Int.emod_eq_of_lt h0 (Int.lt_trans h1 (by decide))

theorem wrapI64_of_in (i : Int) (h : inI64 i = true) : wrapI64 i = i :=
  have h := (inI64_iff i).mp h
  wrap_signed p63 i h.1 h.2

/-- `uint64` fields: the two wrapping casts `i as u64` and `u as i64` undo each other on every `i64`. -/
theorem wrapI64_wrapU64 (i : Int) (h : inI64 i = true) : wrapI64 (wrapU64 i) = i := by
  show (i % p64 + p63) % p64 - p63 = i
  rw [Int.emod_add_emod]
  exact wrapI64_of_in i h

theorem f64_default_iff (b : Nat) (hb : b < F64.p64) (hnz : b ≠ negZero64) :
    (F64.mag b == 0) = (b == 0) := by
  rw [Bool.eq_iff_iff, beq_iff_eq, beq_iff_eq]
  refine ⟨fun h => ?_, fun h => by rw [h]; rfl⟩
  have e := F64.bits_eq b hb
  rw [h] at e
  split at e
  · exact absurd e hnz
  · exact e

theorem f32_toF64_of_mag_zero (y : Nat) (h : F32.mag y = 0) :
    F32.toF64 y = 0 ∨ F32.toF64 y = negZero64 := by
  -- 2^31 = 2^23 · 256: exponent field and fraction are read off the magnitude
  have hexp : F32.expField y = 0 := by
    show y / F32.p23 % 256 = 0
    rw [← Nat.mod_mul_right_div_self, show F32.p23 * 256 = F32.p31 from rfl, show y % F32.p31 = 0 from h]
    rfl
  have hfrac : F32.frac y = 0 := by
    show y % F32.p23 = 0
    rw [← Nat.mod_mod_of_dvd y (⟨256, rfl⟩ : F32.p23 ∣ F32.p31), show y % F32.p31 = 0 from h]
    rfl
  have hnan : F32.isNaN y = false := by simp only [F32.isNaN, h]; rfl
  have hinf : F32.isInf y = false := by simp only [F32.isInf, h]; rfl
  have hmant : F32.mant y = 0 := by simp only [F32.mant, hexp, hfrac, if_true]
  simp only [F32.toF64, hnan, hinf, hmant, Bool.false_eq_true, if_false]
  cases F32.signBit y
  · exact Or.inl rfl
  · exact Or.inr rfl

theorem f32_default_iff (b : Nat) (hex : F32.exact b = true) (hnz : b ≠ negZero64) :
    (F32.mag (F32.ofF64 b) == 0) = (b == 0) := by
  simp only [F32.exact, Bool.and_eq_true, beq_iff_eq] at hex
  rw [Bool.eq_iff_iff, beq_iff_eq, beq_iff_eq]
  constructor
  · intro hm
    rcases f32_toF64_of_mag_zero _ hm with h0 | h0 <;> rw [hex.2] at h0
    · exact h0
    · exact absurd h0 hnz
  · rintro rfl; rfl

theorem F32.roundMag_le (m : Nat) (e : Int) : F32.roundMag m e ≤ F32.infBits := by
  fun_cases F32.roundMag m e
  · exact Nat.zero_le _
  · fun_cases F32.clampInf
    · exact Nat.le_refl _
    · next h => exact Nat.le_of_lt (Nat.lt_of_not_le h)

theorem F32.mag_withSign (s : Bool) (y : Nat) (h : y ≤ F32.infBits) : F32.mag (F32.withSign s y) = y := by
  have hy : y < F32.p31 := Nat.lt_of_le_of_lt h (by decide)
  cases s
  · exact Nat.mod_eq_of_lt hy
  · show (F32.p31 + y) % F32.p31 = y
    rw [Nat.add_mod_left]; exact Nat.mod_eq_of_lt hy

theorem F32.ofF64_not_nan (b : Nat) (h : F64.isNaN b = false) : F32.isNaN (F32.ofF64 b) = false := by
  have key : ∀ s y, y ≤ F32.infBits → F32.isNaN (F32.withSign s y) = false := by
    intro s y hy
    simp only [F32.isNaN, F32.mag_withSign s y hy]
    simp; exact hy
  unfold F32.ofF64
  rw [h]
  simp only [Bool.false_eq_true, if_false]
  split
  · exact key _ _ (Nat.le_refl _)
  · exact key _ _ (F32.roundMag_le _ _)

theorem enum_ok_of_pool {pool : Pool} {e : Nat} {ed : EnumDesc} (hok : pool.Ok = true)
    (h : pool.enum e = some ed) : ed.Ok = true := by
  simp only [Pool.Ok, Bool.and_eq_true, List.all_eq_true] at hok
  unfold Pool.enum at h
  exact hok.2 ed (List.mem_of_getElem? h)

theorem msg_ok_of_pool {pool : Pool} {r : Nat} {md : MsgDesc} (hok : pool.Ok = true)
    (h : pool.msg r = some md) : md.Ok = true := by
  simp only [Pool.Ok, Bool.and_eq_true, List.all_eq_true] at hok
  unfold Pool.msg at h
  exact hok.1 md (List.mem_of_getElem? h)

theorem EnumDesc.mem_of_hasName {ed : EnumDesc} {b : List Nat} (h : ed.hasName b = true) :
    ∃ n, (b, n) ∈ ed.values := by
  simp only [EnumDesc.hasName, List.any_eq_true, beq_iff_eq] at h
  obtain ⟨p, hp, he⟩ := h
  exact ⟨p.2, by rw [← he]; exact hp⟩

theorem EnumDesc.byNameCI_of_mem {ed : EnumDesc} (hok : ed.Ok = true) {b : List Nat} {n : Int}
    (hm : (b, n) ∈ ed.values) : ed.byNameCI b = some n := by
  simp only [EnumDesc.Ok, Bool.and_eq_true] at hok
  unfold EnumDesc.byNameCI
  rw [find_of_mem_distinct (fun p : List Nat × Int => p.1.map Utf8L.lowerAscii) _ (b, n)
    (by intro x; simp [Utf8L.eqIgnoreAsciiCase]) ed.values hok.1.1 hm]
  rfl

theorem EnumDesc.byNumber_of_mem {ed : EnumDesc} (hok : ed.Ok = true) {b : List Nat} {n : Int}
    (hm : (b, n) ∈ ed.values) : ed.byNumber n = some b := by
  simp only [EnumDesc.Ok, Bool.and_eq_true] at hok
  unfold EnumDesc.byNumber
  rw [find_of_mem_distinct (fun p : List Nat × Int => p.2) _ (b, n)
    (by intro x; simp) ed.values hok.1.2 hm]
  rfl

theorem EnumDesc.lossy_name {ed : EnumDesc} (hok : ed.Ok = true) {b : List Nat} {n : Int}
    (hm : (b, n) ∈ ed.values) : Utf8L.lossy b = b := by
  simp only [EnumDesc.Ok, Bool.and_eq_true, List.all_eq_true] at hok
  have := hok.2 (b, n) hm
  simpa [Utf8L.valid] using this

theorem EnumDesc.number_unique {ed : EnumDesc} (hok : ed.Ok = true) {b : List Nat} {n n' : Int}
    (hm : (b, n) ∈ ed.values) (hm' : (b, n') ∈ ed.values) : n = n' := by
  have h1 := EnumDesc.byNameCI_of_mem hok hm
  have h2 := EnumDesc.byNameCI_of_mem hok hm'
  rw [h1] at h2
  exact Option.some.inj h2

theorem EnumDesc.contains_dflt {ed : EnumDesc} (hok : ed.Ok = true) {b : List Nat} {n : Int}
    (hm : (b, n) ∈ ed.values) : ed.values.contains (b, ed.dflt) = (n == ed.dflt) := by
  by_cases hnd : n = ed.dflt
  · subst hnd
    simp [hm]
  · have : ¬ (b, ed.dflt) ∈ ed.values := fun hm' => hnd (EnumDesc.number_unique hok hm hm')
    simp [hnd, this]

/-- What `convert_value_raw` makes of an integer depends on the scalar type only through the Rust
    type that carries it. -/
theorem convScalar_int (P : Prims) (lossy : Bool) (i : Int) (s : Scalar) :
    convScalar P lossy (.int i) s =
      match s.carrier with
      | .i32 => some (.i32 (wrapI32 i))
      | .i64 => some (.i64 i)
      | .u32 => some (.u32 (wrapU32 i))
      | .u64 => some (.u64 (wrapU64 i))
      | .bool => some (.bool (i != 0))
      | .f64 => some (.f64 (F64.ofInt i))
      | .f32 => some (.f32 (F32.ofInt i))
      | .string => if lossy then some (.string (decInt i)) else none
      | .bytes => none := by
  cases s <;> rfl

theorem carrier_beq {s : Scalar} {c : Carrier} (h : s.carrier = c) : (s.carrier == c) = true :=
  beq_iff_eq.mpr h

theorem carrier_and {s : Scalar} {c : Carrier} (h : s.carrier = c) (b : Bool) :
    (s.carrier == c && b) = b := by
  rw [carrier_beq h]; rfl

/-- The scalar rows of the two case tables are inverse on shaped scalars.  The default clause holds
    under `sing` (no presence) only: with presence `defectScalar` lets `-0.0` through, which
    `isDefault` takes for zero and `isDefaultValue` does not. -/
theorem rt_scalar (P : Prims) (lossy : Bool) (pool : Pool) (sing : Bool) (s : Scalar) (x : Value)
    (h : defectScalar sing s x = none) :
    ∃ pv, convScalar P lossy x s = some pv ∧ validKind pv (.scalar s) = true ∧
      (∀ ctx, toValue pool ctx pv = some x) ∧
      (sing = true → ∀ nm num, isDefault pool ⟨nm, num, .scalar s, .singular⟩ pv =
         isDefaultValue pool ⟨nm, num, .scalar s, .singular⟩ x) := by
  revert h
  -- the branches of `defectScalar`: 1-3 double, 4-7 float, 8 bool, 9-10 string, 11 bytes,
  -- 12-19 an integer by the carrier of `s` (in range, out of range), 20-21 no row
  fun_cases defectScalar sing s x
  case case3 b hfin hnz =>  -- double: not NaN, a 64-bit pattern, not `-0.0` under `sing`
    simp only [Bool.or_eq_true, Bool.not_eq_true', decide_eq_false_iff_not, not_or, Bool.not_eq_true,
      Decidable.not_not] at hfin
    refine fun _ => ⟨.f64 b, rfl, rfl, fun _ => ?_, ?_⟩
    · show (if F64.isNaN b = true then none else some (Value.float b)) = _
      rw [hfin.1]; rfl
    · rintro rfl _ _
      exact f64_default_iff b hfin.2 (fun e => hnz (by rw [e]; rfl))
  case case7 b hfin hex hnz =>  -- float: the same, and exact in binary32
    simp only [Bool.or_eq_true, Bool.not_eq_true', decide_eq_false_iff_not, not_or, Bool.not_eq_true,
      Decidable.not_not] at hfin
    simp only [Bool.not_eq_true', Bool.not_eq_false] at hex
    have h3 := hex
    simp only [F32.exact, Bool.and_eq_true, Bool.not_eq_true', beq_iff_eq] at h3
    refine fun _ => ⟨.f32 (F32.ofF64 b), rfl, rfl, fun _ => ?_, ?_⟩
    · show (if F32.isNaN (F32.ofF64 b) = true then none else some (Value.float (F32.toF64 (F32.ofF64 b)))) = _
      rw [h3.1, h3.2]; rfl
    · rintro rfl _ _
      exact f32_default_iff b hex (fun e => hnz (by rw [e]; rfl))
  case case8 b =>  -- bool
    exact fun _ => ⟨.bool b, rfl, rfl, fun _ => rfl, fun _ _ _ => rfl⟩
  case case9 b hutf =>  -- string: valid UTF-8
    have hv : Utf8L.lossy b = b := by simpa [Utf8L.valid] using hutf
    exact fun _ => ⟨.string b, show some (PValue.string (Utf8L.lossy b)) = _ by rw [hv], rfl, fun _ => rfl,
      fun _ _ _ => rfl⟩
  case case11 b =>  -- bytes
    exact fun _ => ⟨.bytes b, rfl, rfl, fun _ => rfl, fun _ _ _ => rfl⟩
  -- the image, its validity and its default test all go by the carrier of `s`
  case case12 i hin hc =>  -- carrier i32, in range
    exact fun _ => ⟨.i32 i, by rw [convScalar_int, hc, wrapI32_of_in i hin], carrier_beq hc, fun _ => rfl,
      fun _ _ _ => carrier_and hc _⟩
  case case14 i _ hc =>  -- carrier i64
    exact fun _ => ⟨.i64 i, by rw [convScalar_int, hc], carrier_beq hc, fun _ => rfl,
      fun _ _ _ => carrier_and hc _⟩
  case case16 i hin hc =>  -- carrier u32, in range
    exact fun _ => ⟨.u32 i, by rw [convScalar_int, hc, wrapU32_of_in i hin], carrier_beq hc, fun _ => rfl,
      fun _ _ _ => carrier_and hc _⟩
  case case18 i hin hc =>  -- carrier u64, in `[0, 2^63)`
    have hin : 0 ≤ i ∧ i < p63 := and_decide_iff.mp hin
    exact fun _ => ⟨.u64 i, by rw [convScalar_int, hc, wrapU64_of_in i hin.1 hin.2], carrier_beq hc,
      fun _ => congrArg (fun j => some (Value.int j))
        (wrapI64_of_in i ((inI64_iff i).mpr ⟨Int.le_trans (by decide) hin.1, hin.2⟩)),
      fun _ _ _ => carrier_and hc _⟩
  all_goals exact nofun  -- the rows that report a defect

end Proto
