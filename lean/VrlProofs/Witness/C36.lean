/-
  C36 — non-vacuity examples (no finding class: the behavioural check reports no function outside
  `tzReaders` that depends on the configured zone).
-/
import VrlProofs.Props.C36

namespace C36
open Lang TzModel

/-- `length("a")` — a modelled program -/
def progLength : Exprs :=
  .cons (.call "length" 0 0 (.cons none (.lit (.bytes [97])) .nil) false [] .nil) .nil

/-- `parse_timestamp("…", "%F %T")` — calls a reader -/
def progParseTimestamp : Exprs :=
  .cons (.call "parse_timestamp" 0 0
    (.cons none (.lit (.bytes [50])) (.cons none (.lit (.bytes [37, 70])) .nil)) false [] .nil) .nil

/-- the hypothesis of `inModel_tzFree` is satisfiable … -/
theorem progLength_inModel : inModel progLength = true := by decide +kernel

/-- … and its conclusion is not vacuous: a reader call is outside the fragment -/
theorem progParseTimestamp_not_tzFree : tzFree progParseTimestamp = false := by decide +kernel

/-- and the model refuses to evaluate it (`oom`) instead of ignoring the zone silently -/
theorem progParseTimestamp_oom (s : St) : ∃ s', (callFn "parse_timestamp" [] none s) = (.oom, s') :=
  ⟨s, reader_call_oom "parse_timestamp" (by simp [isTzReader, tzReaderNames, tzReaders]) [] none s⟩

/-- every listed reader except `get_timezone_name` documents when the zone is not consulted -/
theorem readers_documented :
    (tzReaders.filter (fun r => r.notConsultedWhen.isEmpty)).map (·.name) = ["get_timezone_name"] := by
  simp [tzReaders]

/-- `parse_timestamp` glue, non-vacuity: a zone-less format really uses the effective zone -/
example : Cnv.formatHasZone ['%', 'F', ' ', '%', 'T'] = false := by decide +kernel
example : Cnv.formatHasZone ['%', 'F', ' ', '%', 'T', ' ', '%', 'z'] = true := by decide +kernel

end C36
