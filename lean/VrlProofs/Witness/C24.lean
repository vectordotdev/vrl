/-
  C24 — witnesses: the full round-trip statements are false of the modelled code.
  Every witness is a closed term evaluated by the kernel (`decide +kernel`); each is replayed on the real
  implementation by the `o.c24.*` oracle cases of corpus/C24/known.case.
  Also: non-vacuity examples for the hypotheses of the partial theorems.
-/
import VrlProofs.Props.C24

namespace C24
open KV

/-! ## key-value: one witness per finding class (default delimiters `=` / space unless stated) -/

/-- `kv:D_backslash` — `{"k": "a\b"}` is written `k=a\\b` and read back as `a\\b`. -/
theorem witness_backslash :
    encodeKV ['='] [' '] [(['k'], ['a', '\\', 'b'])] = ['k', '=', 'a', '\\', '\\', 'b'] ∧
    parseKV (defaultCfg ['='] [' ']) (encodeKV ['='] [' '] [(['k'], ['a', '\\', 'b'])])
      = .ok [(['k'], .str ['a', '\\', '\\', 'b'])] ∧
    objectClass ['='] [' '] [(['k'], ['a', '\\', 'b'])] = some .backslash := by decide +kernel

/-- `kv:D_newline` — a newline is written as backslash, backslash, `n` inside quotes and read back
    as the two characters backslash, `n`. -/
theorem witness_newline :
    encodeKV ['='] [' '] [(['k'], ['a', '\n', 'b'])]
      = ['k', '=', '"', 'a', '\\', '\\', 'n', 'b', '"'] ∧
    parseKV (defaultCfg ['='] [' ']) (encodeKV ['='] [' '] [(['k'], ['a', '\n', 'b'])])
      = .ok [(['k'], .str ['a', '\\', 'n', 'b'])] ∧
    objectClass ['='] [' '] [(['k'], ['a', '\n', 'b'])] = some .newline := by decide +kernel

/-- `kv:D_leading_quote` — the value `'a'` is written verbatim and read as the single-quoted `a`. -/
theorem witness_leading_quote :
    parseKV (defaultCfg ['='] [' ']) (encodeKV ['='] [' '] [(['k'], ['\'', 'a', '\''])])
      = .ok [(['k'], .str ['a'])] ∧
    objectClass ['='] [' '] [(['k'], ['\'', 'a', '\''])] = some .leadingQuote := by decide +kernel

/-- `kv:D_leading_quote`, on keys: `{"'a": "b'"}` is written `'a=b'` and read as the standalone key
    `a=b`. -/
theorem witness_leading_quote_key :
    parseKV (defaultCfg ['='] [' ']) (encodeKV ['='] [' '] [(['\'', 'a'], ['b', '\''])])
      = .ok [(['a', '=', 'b'], .tru)] := by decide +kernel

/-- `kv:D_field_delim` — with `:` / `,` the value `a,b` is not quoted; the text `k:a,b` is read as
    `k = a` and a standalone key `b`. -/
theorem witness_field_delim :
    parseKV (defaultCfg [':'] [',']) (encodeKV [':'] [','] [(['k'], ['a', ',', 'b'])])
      = .ok [(['b'], .tru), (['k'], .str ['a'])] ∧
    objectClass [':'] [','] [(['k'], ['a', ',', 'b'])] = some .fieldDelim := by decide +kernel

/-- `kv:D_key_delim` — with `:` / `,` the key `a:b` is not quoted; `a:b:v` is read as `a = b:v`. -/
theorem witness_key_delim :
    parseKV (defaultCfg [':'] [',']) (encodeKV [':'] [','] [(['a', ':', 'b'], ['v'])])
      = .ok [(['a'], .str ['b', ':', 'v'])] ∧
    objectClass [':'] [','] [(['a', ':', 'b'], ['v'])] = some .keyDelim := by decide +kernel

/-- `kv:D_empty_object` — `{}` is written as the empty string, which `parse_key_value` rejects. -/
theorem witness_empty_object :
    encodeKV ['='] [' '] [] = [] ∧
    parseKV (defaultCfg ['='] [' ']) (encodeKV ['='] [' '] []) = .err ∧
    objectClass ['='] [' '] [] = some .emptyObject := by decide +kernel

/-- `kv:D_delimiters` — with a space as key-value delimiter (default lenient whitespace) `k v` is
    read as the standalone key `k`. -/
theorem witness_space_delimiter :
    parseKV (defaultCfg [' '] [',']) (encodeKV [' '] [','] [(['k'], ['v'])]) = .ok [(['k'], .tru)] ∧
    objectClass [' '] [','] [(['k'], ['v'])] = some .delimiters := by decide +kernel

/-- the logfmt pair shows the same behaviour (it is the `=` / space instance). -/
theorem witness_logfmt_backslash :
    parseLogfmt (encodeLogfmt [(['k'], ['a', '\\', 'b'])])
      = .ok [(['k'], .str ['a', '\\', '\\', 'b'])] := by decide +kernel

theorem witness_logfmt_newline :
    parseLogfmt (encodeLogfmt [(['k'], ['a', '\n', 'b'])])
      = .ok [(['k'], .str ['a', '\\', 'n', 'b'])] := by decide +kernel

theorem kv_roundtrip_false : ¬ KvRoundTrip := by
  intro h
  have := h '=' ' ' [(['k'], ['a', '\\', 'b'])] (by decide) ⟨by decide, by decide⟩
  rw [witness_backslash.2.1] at this
  exact absurd this (by decide)

theorem logfmt_roundtrip_false : ¬ LogfmtRoundTrip := by
  intro h
  have := h [(['k'], ['a', '\\', 'b'])] ⟨by decide, by decide⟩
  rw [witness_logfmt_backslash] at this
  exact absurd this (by decide)

/-! ## CSV -/

/-- `csv:D_bom` — a first field starting with U+FEFF (bytes EF BB BF) is written unquoted and the
    reader strips the byte-order mark. -/
theorem witness_csv_bom :
    Csv.encodeCsv 44 [[0xEF, 0xBB, 0xBF, 97], [98]] = [0xEF, 0xBB, 0xBF, 97, 44, 98] ∧
    Csv.parseCsv 44 (Csv.encodeCsv 44 [[0xEF, 0xBB, 0xBF, 97], [98]]) = [[97], [98]] ∧
    Csv.listClass 44 [[0xEF, 0xBB, 0xBF, 97], [98]] = some .bom := by decide +kernel

/-- `csv:D_delimiter` — with the quote character as delimiter, `["", "x"]` is written `"x` and read
    back as the single field `x`. -/
theorem witness_csv_delimiter :
    Csv.encodeCsv 34 [[], [120]] = [34, 120] ∧
    Csv.parseCsv 34 (Csv.encodeCsv 34 [[], [120]]) = [[120]] ∧
    Csv.listClass 34 [[], [120]] = some .delimiter := by decide +kernel

theorem csv_roundtrip_false : ¬ CsvRoundTrip := by
  intro h
  have := h [[0xEF, 0xBB, 0xBF, 97], [98]]
  rw [witness_csv_bom.2.1] at this
  exact absurd this (by decide)

/-! ## Non-vacuity of the partial theorems -/

/-- an object with a quoted value (space, `"`, `=`, backslash inside quotes), an unquoted value with
    unicode and an inner single quote, and a quoted key satisfies every hypothesis of
    `kv_roundtrip_partial` / `logfmt_roundtrip_partial`. -/
example :
    let o : List (List Char × List Char) :=
      [(['a', ' ', 'b'], ['x', ' ', '"', 'y', '"', ' ', '=', ' ', '\\', 'z']),
       (['k'], ['v', 'é', '\'', '日'])]
    delimOK '=' = true ∧ keysSorted o = true ∧ safeObject '=' ' ' o = true ∧
    parseLogfmt (encodeLogfmt o) = .ok (expected o) := by decide +kernel

example : delimOK ':' = true ∧ safeObject ':' ',' [(['k'], ['a', '=', ':', 'b'])] = true := by
  decide +kernel

/-- lists with quotes, delimiters, line breaks and empty fields satisfy the hypotheses of
    `csv_roundtrip_partial`. -/
example :
    let l : List (List Nat) := [[], [97, 44, 34, 98], [13, 10], [0xEF, 0xBB, 0xBF]]
    Csv.delimOK 44 = true ∧ Csv.startsWithBom (Csv.encodeCsv 44 l) = false ∧
    Csv.parseCsv 44 (Csv.encodeCsv 44 l) = l := by decide +kernel

end C24
