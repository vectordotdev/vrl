/-
  C31 — witnesses: the leaf shape on which `match_datadog_query` deviates from the reference
  semantics (re-observed on the real implementation by `o.c31 leaf`), the repaired tag comparison
  (/repo d99b562), and non-vacuity examples.
-/
import VrlProofs.Props.C31

namespace C31
open Search Search.Spec

/-- `{"tags": ["a:5"]}` -/
def wEvent : Value := .obj (.cons (utf8 "tags".toList) (.arr (.cons (.bytes (utf8 "a:5".toList)) .nil)) .nil)

/-- `b:>1` -/
def wTagCompare : QNode := .leaf (.comparison ['b'] .gt (.int 1))

/-- fixed (d99b562): `b:>1` is false on an event whose only tag is `a:5` — before the repair the
    comparison looked at the value of every `key:value` element of `tags`; it compares only the values
    of the tag `b`, as the reference semantics says (`C31.comparison_spec` for all queries and events) … -/
theorem fixed_tag_compare :
    matchQuery Env.ref wTagCompare wEvent = .ok false ∧
    Spec.run Env.ref wTagCompare wEvent = .ok false := by
  decide +kernel

/-- … and still holds when the tag is there: `a:>1` on `{"tags": ["a:5"]}`, also as a range -/
theorem fixed_tag_compare_present :
    matchQuery Env.ref (.leaf (.comparison ['a'] .gt (.int 1))) wEvent = .ok true ∧
    matchQuery Env.ref (.leaf (.range ['a'] (.int 1) true (.int 9) false)) wEvent = .ok true ∧
    matchQuery Env.ref (.leaf (.range ['b'] (.int 1) true (.int 9) false)) wEvent = .ok false := by
  decide +kernel

/-- `_exists_:tags` -/
def wExistsTags : QNode := .leaf (.exists_ "tags".toList)

/-- D_exists_tags_never: `_exists_:tags` is false on an event that has `tags` — the closure compares
    each element with the whole array (`v.iter().any(|v| v == value)`). -/
theorem witness_exists_tags :
    devExistsTags wExistsTags = true ∧
    matchQuery Env.ref wExistsTags wEvent = .ok false ∧
    Spec.run Env.ref wExistsTags wEvent = .ok true := by
  decide +kernel

/-- `_missing_:tags` is therefore always true -/
theorem witness_missing_tags :
    matchQuery Env.ref (.leaf (.missing "tags".toList)) wEvent = .ok true ∧
    Spec.run Env.ref (.leaf (.missing "tags".toList)) wEvent = .ok false := by
  decide +kernel

/-- non-vacuity of `matches_spec_partial`: a query with a tag term, an attribute comparison, a
    negated existence test and an `OR`, free of deviating leaves, that holds on an event. -/
example :
    let q : QNode := .bool .and (.cons (.leaf (.term ['a'] ['5']))
      (.cons (.bool .or (.cons (.leaf (.comparison "@n".toList .gte (.int 3)))
                        (.cons (.neg (.leaf (.exists_ "@x".toList))) .nil))) .nil))
    let e : Value := .obj (.cons (utf8 ['n']) (.int 7) (.cons (utf8 "tags".toList) (.arr (.cons (.bytes (utf8 "a:5".toList)) .nil)) .nil))
    noDev q = true ∧ matchQuery Env.ref q e = .ok true := by
  decide +kernel

/-- non-vacuity of the range theorems: `@n:[3 TO 9]` on `{"n": 7}` -/
example :
    matchQuery Env.ref (.leaf (.range "@n".toList (.int 3) true (.int 9) true)) (.obj (.cons (utf8 ['n']) (.int 7) .nil))
      = .ok true ∧ normalizeFields "@n".toList = [.attr ".n".toList] := by
  decide +kernel

/-- the reference engine satisfies the engine law (trivially: it is the reference) -/
example : EngineLaw Env.ref := ⟨fun _ _ => rfl, fun _ _ => rfl⟩

end C31
