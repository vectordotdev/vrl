/-
  C20 — witnesses: where the unrestricted statements are false of the code (and of its model),
  each re-observed on the implementation by the check (oracle ops `o.c20`, `o.c20.seg`,
  `o.c20.agree`), and non-vacuity examples for the hypotheses of the property theorems.
-/
import VrlProofs.Props.C20

namespace C20
open PathText PathVrl

/-- D_root_value_path: `OwnedValuePath::root()` renders to the empty string, which
    `parse_value_path` rejects (asserted by the unit test `owned_path_serialize`: `(".", Some(""))`,
    `("", None)`). -/
theorem witness_root_value_path :
    rtClass .value [] = .rootValuePath ∧ renderKind .value [] = some [] ∧
    roundTripHolds .value [] (parseKind .value []) = false := by
  decide

/-- D_root_metadata: `OwnedTargetPath::metadata_root()` renders to `%`, which `parse_target_path`
    rejects (`get_target_prefix` strips the `%`, the JIT parser rejects the empty rest). -/
theorem witness_root_metadata :
    rtClass (.target .metadata) [] = .rootMetadata ∧
    renderKind (.target .metadata) [] = some ['%'] ∧
    roundTripHolds (.target .metadata) [] (parseKind (.target .metadata) ['%']) = false := by
  decide

/-- the event root is *not* a finding: `.` parses back to the event root. -/
theorem event_root_roundtrips :
    renderKind (.target .event) [] = some ['.'] ∧
    roundTripHolds (.target .event) [] (parseKind (.target .event) ['.']) = true := by
  decide

/-- the field `a"b` (bytes 61 22 62). -/
def segQuote : Seg := .field [97, 34, 98]

/-- D_segment_display_unescaped: `Display for OwnedSegment` of the field `a"b` is `"a"b"` (quoted,
    not escaped), which does not parse. -/
theorem witness_segment_display :
    segUnescaped segQuote = true ∧
    renderSegment segQuote = some ['"', 'a', '"', 'b', '"'] ∧
    segRoundTripHolds segQuote (ofPResult (parseValuePath ['"', 'a', '"', 'b', '"'])) = false := by
  decide +kernel

/-- the model reproduces the overflow panic of `value * 10 + new_digit` (jit.rs:201, overflow
    checks on): `[99999999999999999999]`. (The panic itself is property C04's finding.) -/
theorem witness_index_overflow_panics :
    parseValuePath ("[99999999999999999999]".toList) = .panic := by
  decide +kernel

/-- `[-]` parses as index 0 (the `NegativeIndex` state accepts `]` before any digit). -/
theorem witness_bare_minus_is_zero : parseValuePath ['[', '-', ']'] = .ok [.index 0] := by
  decide

/-- the VRL source text `."{{a}}"`. -/
def tplText : List Char := ['.', '"', '{', '{', 'a', '}', '}', '"']

/-- D_template_field: in VRL source the quoted field `"{{a}}"` goes through the template-string
    machinery (`StringLiteralToken::template` + `Display for TemplateString`) and denotes the field
    `{{ a }}` (blanks inserted), while `parse_target_path` reads the same text as the field `{{a}}`. -/
theorem witness_template_field :
    hasTemplate tplText = true ∧
    vrlPath tplText = .path ⟨.event, [mkField "{{ a }}".toList]⟩ ∧
    parseTargetPath tplText = .ok ⟨.event, [mkField "{{a}}".toList]⟩ ∧
    agreeHolds (vrlPath tplText) (parseTargetPath tplText) = false := by
  decide +kernel

/-- an unterminated template section is dropped: `."a{{b"` denotes the field `a` in VRL source and
    the field `a{{b` for the string parser. -/
theorem witness_template_unterminated :
    let t := ".\"a{{b\"".toList
    vrlPath t = .path ⟨.event, [mkField ['a']]⟩ ∧
    parseTargetPath t = .ok ⟨.event, [mkField "a{{b".toList]⟩ := by
  decide +kernel

/-- `\}}` is rewritten to `}}` by `template()` even when the backslash is itself the second half of
    an escaped backslash: `."\\}}"` denotes `}}` in VRL source and `\}}` for the string parser. -/
theorem witness_template_close_escape :
    let t := ['.', '"', '\\', '\\', '}', '}', '"']
    hasTemplate t = true ∧
    vrlPath t = .path ⟨.event, [mkField ['}', '}']]⟩ ∧
    parseTargetPath t = .ok ⟨.event, [mkField ['\\', '}', '}']]⟩ := by
  decide +kernel

/-- non-vacuity of `agree_partial`: both sides accept, with quoted fields, escapes and an index. -/
example : let t := ".a.\"b \\\"c\\\\\"[-1]".toList
    hasTemplate t = false ∧
    vrlPath t = .path ⟨.event, [mkField ['a'], mkField "b \"c\\".toList, .index (-1)]⟩ ∧
    parseTargetPath t = .ok ⟨.event, [mkField ['a'], mkField "b \"c\\".toList, .index (-1)]⟩ := by
  decide +kernel

/-- non-vacuity of `roundtrip_partial`, for each kind. -/
example : let p : CPath := [.field ['a'], .field ['b', '"', ' ', '\\'], .index (-1)]
    p.inRange = true ∧ rtClass .value p.toPath = .none ∧
    rtClass (.target .event) p.toPath = .none ∧ rtClass (.target .metadata) p.toPath = .none := by
  decide +kernel

/-- non-vacuity of `roundtrip_segment_partial`. -/
example : (CSeg.field ['a', ' ', 'b']).inRange = true ∧
    segUnescaped (CSeg.field ['a', ' ', 'b']).toSeg = false := by decide

/-- the hypothesis `rtClass k p = .none` of `roundtrip_partial` in plain terms: every path except
    the empty value path and the empty metadata path. -/
theorem rtClass_none_iff (k : Kind) (p : Path) :
    rtClass k p = .none ↔ ¬ ((k = .value ∨ k = .target .metadata) ∧ p = []) := by
  cases k with
  | value => cases p <;> simp [rtClass]
  | target pfx => cases pfx <;> cases p <;> simp [rtClass]

end C20
