/-
  C11 — witnesses and non-vacuity examples.
  The clause "`string * n` repeats the string max(n, 0) times" is FALSE of the code for the
  operand pairs of class `D_capacity` (result larger than isize::MAX bytes): `[u8]::repeat` panics
  with "capacity overflow" instead of failing.  Replayed on the implementation by `o.c11`
  (corpus/C11/known.case).  Sizes below that bound but above the available memory abort the process
  (allocation failure) and are outside the model.
-/
import VrlProofs.Props.C11

namespace C11
open Arith

/-- `"ab" * 9223372036854775807` : in the class, the Spec demands a string, the code panics. -/
theorem repeat_capacity_witness :
    D_capacityV (.bytes [97, 98]) (.int 9223372036854775807) = true ∧
    model .mul (.bytes [97, 98]) (.int 9223372036854775807) = .panic ∧
    model .mul (.int 9223372036854775807) (.bytes [97, 98]) = .panic ∧
    expected .mul (.bytes [97, 98]) (.int 9223372036854775807)
      = some (.ok (.bytes (replicateBytes [97, 98] 9223372036854775807))) := by
  refine ⟨by decide, by decide, by decide, rfl⟩

/-- wrapping at the edges of `i64`: `MAX + 1 = MIN`, `MIN - 1 = MAX`, `MIN * -1 = MIN`,
    `3037000500 * 3037000500` wraps to a negative number. -/
theorem wrap_witness :
    tryAdd (.int 9223372036854775807) (.int 1) = .ok (.int (-9223372036854775808)) ∧
    trySub (.int (-9223372036854775808)) (.int 1) = .ok (.int 9223372036854775807) ∧
    tryMul (.int (-9223372036854775808)) (.int (-1)) = .ok (.int (-9223372036854775808)) ∧
    tryMul (.int 3037000500) (.int 3037000500) = .ok (.int (-9223372036709301616)) := by
  decide +kernel

def fInf : Nat := 9218868437227405312        -- +∞   0x7FF0000000000000
def fNegInf : Nat := 18442240474082181120    -- −∞   0xFFF0000000000000
def fNegZero : Nat := 9223372036854775808    -- −0.0 0x8000000000000000
def fOne : Nat := 4607182418800017408        -- 1.0  0x3FF0000000000000

/-- `∞ + −∞`, `∞ − ∞`, `0 * ∞`, `∞ / −∞`, `mod(∞, 1.0)` fail with `NanFloat`; `1 / 0`, `1.0 / -0.0`,
    `mod(1, 0.0)` with `DivideByZero`. -/
theorem nan_witness :
    tryAdd (.float fInf) (.float fNegInf) = .err .nanFloat ∧
    trySub (.float fInf) (.float fInf) = .err .nanFloat ∧
    tryMul (.int 0) (.float fInf) = .err .nanFloat ∧
    tryDiv (.float fInf) (.float fNegInf) = .err .nanFloat ∧
    tryRem (.float fInf) (.float fOne) = .err .nanFloat ∧
    tryDiv (.int 1) (.int 0) = .err .divideByZero ∧
    tryDiv (.float fOne) (.float fNegZero) = .err .divideByZero ∧
    tryRem (.int 1) (.float 0) = .err .divideByZero := by
  decide +kernel

/-- `0.1 + 0.2 = 0.30000000000000004` (0x3FD3333333333334), `1 / 3 = 0x3FD5555555555555`,
    `5.5 mod -2.0 = 1.5`, `-5 mod 2 = -1`, `7 / 2 = 3.5`. -/
theorem float_witness :
    tryAdd (.float 4591870180066957722) (.float 4596373779694328218) = .ok (.float 4599075939470750516) ∧
    tryDiv (.int 1) (.int 3) = .ok (.float 4599676419421066581) ∧
    tryRem (.float 4617878467915022336) (.float 13835058055282163712) = .ok (.float 4609434218613702656) ∧
    tryRem (.int (-5)) (.int 2) = .ok (.int (-1)) ∧
    tryDiv (.int 7) (.int 2) = .ok (.float 4615063718147915776) := by
  -- the soft-float's `Nat.log2` / `Nat.pow` are computed by the kernel's bignum arithmetic
  decide +kernel

/-! non-vacuity of the hypotheses used in Props/C11.lean -/

example : scalarOK (.int 9223372036854775807) = true ∧ scalarOK (.float fNegInf) = true ∧
    scalarOK (.bytes [1, 2]) = true := by decide
example : D_capacityV (.bytes [97, 98]) (.int 3) = false ∧ D_capacity [] 9223372036854775807 = false ∧
    D_capacity [97] (-5) = false := by decide
example : expected .mul (.bytes [97, 98]) (.int 3) = some (.ok (.bytes [97, 98, 97, 98, 97, 98])) := by decide
example : inI64 (-9223372036854775808) = true ∧ inI64 9223372036854775808 = false := by decide
example : C10.floatsOK (.float fNegZero) = true ∧ numZero (.float fNegZero) = true ∧ numZero (.int 0) = true := by
  decide +kernel

end C11
