/-
  C21 — witnesses of the two known findings, finding-class predicates, non-vacuity of the
  hypotheses of the `_partial` theorems.
-/
import VrlProofs.Props.C21

namespace C21
open Json

/-- `depth:D_json_recursion_limit`: the value nests 128 containers or more; `serde_json`'s
    `remaining_depth` (128) refuses to read back what it printed. -/
def D_json_recursion_limit (v : Value) : Bool := decide (127 < depth v)

/-- `float:D_json_float_2ulp`: a double read back more than one unit in the last place away. -/
def D_json_float_2ulp (x y : Nat) : Bool := decide (1 < ulpDist x y)

def nestArr : Nat → Value → Value
  | 0, v => v
  | n + 1, v => .arr (.cons (nestArr n v) .nil)

theorem pv_nestArr (P : Prims) (leaf : Value) : (n lvl : Nat) →
    pv P false lvl (nestArr n leaf) = List.replicate n 91 ++ (pv P false (lvl + n) leaf ++ List.replicate n 93)
  | 0, lvl => by simp [nestArr]
  | n + 1, lvl => by
    rw [nestArr, pv, pl0, pl, pv_nestArr P leaf n (lvl + 1)]
    simp [nl, List.replicate_succ, ← List.replicate_succ', Nat.add_assoc, Nat.add_comm 1 n]

/-- the double `-9.867437071726851e-60`, as its bit pattern -/
def x0 : Nat := 0xb3afb674d263f401

/-- how `zmij` prints `x0` -/
def text0 : List Nat :=
  [45, 57, 46, 56, 54, 55, 52, 51, 55, 48, 55, 49, 55, 50, 54, 56, 53, 49, 101, 45, 54, 48]

/-- primitives with `serde_json`'s default number conversion (`serdeParseF`) and the one float
    text the witnesses need -/
def serdePrims : Prims where
  showF := fun b => if b = x0 then text0 else []
  parseF := serdeParseF
  showTs := fun _ => []

theorem witness_depth_class : jsonRepr (nestArr 128 .null) = true ∧
    D_json_recursion_limit (nestArr 128 .null) = true ∧ D_json_recursion_limit (nestArr 127 .null) = false := by
  decide +kernel

/-- 128 nested arrays are printed but not read back, for every choice of float primitives: the
    full-strength statement is false of the model -/
theorem witness_depth_all (P : Prims) : deFromSlice P (serToString P false (nestArr 128 .null)) = none :=
  (serde_roundtrip_depth P false _ witness_depth_class.1 (allFloats_of_floatFree _ _ (by decide +kernel))).trans
    (if_neg (by decide +kernel))

theorem witness_depth_parseJson (P : Prims) (lossy : Bool) :
    parseJson P lossy (encodeJson P false (nestArr 128 .null)) = none := by
  rw [parseJson_encodeJson P false lossy _ witness_depth_class.1 (allFloats_of_floatFree _ _ (by decide +kernel))]
  exact witness_depth_all P

/-- with `serde_json`'s own number conversion: 128 nested arrays are printed but not read back, with
    either `lossy` setting and through serde -/
theorem witness_depth :
    parseJson serdePrims true (encodeJson serdePrims false (nestArr 128 .null)) = none ∧
    parseJson serdePrims false (encodeJson serdePrims false (nestArr 128 .null)) = none ∧
    deFromSlice serdePrims (serToString serdePrims false (nestArr 128 .null)) = none :=
  ⟨witness_depth_parseJson _ true, witness_depth_parseJson _ false, witness_depth_all _⟩

/-- 127 nested arrays are read back: the bound of the `_partial` theorems is sharp -/
theorem witness_depth_sharp :
    parseJson serdePrims true (encodeJson serdePrims false (nestArr 127 .null)) = some (nestArr 127 .null) :=
  roundtrip_floatfree_partial serdePrims false true (nestArr 127 .null)
    (by decide +kernel) (by decide +kernel) (by decide +kernel)

theorem not_serde_roundtrip (P : Prims) : ¬ SerdeRoundtrip P := by
  intro h
  obtain ⟨w, hw, _⟩ := h false (nestArr 128 .null) witness_depth_class.1
  rw [witness_depth_all] at hw
  cases hw

theorem not_roundtrip (P : Prims) : ¬ Roundtrip P := by
  intro h
  obtain ⟨w, hw, _⟩ := h false false (nestArr 128 .null) witness_depth_class.1
  rw [witness_depth_parseJson] at hw
  cases hw

/-- the text is a well-formed float token, `serde_json`'s default conversion accepts it, and the
    result is two units in the last place away from the double that was printed -/
theorem witness_float_2ulp :
    floatTextCheck text0 = true ∧ serdeParseF text0 = some 0xb3afb674d263f403 ∧
    ulpDist x0 0xb3afb674d263f403 = 2 ∧ D_json_float_2ulp x0 (readBack serdePrims x0) = true := by
  decide +kernel

/-- so the 1-ulp law fails for any primitives that print `x0` as `zmij` does and convert as
    `serde_json` does -/
theorem not_floatLaw_1ulp (P : Prims) (hs : P.showF x0 = text0) (hp : P.parseF = serdeParseF) :
    ¬ FloatLawUlp 1 P := by
  intro h
  have h2 := (h x0 (by decide) (by decide)).2
  have hrb : readBack P x0 = 0xb3afb674d263f403 := by
    simp [readBack, hs, hp, witness_float_2ulp.2.1]
  rw [hrb, witness_float_2ulp.2.2.1] at h2
  omega

/-- the oracle of the check classifies the two observations as the listed classes -/
theorem oracle_classes :
    roundTripClass (nestArr 128 .null) none = some "depth:D_json_recursion_limit" ∧
    roundTripClass (.float x0) (some (.float 0xb3afb674d263f403)) = some "float:D_json_float_2ulp" ∧
    roundTripClass (.float x0) (some (.float 0xb3afb674d263f402)) = none := by
  decide +kernel

/-! ### non-vacuity: the hypotheses of the `_partial` theorems are satisfiable -/

/-- toy primitives satisfying the exact law: a double is printed as its bit pattern followed by
    `.0`, and read back from the integer digits -/
def toyPrims : Prims where
  showF := fun b => ({ neg := false, int := showNat b, frac := some [48], exp := none } : NumTok).render
  parseF := fun text =>
    match lexNum text with
    | some (t, []) => some (digitsVal t.int)
    | _ => none
  showTs := fun _ => []

theorem toy_exact : FloatLawExact toyPrims := by
  intro x _ _
  let t : NumTok := { neg := false, int := showNat x, frac := some [48], exp := none }
  have hw : t.wf = true := by simp [t, NumTok.wf, wfInt_showNat, wfFrac, wfExp, allDigits, isDigit]
  have hl : lexNum t.render = some (t, []) := by
    have := lexNum_render t [] hw rfl
    rwa [List.append_nil] at this
  have hp : toyPrims.parseF t.render = some x := by
    simp only [toyPrims, hl]
    simp [t, digitsVal_showNat]
  exact ⟨⟨t, hw, by simp [t, NumTok.isFloat], rfl, by rw [hp]; rfl⟩, hp⟩

theorem toy_ulp : FloatLawUlp 1 toyPrims := toy_exact.ulp 1

/-- a nested value with floats, escapes, non-ASCII keys that meets every hypothesis -/
def sample : Value :=
  .obj (.cons [34, 97] (.arr (.cons (.float 0x3ff8000000000000) (.cons (.int (-9223372036854775808))
      (.cons (.bytes [10, 195, 169, 240, 159, 152, 128]) .nil))))
    (.cons [195, 169] (.obj (.cons [] (.float x0) .nil)) .nil))

example : jsonRepr sample = true ∧ depth sample ≤ 127 ∧ floatFree sample = false := by decide +kernel

example : ∀ pretty lossy, parseJson toyPrims lossy (encodeJson toyPrims pretty sample) = some sample :=
  fun pretty lossy => roundtrip_precise_partial toyPrims toy_exact pretty lossy sample (by decide +kernel) (by decide +kernel)

/-! ### a quirk outside the property: `max_depth` turns large integers into strings -/

/-- `parse_json("18446744073709551615")` is the float 1.8446744073709552e19, but with `max_depth`
    (path through `serde_json::Value`) it is the *string* "18446744073709551615". -/
theorem quirk_max_depth_u64 :
    parseJson serdePrims true (showNat 18446744073709551615) = some (.float 0x43f0000000000000) ∧
    parseJsonDepth serdePrims true 1 (showNat 18446744073709551615) = some (.bytes (showNat 18446744073709551615)) := by
  decide +kernel

end C21
