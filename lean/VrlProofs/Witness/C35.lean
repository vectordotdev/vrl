/-
  C35 — witnesses of the finding classes and non-vacuity examples.

  * `fixed_leap_offset…` (FIXED finding `nopanic:D_leap_offset`, /repo 83f4a4b): the instant chrono
    really returns for "1900-01-01 23:59:60" in America/St_Johns (UTC offset −3:30:52: second field :51
    after the shift, nanosecond field 10⁹) is one `Utc.timestamp_opt` refuses; `datetime_to_utc`
    returns the pair, observed as `ts:-2208889748000000000`. Replayed on the implementation by
    corpus/C35/fixed.case.
  * `witness_literal_percent` (class `rt:D_literal_percent`): `timestamp|%F %T %%z` is classified
    zone-explicit — the configured zone is dropped — although `%%z` is a literal `%z`, not a specifier.
  * `witness_zone_abbrev` (class `rt:D_zone_abbrev`): `timestamp|%F %T %Z` likewise, although chrono
    cannot read an offset from `%Z`; `DateTime::parse_from_str` then fails on every text (observed by
    `o.c35`; that part is chrono's behaviour, outside the model).
-/
import VrlProofs.Props.C35

namespace C35
open Cnv

/-- chrono as observed on the implementation for the text "1900-01-01 23:59:60" / format "%F %T":
    parsing succeeds; resolving in America/St_Johns gives (−2208889749 s, 10⁹ ns). -/
def chronoLeap : Chrono Unit where
  parse := fun _ _ => some ()
  resolveLocal := fun _ => some (-2208902401, 1000000000)
  resolveNamed := fun _ _ => some (-2208889749, 1000000000)
  parseFromStr := fun _ _ => none
  parseRfc3339 := fun _ => none
  parseRfc2822 := fun _ => none

def ftNone : FloatText where
  parseF := fun _ => none
  showF := fun _ => []

theorem leap_instant_in_class : D_leap_offset (-2208889749, 1000000000) = true := by decide +kernel

/-- `Utc.timestamp_opt(-2208889749, 10⁹)` is not `Single`: second :51 with a leap-second nanosecond field -/
theorem leap_instant_refused : timestampOptOk (-2208889749) 1000000000 = false := by decide +kernel

/-- the input of the fixed finding converts: the reply of the implementation on the replay is
    `ok ts:-2208889748000000000` -/
theorem fixed_leap_offset :
    convert ftNone chronoLeap (.timestampFmt ['%', 'F', ' ', '%', 'T'] (.named "America/St_Johns")) [] =
      .ok (.ts (-2208889748000000000)) := by decide +kernel

/-- and so does the automatic conversion on the same instant (first zone-less format) -/
theorem fixed_leap_offset_auto :
    convert ftNone chronoLeap (.timestamp (.named "America/St_Johns")) [] =
      .ok (.ts (-2208889748000000000)) := by decide +kernel

/-- the whole class: every instant in `D_leap_offset` is refused by `Utc.timestamp_opt`, and
    `datetime_to_utc` returns it unchanged -/
theorem fixed_leap_offset_class (i : Inst) (h : D_leap_offset i = true) :
    timestampOptOk i.1 i.2 = false ∧ datetimeToUtc i = .ok i := by
  refine ⟨?_, rfl⟩
  simp only [D_leap_offset, Bool.and_eq_true, decide_eq_true_eq, Bool.not_eq_true'] at h
  have h1 : ¬ (i.2 < 1000000000) := by omega
  simp [timestampOptOk, h1, h.2]

/-- a chrono that reads the RFC 3339 text of the following second ("1900-01-02T03:30:52Z" on the
    implementation) as (−2208889748, 0) -/
def chronoRfcNext : Chrono Unit where
  parse := fun _ _ => none
  resolveLocal := fun _ => none
  resolveNamed := fun _ _ => none
  parseFromStr := fun _ _ => none
  parseRfc3339 := fun _ => some (-2208889749 + 1, 0)
  parseRfc2822 := fun _ => none

/-- the value returned for the leap second is the nanosecond count of the following second, and its
    RFC 3339 text read back by chrono converts to the same value: non-vacuity of
    `convert_auto_rfc3339_leap` -/
theorem fixed_leap_offset_roundtrip :
    convert ftNone chronoRfcNext (.timestamp .local) [51, 58, 51] = .ok (.ts (-2208889748000000000)) ∧
    convert ftNone chronoLeap (.timestampFmt ['%', 'F', ' ', '%', 'T'] (.named "America/St_Johns")) [] =
      convert ftNone chronoRfcNext (.timestamp .local) [51, 58, 51] := by
  have h := convert_auto_rfc3339_leap ftNone chronoRfcNext .local [51, 58, 51] (-2208889749) 0
    (by intro f _; rfl) (by decide) rfl
  have e : instNs (-2208889749, 1000000000 + 0) = -2208889748000000000 := by decide +kernel
  rw [e] at h
  exact ⟨h, by rw [h]; exact fixed_leap_offset⟩

/-- an ordinary chrono, for comparison: an instant outside the class -/
def chronoPlain : Chrono Unit where
  parse := fun _ _ => some ()
  resolveLocal := fun _ => some (981173106, 0)
  resolveNamed := fun _ _ => some (981169506, 500000000)
  parseFromStr := fun _ _ => some (981173106, 0)
  parseRfc3339 := fun _ => some (981173106, 0)
  parseRfc2822 := fun _ => none

example : convert ftNone chronoPlain (.timestampFmt ['%', 'F'] (.named "Europe/Paris")) [] =
    .ok (.ts 981169506500000000) := by decide +kernel
example : noPanic (convert ftNone chronoLeap (.timestamp .local) []) = true := by decide +kernel

def fmtLiteral : List Char := ['%', 'F', ' ', '%', 'T', ' ', '%', '%', 'z']
def fmtAbbrev : List Char := ['%', 'F', ' ', '%', 'T', ' ', '%', 'Z']

theorem witness_literal_percent (tz : Tz) :
    Conversion.parse (nTimestamp ++ '|' :: fmtLiteral) tz = some (.timestampTzFmt fmtLiteral) ∧
    hasOffsetSpec fmtLiteral = false ∧ hasZoneNameSpec fmtLiteral = false ∧
    rtClass (.timestampTzFmt fmtLiteral) = .literalPercent := by
  refine ⟨?_, by decide, by decide, by decide⟩
  rw [parse_timestamp_format]
  have h1 : trim fmtLiteral = fmtLiteral := by decide +kernel
  have h2 : formatHasZone fmtLiteral = true := by decide +kernel
  simp [Conversion.ofTimestampFmt, h1, h2]

theorem witness_zone_abbrev (tz : Tz) :
    Conversion.parse (nTimestamp ++ '|' :: fmtAbbrev) tz = some (.timestampTzFmt fmtAbbrev) ∧
    hasOffsetSpec fmtAbbrev = false ∧ rtClass (.timestampTzFmt fmtAbbrev) = .zoneAbbrev := by
  refine ⟨?_, by decide, by decide⟩
  rw [parse_timestamp_format]
  have h1 : trim fmtAbbrev = fmtAbbrev := by decide +kernel
  have h2 : formatHasZone fmtAbbrev = true := by decide +kernel
  simp [Conversion.ofTimestampFmt, h1, h2]

/-- the converse of `hasOffsetSpec_imp_formatHasZone` is false: `%%z` is a literal `%` and a `z`, no
    offset item, yet it contains the substring `%z` that `format_has_zone` looks for -/
theorem formatHasZone_not_imp_hasOffsetSpec :
    ∃ f, formatHasZone f = true ∧ hasOffsetSpec f = false := ⟨fmtLiteral, by decide, by decide⟩

/-- outside the classes the two scans agree on the real specifiers: examples of class `none` -/
example : rtClass (.timestampTzFmt ['%', 'F', ' ', '%', 'T', ' ', '%', 'z']) = .none := by decide +kernel
example : rtClass (.timestampTzFmt ['%', '+']) = .none := by decide +kernel
example : rtClass (.timestampTzFmt ['%', 'T', '%', ':', 'z']) = .none := by decide +kernel
example : rtClass (.timestampTzFmt ['%', 'T', '%', '#', 'z']) = .none := by decide +kernel

/-- a `FloatText` satisfying `FloatLaw` (unary notation) -/
def ftUnary : FloatText where
  parseF := fun s => some s.length
  showF := fun x => List.replicate x 0

example : FloatLaw ftUnary := by
  intro x _ _
  simp [ftUnary]

/-- the hypotheses of `convert_auto_rfc3339` are satisfiable -/
def chronoRfc : Chrono Unit where
  parse := fun _ _ => none
  resolveLocal := fun _ => none
  resolveNamed := fun _ _ => none
  parseFromStr := fun _ _ => none
  parseRfc3339 := fun _ => some (981173106, 0)
  parseRfc2822 := fun _ => none

example : convert ftNone chronoRfc (.timestamp .local) [50, 58, 51] = .ok (.ts 981173106000000000) :=
  convert_auto_rfc3339 ftNone chronoRfc .local [50, 58, 51] (981173106, 0) (by intro f _; rfl) (by decide) rfl

/-- integers: edge values and malformed texts -/
example : parseI64 (showI64 i64Min) = some i64Min := parseI64_showI64 _ (by decide) (by decide)
example : parseI64 (showI64 i64Max) = some i64Max := parseI64_showI64 _ (by decide) (by decide)
example : parseI64 [57, 50, 50, 51, 51, 55, 50, 48, 51, 54, 56, 53, 52, 55, 55, 53, 56, 48, 56] = none := by decide +kernel
example : parseI64 [] = none ∧ parseI64 [43] = none ∧ parseI64 [45] = none ∧ parseI64 [43, 45, 49] = none ∧
    parseI64 [32, 49] = none ∧ parseI64 [43, 48, 55] = some 7 ∧ parseI64 [45, 48] = some 0 := by decide +kernel

/-- booleans: samples of the general theorems -/
example : parseBool [84, 114, 85, 101] = some true := by decide          -- "TrUe"
example : parseBool [78, 79] = some false := by decide                    -- "NO"
example : parseBool [45, 55] = some true ∧ parseBool [43, 48] = some false := by decide +kernel
example : parseBool [111, 110] = none := by decide                        -- "on"

end C35
