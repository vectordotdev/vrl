/-
  C30 — witnesses: the unrestricted round-trip property is false of the code (and of its model).
  One query per finding class; every one is replayed on the real implementation by `o.c30`
  (corpus/C30/known.case).  `F` is the reference float library (`FloatLib.ref`).
  `fails q d` = the parser accepts `q`, the tree it builds has defect `d`, and printing that tree and
  parsing the text again does *not* give the tree back.
  All by evaluation in the kernel.  A short query is first turned from a string literal into the list of
  its characters (`String.toList_ofList`), which the kernel evaluates faster than the literal.
-/
import VrlProofs.Props.C30

namespace C30
open Search

def Fr : FloatLib := FloatLib.ref

def fails (q : Str) (d : Defect) : Bool :=
  match parse Fr q with
  | .ok t => decide (rootDefect Fr t = some d) && decide (parse Fr (t.toLucene Fr) ≠ .ok t)
  | _ => false

def failsTree (t : QNode) (d : Defect) : Bool :=
  decide (rootDefect Fr t = some d) && decide (parse Fr (t.toLucene Fr) ≠ .ok t)

/-- D_space_in_term: `f:a\ b` prints as `f:a b` (`lucene_escape` does not escape the space) -/
theorem witness_space_in_term : fails "f:a\\ b".toList .spaceInTerm = true := by
  rw [String.toList_ofList]; decide +kernel

/-- D_space_in_term, multi-term default: `a b c:d` prints as `a b AND c:d`, re-split into three clauses -/
theorem witness_multiterm_resplit : fails "a b c:d".toList .spaceInTerm = true := by
  rw [String.toList_ofList]; decide +kernel

/-- D_attr_unescaped: `_missing_:"a b"` prints as `_missing_:a b` -/
theorem witness_attr_unescaped : fails "_missing_:\"a b\"".toList .attrUnescaped = true := by
  rw [String.toList_ofList]; decide +kernel

/-- D_attr_reserved: `\_exists_:a` is a term on the attribute `_exists_`; printed `_exists_:a` it is an
    existence test -/
theorem witness_attr_reserved : fails "\\_exists_:a".toList .attrReserved = true := by
  rw [String.toList_ofList]; decide +kernel

/-- D_wildcard_raw: `f:a\:b*c` prints the wildcard raw as `f:a:b*c`, which is rejected -/
theorem witness_wildcard_raw : fails "f:a\\:b*c".toList .wildcardRaw = true := by
  rw [String.toList_ofList]; decide +kernel

/-- D_wildcard_reparsed: `_default_:a?b` prints as `a?b`, read as the term `a` and the wildcard `?b` -/
theorem witness_wildcard_reparsed : fails "_default_:a?b".toList .wildcardReparsed = true := by
  rw [String.toList_ofList]; decide +kernel

/-- D_keyword_prefix: `\ANDROID` prints as `ANDROID`, which is not a `TERM` (it starts with `AND`) -/
theorem witness_keyword_prefix : fails "\\ANDROID".toList .keywordPrefix = true := by
  rw [String.toList_ofList]; decide +kernel

/-- D_number_text: `f:>1.0` prints as `f:>1` (an integer) -/
theorem witness_number_text : fails "f:>1.0".toList .numberText = true := by
  rw [String.toList_ofList]; decide +kernel

/-- D_cmp_string_numeric: `f:>\5x` has the string operand `5x`; printed `f:>5x` it is `>5` and `x` -/
theorem witness_cmp_string_numeric : fails "f:>\\5x".toList .cmpStringNumeric = true := by
  rw [String.toList_ofList]; decide +kernel

/-- D_range_string: a range bound that keeps its quotes prints escaped and loses them on re-parse -/
theorem witness_range_string : fails "f:[\"\\\"a\\\"\" TO c]".toList .rangeString = true := by
  rw [String.toList_ofList]; decide +kernel

/-- D_empty_string: `_exists_:""` prints as `_exists_:` -/
theorem witness_empty_string : fails "_exists_:\"\"".toList .emptyString = true := by
  rw [String.toList_ofList]; decide +kernel

/-- D_none_nested: `a (-*:*)` prints as `a AND -*:*`, read as `a AND NOT *:*` -/
theorem witness_none_nested : fails "a (-*:*)".toList .noneNested = true := by
  rw [String.toList_ofList]; decide +kernel

/-- D_not_not_in_and: `-(-a) b` prints as `NOT NOT a AND b` -/
theorem witness_not_not_in_and : fails "-(-a) b".toList .notNotInAnd = true := by
  rw [String.toList_ofList]; decide +kernel

/-- D_blank_query: `(\u{a0})` is a term made of a no-break space (not WHITESPACE for the grammar, white
    space for `str::trim`); printed alone it is a blank query, i.e. `MatchAllDocs` -/
theorem witness_blank_query : fails ['(', '\u00a0', ')'] .blankQuery = true := by decide +kernel

/-- D_space_in_term, ideographic space: since /repo 083e896 U+3000 cannot appear unescaped in a term;
    `a\\u{3000}b` (escaped) is accepted, `lucene_escape` prints the U+3000 raw, and the text is rejected -/
theorem witness_ideographic_space : fails ['a', '\\', '\u3000', 'b'] .spaceInTerm = true := by decide +kernel

/-! shapes only a hand-built tree can have -/

theorem witness_cmp_unbounded :
    failsTree (.leaf (.comparison ['f'] .gt .unbounded)) .cmpUnbounded = true := by decide +kernel
theorem witness_not_all : failsTree (.neg (.leaf .matchAll)) .notAll = true := by decide +kernel
theorem witness_small_boolean :
    failsTree (.bool .and (.cons (.leaf (.term ['f'] ['a'])) .nil)) .smallBoolean = true := by decide +kernel

/-! ### repaired in /repo -/

def roundTripsTo (q : Str) (t : QNode) : Bool :=
  decide (parse Fr q = .ok t) && NFRoot Fr t && decide (parse Fr (t.toLucene Fr) = .ok t)

/-- fixed (21ebbb7): a range with brackets of two kinds, which panicked in `visit_clause` before the
    repair, parses to a range whose bounds are inclusive / exclusive independently, is in normal form
    and round-trips -/
theorem fixed_range_mixed :
    roundTripsTo "f:[1 TO 2}".toList (.leaf (.range ['f'] (.int 1) true (.int 2) false)) = true ∧
    roundTripsTo "f:{a TO *]".toList (.leaf (.range ['f'] (.str ['a']) false .unbounded true)) = true := by
  rw [String.toList_ofList, String.toList_ofList]; decide +kernel

/-- fixed (083e896): the text "UNICODE3000" is an ordinary part of a term -/
theorem fixed_unicode3000 :
    roundTripsTo "a\\UNICODE3000".toList (.leaf (.term defaultField "aUNICODE3000".toList)) = true ∧
    roundTripsTo "UNICODE3000x".toList (.leaf (.term defaultField "UNICODE3000x".toList)) = true := by
  rw [String.toList_ofList, String.toList_ofList, String.toList_ofList]; decide +kernel

/-- … and U+3000 cannot start a term (it is still not WHITESPACE: the query is rejected) -/
theorem fixed_ideographic_start : parse Fr ['\u3000', 'a'] = .err := by decide +kernel

/-- non-vacuity of `roundtrip_partial`: a query with a tag term, an escaped term, a phrase, a prefix,
    a wildcard, a float comparison, a range, negation, `AND`/`OR` nesting — accepted, in normal form,
    and round-tripping (by the theorem and by evaluation). -/
example :
    let q := "service:web AND (@a.b:x\\:y OR NOT \"foo bar\") AND k:p* AND w:a*b? AND @n:>=1.5 AND @m:[1 TO *]".toList
    (match parse Fr q with
     | .ok t => NFRoot Fr t && decide (parse Fr (t.toLucene Fr) = .ok t)
     | _ => false) = true := by decide +kernel

end C30
