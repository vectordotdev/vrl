/-
  C26 — witnesses: concrete values on which the round trip through the two case tables is *not*
  `dropDefaults` (so the hypothesis `Shaped` of the theorems cannot be dropped), for every finding
  class that a value over the closed `poolW` can show (`desc` needs a dangling reference; `kind` has
  three: `witness_enum_number`, `witness_kind`, `witness_bare_repeated`), and non-vacuity examples.
  The witnesses other than `witness_kind` are replayed on the real `encode_proto` / `parse_proto` by
  corpus/C26/known.case.
-/
import VrlProofs.Props.C26

namespace C26
open Proto

/-- no float parsing / printing needed by the witnesses -/
def noPrims : Prims := ⟨fun _ => none, fun _ => none, fun _ => [], fun _ => []⟩

/-- enum `E { A = 0; B = 1; }` -/
def enumE : EnumDesc := ⟨[([65], 0), ([66], 1)], 0⟩

/-- proto3 message `W { double d = 1; float f = 2; string s = 3; int32 i = 4; E e = 5;
    map<int32, string> m = 6; repeated int64 r = 7; uint64 u = 8; W n = 9; optional int32 o = 10; }` -/
def msgW : MsgDesc :=
  ⟨[⟨[100], 1, .scalar .double, .singular⟩, ⟨[102], 2, .scalar .float, .singular⟩,
    ⟨[115], 3, .scalar .string, .singular⟩, ⟨[105], 4, .scalar .int32, .singular⟩,
    ⟨[101], 5, .enum 0, .singular⟩, ⟨[109], 6, .scalar .string, .map .int32⟩,
    ⟨[114], 7, .scalar .int64, .repeated⟩, ⟨[117], 8, .scalar .uint64, .singular⟩,
    ⟨[110], 9, .message 0, .optional⟩, ⟨[111], 10, .scalar .int32, .optional⟩], false⟩

def poolW : Pool := ⟨[msgW], [enumE]⟩

/-- `proto_to_value(encode_message(v))` -/
def tablesRT (v : Value) : Option Value := (fromValue noPrims true poolW 0 v).bind (toValueMsg poolW 0)

/-- the same through the wire normalisation -/
def wireRT (v : Value) : Option Value :=
  (fromValue noPrims true poolW 0 v).bind fun fs => toValueMsg poolW 0 (normFields poolW true msgW.fields fs)

def obj1 (k : Nat) (x : Value) : Value := .obj (.cons [k] x .nil)

theorem poolW_ok : poolW.Ok = true := by decide +kernel

/-- 0.1 in a `float` field comes back as 0.100000001490116… -/
theorem witness_f32 :
    defectMsg poolW 0 (obj1 102 (.float 0x3fb999999999999a)) = some .f32 ∧
    tablesRT (obj1 102 (.float 0x3fb999999999999a)) = some (obj1 102 (.float 0x3fb99999a0000000)) := by
  decide +kernel

/-- `-0.0` in a double field without presence is taken for the default and not sent -/
theorem witness_negzero :
    defectMsg poolW 0 (obj1 100 (.float 0x8000000000000000)) = some .negZero ∧
    tablesRT (obj1 100 (.float 0x8000000000000000)) = some (.obj .nil) ∧
    dropDefaultsMsg poolW 0 (obj1 100 (.float 0x8000000000000000)) = obj1 100 (.float 0x8000000000000000) := by
  decide +kernel

/-- bytes that are not UTF-8 in a `string` field come back with U+FFFD -/
theorem witness_utf8 :
    defectMsg poolW 0 (obj1 115 (.bytes [255])) = some .utf8 ∧
    tablesRT (obj1 115 (.bytes [255])) = some (obj1 115 (.bytes [239, 191, 189])) := by
  decide +kernel

/-- no range check: 2^32+1 in an `int32` field is accepted and comes back as 1 -/
theorem witness_range :
    defectMsg poolW 0 (obj1 105 (.int 4294967297)) = some .range ∧
    tablesRT (obj1 105 (.int 4294967297)) = some (obj1 105 (.int 1)) := by
  decide +kernel

/-- enum names are matched ignoring ASCII case and come back canonical -/
theorem witness_enum_name :
    defectMsg poolW 0 (obj1 101 (.bytes [98])) = some .enumName ∧
    tablesRT (obj1 101 (.bytes [98])) = some (obj1 101 (.bytes [66])) := by
  decide +kernel

/-- an integer is accepted for an enum field whatever its value; an unknown number makes
    `parse_proto` fail on the payload `encode_proto` produced -/
theorem witness_enum_number :
    defectMsg poolW 0 (obj1 101 (.int 7)) = some .kind ∧
    (fromValue noPrims true poolW 0 (obj1 101 (.int 7))).isSome = true ∧
    tablesRT (obj1 101 (.int 7)) = none := by
  decide +kernel

/-- map keys are parsed as numbers: `"01"` comes back as `"1"` -/
theorem witness_map_key :
    defectMsg poolW 0 (obj1 109 (.obj (.cons [48, 49] (.bytes [120]) .nil))) = some .mapKey ∧
    tablesRT (obj1 109 (.obj (.cons [48, 49] (.bytes [120]) .nil))) =
      some (obj1 109 (.obj (.cons [49] (.bytes [120]) .nil))) := by
  decide +kernel

/-- lossy string coercion (by design, `allow_lossy_string_coercion`): the integer 5 in a `string`
    field comes back as the text "5" -/
theorem witness_kind :
    defectMsg poolW 0 (obj1 115 (.int 5)) = some .kind ∧
    tablesRT (obj1 115 (.int 5)) = some (obj1 115 (.bytes [53])) := by
  decide +kernel

/-- a single value is accepted for a repeated field; on the wire it is one element -/
theorem witness_bare_repeated :
    defectMsg poolW 0 (obj1 114 (.int 5)) = some .kind ∧
    wireRT (obj1 114 (.int 5)) = some (obj1 114 (.arr (.cons (.int 5) .nil))) := by
  decide +kernel

/-- `null` is treated as absent -/
theorem witness_null :
    defectMsg poolW 0 (obj1 105 .null) = some .nullField ∧ tablesRT (obj1 105 .null) = some (.obj .nil) := by
  decide +kernel

/-- keys that are not fields of the message are ignored silently -/
theorem witness_unknown_field :
    defectMsg poolW 0 (obj1 122 (.int 1)) = some .unknownField ∧
    tablesRT (obj1 122 (.int 1)) = some (.obj .nil) := by
  decide +kernel

/-- parse direction: a `uint64` above `i64::MAX` is read as a negative integer -/
theorem witness_u64_parse :
    toValue poolW none (.u64 18446744073709551615) = some (.int (-1)) := by
  decide +kernel

/-- every field at its default, plus an explicit-presence field at zero and an empty nested message -/
def allDefaults : Value :=
  .obj (.cons [101] (.bytes [65]) (.cons [105] (.int 0) (.cons [109] (.obj .nil) (.cons [110] (.obj .nil)
    (.cons [111] (.int 0) (.cons [114] (.arr .nil) (.cons [115] (.bytes []) .nil)))))))

/-- exactly the defaults are dropped: the optional field and the empty nested message stay -/
example : Shaped poolW 0 allDefaults = true ∧ allDefaults.Sorted = true ∧
    dropDefaultsMsg poolW 0 allDefaults = .obj (.cons [110] (.obj .nil) (.cons [111] (.int 0) .nil)) ∧
    tablesRT allDefaults = some (dropDefaultsMsg poolW 0 allDefaults) := by
  decide +kernel

/-- a shaped value with a nested message, a map, a repeated field, an enum, floats and a string -/
def sample : Value :=
  .obj (.cons [100] (.float 0x3ff8000000000000) (.cons [101] (.bytes [66]) (.cons [102] (.float 0x3fb99999a0000000)
    (.cons [109] (.obj (.cons [45, 55] (.bytes [120]) (.cons [49] (.bytes []) .nil)))
    (.cons [110] (obj1 117 (.int 9223372036854775807)) (.cons [114] (.arr (.cons (.int 0) (.cons (.int (-1)) .nil)))
    (.cons [115] (.bytes [195, 169]) .nil)))))))

example : Shaped poolW 0 sample = true ∧ sample.Sorted = true ∧ tablesRT sample = some sample ∧
    wireRT sample = some sample := by
  decide +kernel

/-- a codec satisfying the law exists (the payload is the normalised message itself) -/
def trivialCodec (pool : Pool) : WireCodec pool where
  Wire := PFields
  encode r fs :=
    match pool.msg r with
    | some md => normFields pool true md.fields fs
    | none => fs
  decode _ w := some w
  law r fs md h := by simp [h]

example : (encodeProto noPrims poolW (trivialCodec poolW) 0 sample).bind (parseProto poolW (trivialCodec poolW) 0) =
    some sample := by
  decide +kernel

end C26
