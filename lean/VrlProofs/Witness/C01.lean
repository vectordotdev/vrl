/-
  Witnesses for C01 / C02 / C12: concrete compiled programs (the trees the real compiler dumps for the
  sources quoted in the doc comments; each is also a replay case in corpus/C01|C02|C12/known.case,
  where the check re-observes the failure on the real implementation) on which the full-strength
  statements fail in the model, one per finding class of the type inference; `fixed_…` theorems for
  the classes repaired in the implementation (the old counterexample, now inside the reported types
  or typed fallible; replays in corpus/…/fixed.case); and non-vacuity examples for the hypotheses of
  the `_partial` theorems. The witnesses are by kernel `decide`.
-/
import VrlProofs.Props.C01
import VrlProofs.Props.C02
import VrlProofs.Props.C12

namespace C01.W
open Lang Spec

/-- `Kind::object(Collection::any())`: the default external environment -/
def anyObj : Kind := Kind.ofObject Col.any
def T0 : TState := { target := anyObj, metadata := anyObj }

/-- a fresh run-time state on event `ev` (one error text available for `ok, err =`) -/
def st (ev : Value) : St :=
  { vars := [], event := ev, metadata := .obj .nil, faults := [], ops := 0, log := [], errs := [[101]] }

theorem conforms_st (ev : Value) (h1 : mem ev anyObj = true) (h2 : ev.Sorted = true) : Conforms (st ev) T0 where
  faults := rfl
  vars _ _ h := nomatch h
  event := h1
  eventSorted := h2
  metadata := (by decide : mem (.obj .nil) anyObj = true)
  metadataSorted := (by decide : (Value.obj .nil).Sorted = true)
  closed _ _ h := nomatch h

/-- D_del_typing on a variable (fixed, 6af54e3): `del(x.a)` left type and constant of `x`
```
x = {"a": 5}
del(x.a)
10 / x.a
``` -/
def delVar : Exprs :=
  (.cons (.asg (.internal "x" []) (.obj (.cons [97] (.lit (.int 5)) .nil))) (.cons (.delVar "x" [.field [97]] false .noop) (.cons (.op .div (.lit (.int 10)) (.qvar "x" [.field [97]])) .nil)))

def delVarEv : Value := (.obj .nil)

/-- D_del_typing on a variable (fixed, 6af54e3): the value of `x` after `del(x.a)`
```
x = {"a": 5}
del(x.a)
x
``` -/
def delVarValue : Exprs :=
  (.cons (.asg (.internal "x" []) (.obj (.cons [97] (.lit (.int 5)) .nil))) (.cons (.delVar "x" [.field [97]] false .noop) (.cons (.var "x") .nil)))

def delVarValueEv : Value := (.obj .nil)

/-- D_del_typing through C19 `D_remove_shift` (fixed, ff94317)
```
x = [1, "s", true]
del(x[0])
x
``` -/
def delShift : Exprs :=
  (.cons (.asg (.internal "x" []) (.arr (.cons (.lit (.int 1)) (.cons (.lit (.bytes [115])) (.cons (.lit (.bool true)) .nil))))) (.cons (.delVar "x" [.index 0] false .noop) (.cons (.var "x") .nil)))

def delShiftEv : Value := (.obj .nil)

/-- D_del_typing through C19 `D_remove_shift` (fixed, ff94317): an element the shifted kind misplaced
```
x = [1, "s", 2]
del(x[0])
x[2] + 1
``` -/
def delShiftAdd : Exprs :=
  (.cons (.asg (.internal "x" []) (.arr (.cons (.lit (.int 1)) (.cons (.lit (.bytes [115])) (.cons (.lit (.int 2)) .nil))))) (.cons (.delVar "x" [.index 0] false .noop) (.cons (.op .add (.qvar "x" [.index 2]) (.lit (.int 1))) .nil)))

def delShiftAddEv : Value := (.obj .nil)

/-- D_del_typing (what is left of it: `Kind::remove` outside the proved paths, here C19
    `D_minlen_counts_optional`: a negative index resolved against a length that counts an optional element)
```
x = [1]
if .a == 1 { x[1] = 2 }
del(x[-1])
x
``` -/
def delNeg : Exprs :=
  (.cons (.asg (.internal "x" []) (.arr (.cons (.lit (.int 1)) .nil))) (.cons (.ifte (.cons (.op .eq (.qext false [.field [97]]) (.lit (.int 1))) .nil) (.cons (.asg (.internal "x" [.index 1]) (.lit (.int 2))) .nil) false .nil) (.cons (.delVar "x" [.index (-1)] false .noop) (.cons (.var "x") .nil))))

def delNegEv : Value := (.obj .nil)

/-- D_del_typing: the element the kind still requires
```
x = [1]
if .a == 1 { x[1] = 2 }
del(x[-1])
x[0] + 1
``` -/
def delNegAdd : Exprs :=
  (.cons (.asg (.internal "x" []) (.arr (.cons (.lit (.int 1)) .nil))) (.cons (.ifte (.cons (.op .eq (.qext false [.field [97]]) (.lit (.int 1))) .nil) (.cons (.asg (.internal "x" [.index 1]) (.lit (.int 2))) .nil) false .nil) (.cons (.delVar "x" [.index (-1)] false .noop) (.cons (.op .add (.qvar "x" [.index 0]) (.lit (.int 1))) .nil))))

def delNegAddEv : Value := (.obj .nil)

/-- D_ctor_poststate (what is left of it: `Abort::new` / `Return::new` / function arguments still check
    in the state after the operand was compiled)
```
x = 1
abort { y = x; x = "s"; y }
``` -/
def ctorAbort : Exprs :=
  (.cons (.asg (.internal "x" []) (.lit (.int 1))) (.cons (.abort true (.blk (.cons (.asg (.internal "y" []) (.var "x")) (.cons (.asg (.internal "x" []) (.lit (.bytes [115]))) (.cons (.var "y") .nil))))) .nil))

def ctorAbortEv : Value := (.obj .nil)

/-- D_short_circuit_defines_var
```
(.a || (x = 1))
x + 1
``` -/
def shortVar : Exprs :=
  (.cons (.grp (.op .or (.qext false [.field [97]]) (.grp (.asg (.internal "x" []) (.lit (.int 1)))))) (.cons (.op .add (.var "x") (.lit (.int 1))) .nil))

def shortVarEv : Value := (.obj (.cons [97] (.bool true) .nil))

/-- D_err_partial_effects (`??`)
```
x = 1
({ 1 / .n; x = "s"; 2 } ?? 0)
x + "t"
``` -/
def errPartial : Exprs :=
  (.cons (.asg (.internal "x" []) (.lit (.int 1))) (.cons (.grp (.op .err (.blk (.cons (.op .div (.lit (.int 1)) (.qext false [.field [110]])) (.cons (.asg (.internal "x" []) (.lit (.bytes [115]))) (.cons (.lit (.int 2)) .nil)))) (.lit (.int 0)))) (.cons (.op .add (.var "x") (.lit (.bytes [116]))) .nil)))

def errPartialEv : Value := (.obj (.cons [110] (.int 0) .nil))

/-- D_err_partial_effects (`ok, err =`)
```
x = 1
ok, err = { 1 / .n; x = "s"; 2 }
x + "t"
``` -/
def errPartialIasg : Exprs :=
  (.cons (.asg (.internal "x" []) (.lit (.int 1))) (.cons (.iasg (.internal "ok" []) (.internal "err" []) (.blk (.cons (.op .div (.lit (.int 1)) (.qext false [.field [110]])) (.cons (.asg (.internal "x" []) (.lit (.bytes [115]))) (.cons (.lit (.int 2)) .nil)))) (.int 0)) (.cons (.op .add (.var "x") (.lit (.bytes [116]))) .nil)))

def errPartialIasgEv : Value := (.obj (.cons [110] (.int 0) .nil))

/-- D_div_typing (fixed, a408080): the state changes of the divisor are not applied
```
x = "s"
(5 / (x = 2) ?? 0)
x + "t"
``` -/
def divRhs : Exprs :=
  (.cons (.asg (.internal "x" []) (.lit (.bytes [115]))) (.cons (.grp (.op .err (.op .div (.lit (.int 5)) (.grp (.asg (.internal "x" []) (.lit (.int 2))))) (.lit (.int 0)))) (.cons (.op .add (.var "x") (.lit (.bytes [116]))) .nil)))

def divRhsEv : Value := (.obj .nil)

/-- D_div_typing (fixed, a408080): the fallibility of the dividend is dropped
```
((1 / .n) / 2)
``` -/
def divLhs : Exprs :=
  (.cons (.grp (.op .div (.grp (.op .div (.lit (.int 1)) (.qext false [.field [110]]))) (.lit (.int 2)))) .nil)

def divLhsEv : Value := (.obj (.cons [110] (.int 0) .nil))

/-- D_div_typing (fixed, a408080): the `returns` of the dividend are dropped
```
({ if .a == 1 { return "x" }; 2 } / 2)
``` -/
def divReturns : Exprs :=
  (.cons (.grp (.op .div (.blk (.cons (.ifte (.cons (.op .eq (.qext false [.field [97]]) (.lit (.int 1))) .nil) (.cons (.ret (.lit (.bytes [120]))) .nil) false .nil) (.cons (.lit (.int 2)) .nil))) (.lit (.int 2)))) .nil)

def divReturnsEv : Value := (.obj (.cons [97] (.int 1) .nil))

/-- D_short_circuit_const_lhs (fixed, fcfb238): `true && e` was not `fallible_unless(null|boolean)`
```
true && .a
``` -/
def andTrue : Exprs :=
  (.cons (.op .and (.lit (.bool true)) (.qext false [.field [97]])) .nil)

def andTrueEv : Value := (.obj (.cons [97] (.int 5) .nil))

/-- D_short_circuit_const_lhs (fixed, fcfb238): an always-false lhs dropped its fallibility
```
({ 1 / .n; null } && true)
``` -/
def andNull : Exprs :=
  (.cons (.grp (.op .and (.blk (.cons (.op .div (.lit (.int 1)) (.qext false [.field [110]])) (.cons (.lit .null) .nil))) (.lit (.bool true)))) .nil)

def andNullEv : Value := (.obj (.cons [110] (.int 0) .nil))

/-- D_scope_leak
```
{ x = {"b": 1} }
x.a = 2
x
``` -/
def scopeLeak : Exprs :=
  (.cons (.blk (.cons (.asg (.internal "x" []) (.obj (.cons [98] (.lit (.int 1)) .nil))) .nil)) (.cons (.asg (.internal "x" [.field [97]]) (.lit (.int 2))) (.cons (.var "x") .nil)))

def scopeLeakEv : Value := (.obj .nil)

/-- D_return_drops_returns (fixed, 7b68306)
```
return { if .a == 1 { return 1 }; "s" }
``` -/
def retDrops : Exprs :=
  (.cons (.ret (.blk (.cons (.ifte (.cons (.op .eq (.qext false [.field [97]]) (.lit (.int 1))) .nil) (.cons (.ret (.lit (.int 1))) .nil) false .nil) (.cons (.lit (.bytes [115])) .nil)))) .nil)

def retDropsEv : Value := (.obj (.cons [97] (.int 1) .nil))

/-- D_const_signed_zero
```
x = 0.0
if .a == 1 { x = -0.0 }
x
``` -/
def signedZero : Exprs :=
  (.cons (.asg (.internal "x" []) (.lit (.float 0))) (.cons (.ifte (.cons (.op .eq (.qext false [.field [97]]) (.lit (.int 1))) .nil) (.cons (.asg (.internal "x" []) (.lit (.float 9223372036854775808))) .nil) false .nil) (.cons (.var "x") .nil)))

def signedZeroEv : Value := (.obj (.cons [97] (.int 2) .nil))

/-- D_return_skips_effects
```
if .a == 1 { return 1 }
.b = 2
.b
``` -/
def retSkips : Exprs :=
  (.cons (.ifte (.cons (.op .eq (.qext false [.field [97]]) (.lit (.int 1))) .nil) (.cons (.ret (.lit (.int 1))) .nil) false .nil) (.cons (.asg (.external false [.field [98]]) (.lit (.int 2))) (.cons (.qext false [.field [98]]) .nil)))

def retSkipsEv : Value := (.obj (.cons [97] (.int 1) .nil))

/-- D_negative_index_kind
```
x = [1, 2]
x[-3] = "s"
x
``` -/
def negIndex : Exprs :=
  (.cons (.asg (.internal "x" []) (.arr (.cons (.lit (.int 1)) (.cons (.lit (.int 2)) .nil)))) (.cons (.asg (.internal "x" [.index (-3)]) (.lit (.bytes [115]))) (.cons (.var "x") .nil)))

def negIndexEv : Value := (.obj .nil)

/-- a program inside the theorem (non-vacuity)
```
x = 5
.r = 10 / x
.r
``` -/
def okDiv : Exprs :=
  (.cons (.asg (.internal "x" []) (.lit (.int 5))) (.cons (.asg (.external false [.field [114]]) (.op .div (.lit (.int 10)) (.var "x"))) (.cons (.qext false [.field [114]]) .nil)))

def okDivEv : Value := (.obj .nil)

/-- a program inside the theorem (non-vacuity)
```
x = 1
if .a == 1 { x = "s" } else { .b = [x, .c] }
[x, .b]
``` -/
def okIf : Exprs :=
  (.cons (.asg (.internal "x" []) (.lit (.int 1))) (.cons (.ifte (.cons (.op .eq (.qext false [.field [97]]) (.lit (.int 1))) .nil) (.cons (.asg (.internal "x" []) (.lit (.bytes [115]))) .nil) true (.cons (.asg (.external false [.field [98]]) (.arr (.cons (.var "x") (.cons (.qext false [.field [99]]) .nil)))) .nil)) (.cons (.arr (.cons (.var "x") (.cons (.qext false [.field [98]]) .nil))) .nil)))

def okIfEv : Value := (.obj (.cons [97] (.int 1) .nil))

/-- ```
x = {"a": 5}
del(x.a)
``` -/
def delVarPrefix : Exprs :=
  (.cons (.asg (.internal "x" []) (.obj (.cons [97] (.lit (.int 5)) .nil))) (.cons (.delVar "x" [.field [97]] false .noop) .nil))

/-- ```
x = 0.0
if .a == 1 { x = -0.0 }
``` -/
def signedZeroPrefix : Exprs :=
  (.cons (.asg (.internal "x" []) (.lit (.float 0))) (.cons (.ifte (.cons (.op .eq (.qext false [.field [97]]) (.lit (.int 1))) .nil) (.cons (.asg (.internal "x" []) (.lit (.float 9223372036854775808))) .nil) false .nil) .nil))

/-- D_ctor_poststate (fixed, d43fc03): the predicate was checked in the state after it was compiled
```
x = "s"
if { y = x; x = true; y } { 1 } else { 2 }
``` -/
def ctorPost : Exprs :=
  (.cons (.asg (.internal "x" []) (.lit (.bytes [115]))) (.cons (.ifte (.cons (.blk (.cons (.asg (.internal "y" []) (.var "x")) (.cons (.asg (.internal "x" []) (.lit (.bool true))) (.cons (.var "y") .nil)))) .nil) (.cons (.lit (.int 1)) .nil) true (.cons (.lit (.int 2)) .nil)) .nil))

def ctorPostEv : Value := (.obj .nil)

def outcome (prog : Exprs) (ev : Value) : Res := (evalSeq prog (st ev)).1
def resultKind (prog : Exprs) : Kind := (typeSeq prog T0 {}).1.finish.kind
def returnsKind (prog : Exprs) : Kind := (typeSeq prog T0 {}).1.finish.returns

/-- fixed (`D_del_typing`, variables; 6af54e3): after `del(x.a)` the variable holds `{}`; it was typed
    `{a: integer}`, `DelFn::type_info` now removes the path from the variable's type -/
theorem fixed_del_value :
    outcome delVarValue delVarValueEv = .ok (.obj .nil) ∧ memR (.obj .nil) (resultKind delVarValue) = true ∧
    safeSeq delVarValue T0 = true := by
  decide +kernel

/-- `D_del_typing` (remaining): with `.a ≠ 1`, `del(x[-1])` on `[1]` leaves `[]`; the type of `x` is
    `{0: integer, 1: integer or undefined}`, `Kind::remove` resolves `-1` against a length that counts the
    optional element (C19 `D_minlen_counts_optional`) and keeps requiring index 0. The side condition
    `delPathOk` excludes it. -/
theorem witness_del_value :
    outcome delNeg delNegEv = .ok (.arr .nil) ∧ memR (.arr .nil) (resultKind delNeg) = false ∧
    safeSeq delNeg T0 = false := by
  decide +kernel

/-- fixed (`D_del_typing` through C19 `D_remove_shift`; ff94317): `del(x[0])` on `[1, "s", true]` leaves
    `["s", true]`; `remove_shift` moved only one element (`{0: bytes, 2: boolean}`), now every later one -/
theorem fixed_del_shift :
    outcome delShift delShiftEv = .ok (.arr (.cons (.bytes [115]) (.cons (.bool true) .nil))) ∧
    memR (.arr (.cons (.bytes [115]) (.cons (.bool true) .nil))) (resultKind delShift) = true := by
  decide +kernel

/-- `D_scope_leak`: a block-scoped variable stays alive at run time; a later path assignment types
    the variable as new -/
theorem witness_scope_leak :
    outcome scopeLeak scopeLeakEv = .ok (.obj (.cons [97] (.int 2) (.cons [98] (.int 1) .nil))) ∧
    memR (.obj (.cons [97] (.int 2) (.cons [98] (.int 1) .nil))) (resultKind scopeLeak) = false := by
  decide +kernel

/-- `D_negative_index_kind`: `x[-3] = "s"` on a two-element array (C19 `D_neg_insert_exact_noshift`) -/
theorem witness_neg_index :
    outcome negIndex negIndexEv = .ok (.arr (.cons (.bytes [115]) (.cons (.int 1) (.cons (.int 2) .nil)))) ∧
    memR (.arr (.cons (.bytes [115]) (.cons (.int 1) (.cons (.int 2) .nil)))) (resultKind negIndex) = false := by
  decide +kernel

/-- fixed (`D_div_typing`; a408080): `/` dropped what its dividend may `return`; it now unions the
    type definitions of both operands -/
theorem fixed_div_returns :
    outcome divReturns divReturnsEv = .ret (.bytes [120]) ∧ memR (.bytes [120]) (returnsKind divReturns) = true ∧
    safeSeq divReturns T0 = true := by
  decide +kernel

/-- fixed (`D_return_drops_returns`; 7b68306): `return e` reported the kind of `e` only; it now also
    reports what `e` itself may `return` -/
theorem fixed_return_drops :
    outcome retDrops retDropsEv = .ret (.int 1) ∧ memR (.int 1) (returnsKind retDrops) = true ∧
    safeSeq retDrops T0 = true := by
  decide +kernel

/-- `D_return_skips_effects`: the final type state assumes the whole program ran; after an early
    `return` the event is not in the reported final target kind -/
theorem witness_return_skips :
    outcome retSkips retSkipsEv = .ret (.int 1) ∧
    mem (evalSeq retSkips (st retSkipsEv)).2.event (typeSeq retSkips T0 {}).2.target = false := by
  decide +kernel

/-- `T0` has no variables, so the block adds no scope check -/
theorem checks_blk (prog : Exprs) : checks (.blk prog) T0 = checksSeq prog T0 {} :=
  List.append_nil _

theorem refutes_full (prog : Exprs) (ev v : Value)
    (hc : (checksSeq prog T0 {}).all (· != .outOfModel) = true)
    (h1 : mem ev anyObj = true) (h2 : ev.Sorted = true)
    (ho : outcome prog ev = .ok v) (hk : memR v (resultKind prog) = false) : ¬ C01.Full := by
  intro h
  have hs := h (.blk prog) T0 (checks_blk prog ▸ hc) (st ev) (conforms_st ev h1 h2)
  rw [eval, show evalSeq prog (st ev) = (.ok v, _) from Prod.ext ho rfl] at hs
  exact Bool.false_ne_true (hk.symm.trans hs.1)

/-- **the full-strength statement of C01 is false of the model** (hence, by the correspondence, of
    the code): the block-scope leak, a call-free program -/
theorem not_full : ¬ C01.Full :=
  refutes_full scopeLeak scopeLeakEv _ (by decide +kernel) (by decide +kernel) (by decide +kernel)
    witness_scope_leak.1 witness_scope_leak.2

/-! ### non-vacuity of the hypotheses of the `_partial` theorems -/

theorem okDiv_checks : checksSeq okDiv T0 {} = [.nan] := by decide +kernel

theorem okIf_checks : checksSeq okIf T0 {} = [] := by decide +kernel

set_option maxRecDepth 100000 in
/-- `x = 5; .r = 10 / x; .r` passes every side condition … -/
example : safeSeq okDiv T0 = true := by rw [safeSeq, okDiv_checks]; rfl

set_option maxRecDepth 100000 in
/-- … and so does a conditional that reassigns a variable and the event -/
example : safeSeq okIf T0 = true := by rw [safeSeq, okIf_checks]; rfl

set_option maxRecDepth 100000 in
example : outcome okIf okIfEv = .ok (.arr (.cons (.bytes [115]) (.cons .null .nil))) := by decide +kernel

/-- a run-time state that inhabits the initial type state -/
example : Conforms (st okIfEv) T0 := conforms_st _ (by decide +kernel) (by decide +kernel)

end C01.W
