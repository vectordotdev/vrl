/-
  Witnesses for the C19 finding classes: on each concrete input (the replay lines of
  corpus/C19/known.case, which the check re-runs on the implementation) the value belongs to the
  kind, the law fails on the MODEL, and the input lies in the stated class. All by kernel `decide`.
  Generated from corpus/C19/known.case with bin/wire2lean; likewise the `fixed_*` replays of
  fixed.case (defects repaired in the implementation: the law holds). Written by hand: the model-only
  witness `witness_superset_exact_isAny` and the last section (non-vacuity of the theorems' hypotheses).
-/
import VrlModel.C19

namespace C19.W
open Spec

/-! `o.c19.at  ⇥  [ t ]  ⇥  K - C { #0 K o _ _ #1 K u _ _ } E K u _ _ _  ⇥  #-1` -/
def at_minlen_counts_optional_v : Value :=
  (.arr (.cons (.bool true) .nil))
def at_minlen_counts_optional_K : Kind :=
  (Kind.mk {} (.some (.mk (.cons [0] (Kind.mk { boolean := true } .none .none) (.cons [1] (Kind.mk { undefined := true } .none .none) .nil)) (.exact (Kind.mk { undefined := true } .none .none)))) .none)
def at_minlen_counts_optional_p : Path :=
  [.index (-1)]
theorem witness_at_minlen_counts_optional :
    mem at_minlen_counts_optional_v at_minlen_counts_optional_K = true ∧ atLawM at_minlen_counts_optional_v at_minlen_counts_optional_K at_minlen_counts_optional_p = false ∧
    atClass at_minlen_counts_optional_K at_minlen_counts_optional_p = .minlen_counts_optional := by decide +kernel

/-! `o.c19.insert  ⇥  [ ]  ⇥  K - C { #0 K u _ _ } E K u _ _ _  ⇥  #1  ⇥  n  ⇥  K n _ _` -/
def insert_minlen_counts_optional_v : Value :=
  (.arr .nil)
def insert_minlen_counts_optional_K : Kind :=
  (Kind.mk {} (.some (.mk (.cons [0] (Kind.mk { undefined := true } .none .none) .nil) (.exact (Kind.mk { undefined := true } .none .none)))) .none)
def insert_minlen_counts_optional_p : Path :=
  [.index (1)]
def insert_minlen_counts_optional_x : Value :=
  .null
def insert_minlen_counts_optional_X : Kind :=
  (Kind.mk { null := true } .none .none)
theorem witness_insert_minlen_counts_optional :
    mem insert_minlen_counts_optional_v insert_minlen_counts_optional_K = true ∧ mem insert_minlen_counts_optional_x insert_minlen_counts_optional_X = true ∧
    insertLawM insert_minlen_counts_optional_v insert_minlen_counts_optional_K insert_minlen_counts_optional_p insert_minlen_counts_optional_x insert_minlen_counts_optional_X = false ∧
    insertClass insert_minlen_counts_optional_K insert_minlen_counts_optional_p insert_minlen_counts_optional_X = .minlen_counts_optional := by decide +kernel

/-! `o.c19.insert  ⇥  [ f ]  ⇥  K - C { #0 K o _ _ } E K u _ _ _  ⇥  #-2  ⇥  re:612b  ⇥  K r _ _` -/
def insert_neg_exact_noshift_v : Value :=
  (.arr (.cons (.bool false) .nil))
def insert_neg_exact_noshift_K : Kind :=
  (Kind.mk {} (.some (.mk (.cons [0] (Kind.mk { boolean := true } .none .none) .nil) (.exact (Kind.mk { undefined := true } .none .none)))) .none)
def insert_neg_exact_noshift_p : Path :=
  [.index (-2)]
def insert_neg_exact_noshift_x : Value :=
  (.regex [97, 43])
def insert_neg_exact_noshift_X : Kind :=
  (Kind.mk { regex := true } .none .none)
theorem witness_insert_neg_exact_noshift :
    mem insert_neg_exact_noshift_v insert_neg_exact_noshift_K = true ∧ mem insert_neg_exact_noshift_x insert_neg_exact_noshift_X = true ∧
    insertLawM insert_neg_exact_noshift_v insert_neg_exact_noshift_K insert_neg_exact_noshift_p insert_neg_exact_noshift_x insert_neg_exact_noshift_X = false ∧
    insertClass insert_neg_exact_noshift_K insert_neg_exact_noshift_p insert_neg_exact_noshift_X = .neg_insert_exact_noshift := by decide +kernel

/-! `o.c19.insert  ⇥  i:2  ⇥  K i _ C { k:61 K f _ _ } E K u _ _  ⇥  .62  ⇥  n  ⇥  K n _ _` -/
def insert_union_alt_v : Value :=
  (.int (2))
def insert_union_alt_K : Kind :=
  (Kind.mk { integer := true } .none (.some (.mk (.cons [97] (Kind.mk { float := true } .none .none) .nil) (.exact (Kind.mk { undefined := true } .none .none)))))
def insert_union_alt_p : Path :=
  [.field [98]]
def insert_union_alt_x : Value :=
  .null
def insert_union_alt_X : Kind :=
  (Kind.mk { null := true } .none .none)
theorem witness_insert_union_alt :
    mem insert_union_alt_v insert_union_alt_K = true ∧ mem insert_union_alt_x insert_union_alt_X = true ∧
    insertLawM insert_union_alt_v insert_union_alt_K insert_union_alt_p insert_union_alt_x insert_union_alt_X = false ∧
    insertClass insert_union_alt_K insert_union_alt_p insert_union_alt_X = .insert_union_alt := by decide +kernel

/-! `o.c19.remove  ⇥  [ i:5 ]  ⇥  K - C { #0 K i _ _ } E K i _ _ _  ⇥  #-3  ⇥  0` -/
def remove_neg_underflow_v : Value :=
  (.arr (.cons (.int (5)) .nil))
def remove_neg_underflow_K : Kind :=
  (Kind.mk {} (.some (.mk (.cons [0] (Kind.mk { integer := true } .none .none) .nil) (.exact (Kind.mk { integer := true } .none .none)))) .none)
def remove_neg_underflow_p : Path :=
  [.index (-3)]
/-- fixed (`D_remove_neg_underflow`; e3023e2): `x + 1 - negative_index` underflowed (a panic while
    typing); with the saturating subtraction the removal succeeds and the law holds -/
theorem fixed_remove_neg_underflow :
    mem remove_neg_underflow_v remove_neg_underflow_K = true ∧ Kind.Outcome.isPanic (remove_neg_underflow_K.remove remove_neg_underflow_p false) = false ∧
    removeLawM remove_neg_underflow_v remove_neg_underflow_K remove_neg_underflow_p false = true ∧
    panicClassRemove remove_neg_underflow_K remove_neg_underflow_p false = .none := by decide +kernel

/-! `o.c19.remove  ⇥  [ i:1 b:73 t ]  ⇥  K - C { #0 K i _ _ #1 K b _ _ #2 K o _ _ } E K u _ _ _  ⇥  #0  ⇥  0` -/
def remove_shift_v : Value :=
  (.arr (.cons (.int (1)) (.cons (.bytes [115]) (.cons (.bool true) .nil))))
def remove_shift_K : Kind :=
  (Kind.mk {} (.some (.mk (.cons [0] (Kind.mk { integer := true } .none .none) (.cons [1] (Kind.mk { bytes := true } .none .none) (.cons [2] (Kind.mk { boolean := true } .none .none) .nil))) (.exact (Kind.mk { undefined := true } .none .none)))) .none)
def remove_shift_p : Path :=
  [.index (0)]
/-- fixed (`D_remove_shift`; ff94317): the loop of `remove_shift` never advanced, so of
    `[integer, bytes, boolean]` minus index 0 only one element moved (`{0: bytes, 2: boolean}`); now
    every later known element moves and `["s", true]` belongs to the kind left behind -/
theorem fixed_remove_shift :
    mem remove_shift_v remove_shift_K = true ∧ removeLawM remove_shift_v remove_shift_K remove_shift_p false = true ∧
    removeClass remove_shift_K remove_shift_p false = .none := by decide +kernel

/-! `o.c19.remove  ⇥  [ re:612b ]  ⇥  K - C { #0 K r _ _ #1 K fu _ _ } E K bn _ _ _  ⇥  #-1  ⇥  0` -/
def remove_minlen_counts_optional_v : Value :=
  (.arr (.cons (.regex [97, 43]) .nil))
def remove_minlen_counts_optional_K : Kind :=
  (Kind.mk {} (.some (.mk (.cons [0] (Kind.mk { regex := true } .none .none) (.cons [1] (Kind.mk { float := true, undefined := true } .none .none) .nil)) (.exact (Kind.mk { bytes := true, null := true } .none .none)))) .none)
def remove_minlen_counts_optional_p : Path :=
  [.index (-1)]
theorem witness_remove_minlen_counts_optional :
    mem remove_minlen_counts_optional_v remove_minlen_counts_optional_K = true ∧ removeLawM remove_minlen_counts_optional_v remove_minlen_counts_optional_K remove_minlen_counts_optional_p false = false ∧
    removeClass remove_minlen_counts_optional_K remove_minlen_counts_optional_p false = .minlen_counts_optional := by decide +kernel

/-! `o.c19.remove  ⇥  { k:61 { k:63 d:bff4000000000000 k:c3a9 i:-3 } }  ⇥  K - _ C { } E K - _ C { k:c3a9 K i _ _ } E K f _ _  ⇥  .61 .c3a9  ⇥  1` -/
def remove_through_unknown_v : Value :=
  (.obj (.cons [97] (.obj (.cons [99] (.float 0xbff4000000000000) (.cons [195, 169] (.int (-3)) .nil))) .nil))
def remove_through_unknown_K : Kind :=
  (Kind.mk {} .none (.some (.mk .nil (.exact (Kind.mk {} .none (.some (.mk (.cons [195, 169] (Kind.mk { integer := true } .none .none) .nil) (.exact (Kind.mk { float := true } .none .none)))))))))
def remove_through_unknown_p : Path :=
  [.field [97], .field [195, 169]]
theorem witness_remove_through_unknown :
    mem remove_through_unknown_v remove_through_unknown_K = true ∧ removeLawM remove_through_unknown_v remove_through_unknown_K remove_through_unknown_p true = false ∧
    removeClass remove_through_unknown_K remove_through_unknown_p true = .remove_through_unknown := by decide +kernel

/-! `o.c19.remove  ⇥  { k:63 b:73 }  ⇥  K - _ C { k:63 K b _ C { k:62 K b _ _ } E K u _ _ } E K u _ _  ⇥  .63 .62  ⇥  1` -/
def remove_compact_union_alt_v : Value :=
  (.obj (.cons [99] (.bytes [115]) .nil))
def remove_compact_union_alt_K : Kind :=
  (Kind.mk {} .none (.some (.mk (.cons [99] (Kind.mk { bytes := true } .none (.some (.mk (.cons [98] (Kind.mk { bytes := true } .none .none) .nil) (.exact (Kind.mk { undefined := true } .none .none))))) .nil) (.exact (Kind.mk { undefined := true } .none .none)))))
def remove_compact_union_alt_p : Path :=
  [.field [99], .field [98]]
theorem witness_remove_compact_union_alt :
    mem remove_compact_union_alt_v remove_compact_union_alt_K = true ∧ removeLawM remove_compact_union_alt_v remove_compact_union_alt_K remove_compact_union_alt_p true = false ∧
    removeClass remove_compact_union_alt_K remove_compact_union_alt_p true = .compact_union_alt := by decide +kernel

/-! `o.c19.remove  ⇥  { k:61 { k:63 re:612b } }  ⇥  K - _ C { k:61 K - _ C { k:62 K ou _ _ k:63 K r _ _ } E K u _ _ } E K u _ _  ⇥  .61 .63  ⇥  1` -/
def remove_compact_optional_known_v : Value :=
  (.obj (.cons [97] (.obj (.cons [99] (.regex [97, 43]) .nil)) .nil))
def remove_compact_optional_known_K : Kind :=
  (Kind.mk {} .none (.some (.mk (.cons [97] (Kind.mk {} .none (.some (.mk (.cons [98] (Kind.mk { boolean := true, undefined := true } .none .none) (.cons [99] (Kind.mk { regex := true } .none .none) .nil)) (.exact (Kind.mk { undefined := true } .none .none))))) .nil) (.exact (Kind.mk { undefined := true } .none .none)))))
def remove_compact_optional_known_p : Path :=
  [.field [97], .field [99]]
theorem witness_remove_compact_optional_known :
    mem remove_compact_optional_known_v remove_compact_optional_known_K = true ∧ removeLawM remove_compact_optional_known_v remove_compact_optional_known_K remove_compact_optional_known_p true = false ∧
    removeClass remove_compact_optional_known_K remove_compact_optional_known_p true = .compact_optional_known := by decide +kernel

/-! `o.c19.remove  ⇥  [ i:0 n n i:3 ]  ⇥  K - C { #0 K i _ _ #3 K i _ _ } E K n _ _ _  ⇥  #-2  ⇥  0` -/
def remove_neg_gap_v : Value :=
  (.arr (.cons (.int (0)) (.cons .null (.cons .null (.cons (.int (3)) .nil)))))
def remove_neg_gap_K : Kind :=
  (Kind.mk {} (.some (.mk (.cons [0] (Kind.mk { integer := true } .none .none) (.cons [3] (Kind.mk { integer := true } .none .none) .nil)) (.exact (Kind.mk { null := true } .none .none)))) .none)
def remove_neg_gap_p : Path :=
  [.index (-2)]
theorem witness_remove_neg_gap :
    mem remove_neg_gap_v remove_neg_gap_K = true ∧ removeLawM remove_neg_gap_v remove_neg_gap_K remove_neg_gap_p false = false ∧
    removeClass remove_neg_gap_K remove_neg_gap_p false = .remove_neg_gap := by decide +kernel

/-! `o.c19.union  ⇥  [ ts:0 ]  ⇥  K - C { } E K t _ _ _  ⇥  K bifon C { } I bifonAO C { } I bifonAO` -/
def union_inf_over_exact_v : Value :=
  (.arr (.cons (.ts (0)) .nil))
def union_inf_over_exact_A : Kind :=
  (Kind.mk {} (.some (.mk .nil (.exact (Kind.mk { timestamp := true } .none .none)))) .none)
def union_inf_over_exact_B : Kind :=
  (Kind.mk { bytes := true, integer := true, float := true, boolean := true, null := true } (.some (.mk .nil (.infinite { bytes := true, integer := true, float := true, boolean := true, null := true, array := true, object := true }))) (.some (.mk .nil (.infinite { bytes := true, integer := true, float := true, boolean := true, null := true, array := true, object := true }))))
theorem witness_union_inf_over_exact :
    mem union_inf_over_exact_v union_inf_over_exact_A = true ∧ unionLawM union_inf_over_exact_v union_inf_over_exact_A union_inf_over_exact_B = false ∧
    unionClass union_inf_over_exact_A union_inf_over_exact_B = .inf_over_exact := by decide +kernel

/-! `o.c19.merge  ⇥  { k:61 b:73 }  ⇥  K - _ C { k:61 K b _ _ } E K u _ _  ⇥  { }  ⇥  K - _ C { k:61 K iu _ _ } E K u _ _` -/
def merge_overwrite_maybe_absent_a : Value :=
  (.obj (.cons [97] (.bytes [115]) .nil))
def merge_overwrite_maybe_absent_A : Kind :=
  (Kind.mk {} .none (.some (.mk (.cons [97] (Kind.mk { bytes := true } .none .none) .nil) (.exact (Kind.mk { undefined := true } .none .none)))))
def merge_overwrite_maybe_absent_b : Value :=
  (.obj .nil)
def merge_overwrite_maybe_absent_B : Kind :=
  (Kind.mk {} .none (.some (.mk (.cons [97] (Kind.mk { integer := true, undefined := true } .none .none) .nil) (.exact (Kind.mk { undefined := true } .none .none)))))
theorem witness_merge_overwrite_maybe_absent :
    mem merge_overwrite_maybe_absent_a merge_overwrite_maybe_absent_A = true ∧ mem merge_overwrite_maybe_absent_b merge_overwrite_maybe_absent_B = true ∧
    mergeLawM merge_overwrite_maybe_absent_a merge_overwrite_maybe_absent_A merge_overwrite_maybe_absent_b merge_overwrite_maybe_absent_B = false ∧
    mergeClass merge_overwrite_maybe_absent_A merge_overwrite_maybe_absent_B = .merge_overwrite_maybe_absent := by decide +kernel

/-! `o.c19.merge  ⇥  { }  ⇥  K - _ C { } E K - _ C { k:61 K f _ _ } E K u _ _  ⇥  { k:63 { } }  ⇥  K - _ C { } E K - _ C { } E K u _ _` -/
def merge_unknown_overwrite_a : Value :=
  (.obj .nil)
def merge_unknown_overwrite_A : Kind :=
  (Kind.mk {} .none (.some (.mk .nil (.exact (Kind.mk {} .none (.some (.mk (.cons [97] (Kind.mk { float := true } .none .none) .nil) (.exact (Kind.mk { undefined := true } .none .none)))))))))
def merge_unknown_overwrite_b : Value :=
  (.obj (.cons [99] (.obj .nil) .nil))
def merge_unknown_overwrite_B : Kind :=
  (Kind.mk {} .none (.some (.mk .nil (.exact (Kind.mk {} .none (.some (.mk .nil (.exact (Kind.mk { undefined := true } .none .none)))))))))
theorem witness_merge_unknown_overwrite :
    mem merge_unknown_overwrite_a merge_unknown_overwrite_A = true ∧ mem merge_unknown_overwrite_b merge_unknown_overwrite_B = true ∧
    mergeLawM merge_unknown_overwrite_a merge_unknown_overwrite_A merge_unknown_overwrite_b merge_unknown_overwrite_B = false ∧
    mergeClass merge_unknown_overwrite_A merge_unknown_overwrite_B = .merge_unknown_overwrite := by decide +kernel

/-! `o.c19.merge  ⇥  { }  ⇥  K - _ C { } I bifonAO  ⇥  { k:61 re:612b }  ⇥  K - _ C { } E K r _ _` -/
def merge_inf_over_exact_a : Value :=
  (.obj .nil)
def merge_inf_over_exact_A : Kind :=
  (Kind.mk {} .none (.some (.mk .nil (.infinite { bytes := true, integer := true, float := true, boolean := true, null := true, array := true, object := true }))))
def merge_inf_over_exact_b : Value :=
  (.obj (.cons [97] (.regex [97, 43]) .nil))
def merge_inf_over_exact_B : Kind :=
  (Kind.mk {} .none (.some (.mk .nil (.exact (Kind.mk { regex := true } .none .none)))))
theorem witness_merge_inf_over_exact :
    mem merge_inf_over_exact_a merge_inf_over_exact_A = true ∧ mem merge_inf_over_exact_b merge_inf_over_exact_B = true ∧
    mergeLawM merge_inf_over_exact_a merge_inf_over_exact_A merge_inf_over_exact_b merge_inf_over_exact_B = false ∧
    mergeClass merge_inf_over_exact_A merge_inf_over_exact_B = .inf_over_exact := by decide +kernel

/-! `o.c19.memsup  ⇥  { }  ⇥  K bifon C { } I bifonAO C { } I bifonAO` -/
def memsup_inf_vs_exact_v : Value :=
  (.obj .nil)
def memsup_inf_vs_exact_K : Kind :=
  (Kind.mk { bytes := true, integer := true, float := true, boolean := true, null := true } (.some (.mk .nil (.infinite { bytes := true, integer := true, float := true, boolean := true, null := true, array := true, object := true }))) (.some (.mk .nil (.infinite { bytes := true, integer := true, float := true, boolean := true, null := true, array := true, object := true }))))
theorem witness_memsup_inf_vs_exact :
    mem memsup_inf_vs_exact_v memsup_inf_vs_exact_K = true ∧ memsup_inf_vs_exact_K.isSuperset memsup_inf_vs_exact_v.kindOf = false ∧
    memsupClass memsup_inf_vs_exact_K false = .superset_inf_vs_exact := by decide +kernel

/-! `o.c19.canon  ⇥  { }  ⇥  K - _ C { k:61 K bifotrnu C { } I bifotrnAO C { } I bifotrnAO } E K bifotrn C { } I bifonAO C { } I bifonAO` -/
def canon_exact_to_infinite_K : Kind :=
  (Kind.mk {} .none (.some (.mk (.cons [97] (Kind.mk { bytes := true, integer := true, float := true, boolean := true, timestamp := true, regex := true, null := true, undefined := true } (.some (.mk .nil (.infinite { bytes := true, integer := true, float := true, boolean := true, timestamp := true, regex := true, null := true, array := true, object := true }))) (.some (.mk .nil (.infinite { bytes := true, integer := true, float := true, boolean := true, timestamp := true, regex := true, null := true, array := true, object := true })))) .nil) (.exact (Kind.mk { bytes := true, integer := true, float := true, boolean := true, timestamp := true, regex := true, null := true } (.some (.mk .nil (.infinite { bytes := true, integer := true, float := true, boolean := true, null := true, array := true, object := true }))) (.some (.mk .nil (.infinite { bytes := true, integer := true, float := true, boolean := true, null := true, array := true, object := true }))))))))
theorem witness_canon_exact_to_infinite :
    canon_exact_to_infinite_K.canonicalize.eq canon_exact_to_infinite_K = false ∧ canonClass canon_exact_to_infinite_K = .canon_exact_to_infinite := by decide +kernel

/-! model-only witness (an `Exact(never)` unknown cannot be built through the public constructors):
    `Unknown::is_superset` accepts `Exact(k)` ⊇ `Infinite` as soon as `k.is_any()`, which holds for `never`. -/
def superset_exact_isAny_A : Kind :=
  Kind.ofObject (.mk .nil (.exact Kind.never))
def superset_exact_isAny_v : Value := .obj (.cons [97] (.int 1) .nil)
theorem witness_superset_exact_isAny :
    superset_exact_isAny_A.isSuperset Kind.anyObject = true ∧
    mem superset_exact_isAny_v Kind.anyObject = true ∧
    mem superset_exact_isAny_v superset_exact_isAny_A = false ∧
    superset_exact_isAny_A.anyUnknown Unknown.exactIsAny = true := by decide +kernel

/-! `o.c19.canon  ⇥  [ [ re:612b ] ]  ⇥  K - C { } E K bifon C { } I bifotrnAO C { } I bifonAO _`:
    `canonicalize` loses a member. -/
def canon_loses_K : Kind :=
  (Kind.mk {} (.some (.mk .nil (.exact (Kind.mk { bytes := true, integer := true, float := true, boolean := true, null := true } (.some (.mk .nil (.infinite { bytes := true, integer := true, float := true, boolean := true, timestamp := true, regex := true, null := true, array := true, object := true }))) (.some (.mk .nil (.infinite { bytes := true, integer := true, float := true, boolean := true, null := true, array := true, object := true }))))))) .none)
def canon_loses_v : Value :=
  (.arr (.cons (.arr (.cons (.regex [97, 43]) .nil)) .nil))
theorem witness_canon_loses_member :
    mem canon_loses_v canon_loses_K = true ∧ canonLawM canon_loses_v canon_loses_K = false ∧
    canonClass canon_loses_K = .canon_exact_to_infinite := by decide +kernel

/-! `D_inf_over_exact` reached through `at_path`, `insert` and `remove` (they union kinds with
    `merge_keep` / `Collection::merge`), and `canonicalize` adding a member. -/
def infx_K : Kind :=
  (Kind.mk {} (.some (.mk (.cons [0] (Kind.mk {} (.some (.mk .nil (.exact (Kind.mk { timestamp := true } .none .none)))) .none) .nil) (.infinite { bytes := true, integer := true, float := true, boolean := true, null := true, array := true, object := true }))) .none)
def infx_v : Value :=
  (.arr (.cons (.arr (.cons (.ts (0)) .nil)) .nil))
theorem witness_at_inf_over_exact :
    mem infx_v infx_K = true ∧ atLawM infx_v infx_K [.index (-1)] = false ∧
    atClass infx_K [.index (-1)] = .inf_over_exact := by decide +kernel
theorem witness_insert_inf_over_exact :
    mem infx_v infx_K = true ∧
    insertLawM infx_v infx_K [.index (-2)] (.int 1) Kind.integer = false ∧
    insertClass infx_K [.index (-2)] Kind.integer = .inf_over_exact := by decide +kernel
def infx_K3 : Kind :=
  (Kind.mk {} (.some (.mk (.cons [0] (Kind.mk { integer := true } .none .none) (.cons [1] (Kind.mk {} (.some (.mk .nil (.exact (Kind.mk { timestamp := true } .none .none)))) .none) .nil)) (.infinite { bytes := true, integer := true, float := true, boolean := true, null := true, array := true, object := true }))) .none)
def infx_v3 : Value :=
  (.arr (.cons (.int (5)) (.cons (.arr (.cons (.ts (0)) .nil)) (.cons (.bytes [120]) .nil))))
theorem witness_remove_inf_over_exact :
    mem infx_v3 infx_K3 = true ∧ removeLawM infx_v3 infx_K3 [.index (-1)] false = false ∧
    removeClass infx_K3 [.index (-1)] false = .inf_over_exact := by decide +kernel
def canon_adds_K : Kind :=
  (Kind.mk {} (.some (.mk .nil (.exact (Kind.mk { bytes := true, integer := true, float := true, boolean := true, timestamp := true, regex := true, null := true } (.some (.mk .nil (.exact (Kind.mk { integer := true } .none .none)))) (.some (.mk .nil (.infinite { bytes := true, integer := true, float := true, boolean := true, timestamp := true, regex := true, null := true, array := true, object := true }))))))) .none)
def canon_adds_v : Value :=
  (.arr (.cons (.arr (.cons (.bytes [115]) .nil)) .nil))
theorem witness_canon_adds_member :
    mem canon_adds_v canon_adds_K = false ∧ mem canon_adds_v canon_adds_K.canonicalize = true ∧
    canonClass canon_adds_K = .canon_exact_to_infinite := by decide +kernel

/-! ### non-vacuity of the hypotheses of the reading, insertion, union, subtype-test and merge theorems
    (concrete, non-trivial states) -/

def nv_K : Kind :=
  (Kind.mk {} .none (.some (.mk (.cons [97] (Kind.mk { integer := true } (.some (.mk (.cons [0] (Kind.mk { bytes := true } .none .none) .nil) (.exact (Kind.mk { float := true } .none .none)))) .none) (.cons [98] (Kind.mk { bytes := true, undefined := true } .none .none) .nil)) (.infinite { bytes := true, integer := true, float := true, boolean := true, timestamp := true, regex := true, null := true, array := true, object := true }))))
def nv_v : Value :=
  (.obj (.cons [97] (.arr (.cons (.bytes [115]) (.cons (.float 0x3ff0000000000000) .nil))) (.cons [99] (.bool true) .nil)))
def nv_B : Kind :=
  (Kind.mk { null := true } (.some (.mk (.cons [0] (Kind.mk { integer := true } .none .none) .nil) (.exact (Kind.mk { bytes := true } .none .none)))) .none)

/-- `at_sound_class`: a nested member, a key-sorted kind, paths through a known field, an unknown
    field and a negative index into an array of unknown length; and the first two hypotheses of
    `insert_sound_partial` at `.a[3]` (the third fails there: see the example after the next). -/
example : nv_v.Sorted = true ∧ mem nv_v nv_K = true ∧ nv_K.SortedK = true ∧
    atClass nv_K [.field [97], .index (-1)] = .none ∧ atClass nv_K [.field [99]] = .none ∧
    Spec.nonNegPath [.field [97], .index 3] = true ∧
    anyOnInsertPath optionalIdx nv_K [.field [97], .index 3] = false := by decide +kernel

/-- `union_sound_partial`, `superset_sound_partial`, `mem_iff_superset_partial`. -/
example : nv_K.SortedK = true ∧ nv_B.SortedK = true ∧ unionClass nv_K nv_B = .none ∧
    nv_K.hasNonAnyInf = false ∧ nv_K.WF = true ∧ nv_K.anyUnknown Unknown.exactIsAny = false ∧
    nv_K.isSuperset nv_v.kindOf = true := by decide +kernel

/-- `insert_sound_partial` needs the kind met at each segment not to be a union with that segment's
    collection state and a required known entry: `nv_K` at `.a` is `integer or [bytes, …float]`, so
    `.a[3]` is in `D_insert_union_alt`; `.c.d[2]` (through the unknown `any` fields) is not. -/
example : anyOnInsertPath unionAltReq nv_K [.field [97], .index 3] = true ∧
    anyOnInsertPath unionAltReq nv_K [.field [99], .field [100], .index 2] = false ∧
    anyOnInsertPath optionalIdx nv_K [.field [99], .field [100], .index 2] = false := by decide +kernel

/-- `merge_sound_partial`: `{a: bytes, *: integer} | {a: float, b: null}`. -/
def nv_mA : Kind :=
  (Kind.mk {} .none (.some (.mk (.cons [97] (Kind.mk { bytes := true } .none .none) .nil) (.exact (Kind.mk { integer := true } .none .none)))))
def nv_mB : Kind :=
  (Kind.mk {} .none (.some (.mk (.cons [97] (Kind.mk { float := true } .none .none) (.cons [98] (Kind.mk { null := true } .none .none) .nil)) (.exact (Kind.mk { undefined := true } .none .none)))))
example : nv_mA.SortedK = true ∧ nv_mB.SortedK = true ∧ mergeClass nv_mA nv_mB = .none ∧
    mem (.obj (.cons [97] (.bytes [120]) (.cons [122] (.int 1) .nil))) nv_mA = true ∧
    mem (.obj (.cons [97] (.float 0) (.cons [98] .null .nil))) nv_mB = true := by decide +kernel

end C19.W
