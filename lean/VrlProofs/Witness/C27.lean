/-
  C27 — non-vacuity of the hypotheses used by the property theorems, and concrete instances that
  exercise the dispatch/encoding glue end to end: evaluated inside the kernel, except that the two
  `crc` instances take the look-up of the row by name from `crc_default` / `crc_dispatch`. (C27 has no known
  findings, so there are no counterexample witnesses.)
-/
import VrlProofs.Props.C27

namespace C27
open Hash Hash.Vrl

/-- the hypotheses of `hmac_eq_rfc2104` hold for the five hash functions vrl offers
    (digest length `n` for every input, `n ≤ B`). -/
theorem hmac_hypotheses_hold :
    (∀ x, (SHA.SHA1.digest x).length = 20) ∧ (∀ x, (SHA.sha224 x).length = 28) ∧
    (∀ x, (SHA.sha256 x).length = 32) ∧ (∀ x, (SHA.sha384 x).length = 48) ∧
    (∀ x, (SHA.sha512 x).length = 64) ∧ 20 ≤ 64 ∧ 28 ≤ 64 ∧ 32 ≤ 64 ∧ 48 ≤ 128 ∧ 64 ≤ 128 :=
  ⟨sha1_length, sha2_digest_length _ _ _, sha2_digest_length _ _ _, sha2_digest_length _ _ _,
   sha2_digest_length _ _ _, by decide, by decide, by decide, by decide, by decide⟩

/-- the table that `crc_rows_wellformed` (the hypotheses of `crc_lt`, for every row) and
    `crc_catalogue_check` range over is not empty: 112 rows. -/
theorem crc_table_size : CRC.table.length = 112 := by decide +kernel

/-- the byte-range hypothesis of `hex_encoding` can be met: shown for the MD5 digest only. (The other
    digests are built by `toLE`/`toBE` too, whose elements are `< 256` by `toLE_lt`, `toBE_lt`; no
    theorem says so for them.) -/
theorem md5_digest_bytes (m : Bytes) : ∀ x ∈ MD5.digest m, x < 256 := by
  intro x hx
  simp only [MD5.digest, List.mem_append] at hx
  rcases hx with ((h | h) | h) | h <;> exact toLE_lt 4 _ x h

/-- `hmac_key_zero_extension` / `hmac_long_key`: their hypotheses are satisfiable
    (`"key"` with 3 zero bytes under B = 64; a 131-byte key with SHA-256, whose digest has 32 ≤ 64
    bytes). -/
example : (toBE 3 0x6b6579).length + 3 ≤ (⟨64, SHA.sha256⟩ : HMAC.HashFn).blockBytes := by
  decide +kernel
example : (⟨64, SHA.sha256⟩ : HMAC.HashFn).blockBytes < (List.replicate 131 0xaa).length ∧
    ((⟨64, SHA.sha256⟩ : HMAC.HashFn).hash (List.replicate 131 0xaa)).length ≤ 64 :=
  ⟨by decide +kernel, by rw [show (⟨64, SHA.sha256⟩ : HMAC.HashFn).hash = SHA.sha256 from rfl,
    (digest_lengths _).2.2.2.1]; decide⟩

def resBytes : Res → Option Bytes
  | .ok (.bytes b) => some b
  | _ => none

def resInt : Res → Option Int
  | .ok (.int i) => some i
  | _ => none

/-- the vrl documentation examples, end to end through dispatch and encoding:
    `md5("foo")` = "acbd18db4cc2f85cedef654fccc4a4d8", `crc("foo")` = "2356372769",
    `crc("foo", algorithm: "CRC_32_CKSUM")` = "4271552933", `seahash("bar")` (a negative result),
    `xxhash("foo", "XXH3-64")` (negative). `md5`, `seahash` and `xxhash` are evaluated in the kernel
    from the call on; for the two `crc` calls the row comes from `crc_default` / `crc_dispatch`, and
    the kernel evaluates the checksum of that row and its decimal text. -/
theorem vrl_doc_examples :
    resBytes (md5 (toBE 3 0x666f6f))
      = some (toBE 32 0x6163626431386462346363326638356365646566363534666363633461346438) ∧
    resBytes (crc none (toBE 3 0x666f6f)) = some (toBE 10 0x32333536333732373639) ∧
    resBytes (crc (some "CRC_32_CKSUM") (toBE 3 0x666f6f)) = some (toBE 10 0x34323731353532393333) ∧
    resInt (seahash (toBE 3 0x626172)) = some (-2796170501982571315) ∧
    resInt (xxhash (some "XXH3-64") (toBE 3 0x666f6f)) = some (-6093828362558603894) := by
  -- rows 99 and 97 of the table
  have e1 := (crc_default (toBE 3 0x666f6f)).trans
    (crc_dispatch CRC.table[99] (List.getElem_mem _) _)
  have e2 : crc (some "CRC_32_CKSUM") (toBE 3 0x666f6f) = _ :=
    crc_dispatch CRC.table[97] (List.getElem_mem _) _
  rw [e1, e2]
  decide +kernel

end C27
