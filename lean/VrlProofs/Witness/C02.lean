/-
  Witnesses for C02: programs the model (and the real compiler) types infallible that end in a
  run-time error which is not the NaN error. One per finding class of the type inference; and
  `fixed_…` theorems: the counterexamples of the repaired classes, now typed fallible.
-/
import VrlProofs.Witness.C01

namespace C02.W
open Lang Spec C01.W

def InfallibleButFails (prog : Exprs) (ev : Value) : Prop :=
  (typeSeq prog T0 {}).1.finish.fallible = false ∧ outcome prog ev = .err

instance (prog : Exprs) (ev : Value) : Decidable (InfallibleButFails prog ev) := by
  unfold InfallibleButFails; exact inferInstance

/-- typed fallible (the compiler rejects the program unless the error is handled), and it does fail -/
def FallibleAndFails (prog : Exprs) (ev : Value) : Prop :=
  (typeSeq prog T0 {}).1.finish.fallible = true ∧ outcome prog ev = .err

instance (prog : Exprs) (ev : Value) : Decidable (FallibleAndFails prog ev) := by
  unfold FallibleAndFails; exact inferInstance

/-- fixed (`D_del_typing`, variables; 6af54e3): `10 / x.a` after `del(x.a)`: the constant divisor is
    gone, and so is now the compiler's record of it: the division is typed fallible -/
theorem fixed_del_var : FallibleAndFails delVar delVarEv := by decide +kernel

/-- `D_del_typing` (remaining; C19 `D_minlen_counts_optional`): after `x = [1]; if .a == 1 { x[1] = 2 };
    del(x[-1])` with `.a ≠ 1` the variable is `[]`, still typed with a required integer at index 0;
    `x[0] + 1` is typed infallible and fails on `null + 1` -/
theorem witness_del_neg : InfallibleButFails delNegAdd delNegAddEv ∧ nanFreeSeq delNegAdd T0 = true := by
  decide +kernel

/-- fixed (`D_del_typing` through C19 `D_remove_shift`; ff94317): after `x = [1, "s", 2]; del(x[0])` the
    variable is `["s", 2]`; it was typed `{0: bytes, 2: integer}` and `x[2] + 1` infallible. Now `x[2]`
    is typed `undefined`, the addition fallible (the compiler rejects the program) -/
theorem fixed_del_shift : FallibleAndFails delShiftAdd delShiftAddEv := by decide +kernel

/-- `D_short_circuit_defines_var` (`(.a || (x = 1)); x + 1` with `.a = true`); no float arithmetic -/
theorem witness_short_var : InfallibleButFails shortVar shortVarEv ∧ nanFreeSeq shortVar T0 = true := by decide +kernel

/-- `D_err_partial_effects`: the lhs of `??` fails before its assignment ran -/
theorem witness_err_partial : InfallibleButFails errPartial errPartialEv := by decide +kernel

/-- `D_err_partial_effects`: the same through `ok, err =` -/
theorem witness_err_partial_iasg : InfallibleButFails errPartialIasg errPartialIasgEv := by decide +kernel

/-- fixed (`D_div_typing`; a408080): the assignment in the divisor was not applied to the type state;
    now `x` is an integer afterwards and `x + "t"` is typed fallible -/
theorem fixed_div_rhs : FallibleAndFails divRhs divRhsEv := by decide +kernel

/-- fixed (`D_div_typing`; a408080): `(1 / .n) / 2` was typed infallible; with `.n = 0` it fails with
    "divide by zero" (not the NaN error). The fallibility of the dividend is now kept. -/
theorem fixed_div_lhs :
    FallibleAndFails divLhs divLhsEv ∧ Arith.tryDiv (.int 1) (.int 0) = .err .divideByZero := by decide +kernel

/-- fixed (`D_short_circuit_const_lhs`; fcfb238): `true && .a` with `.a = 5` was typed infallible; the
    rhs is now `fallible_unless(null | boolean)` -/
theorem fixed_and_true : FallibleAndFails andTrue andTrueEv ∧ safeSeq andTrue T0 = true := by decide +kernel

/-- fixed (`D_short_circuit_const_lhs`; fcfb238): an always-`null` lhs dropped its own fallibility; it
    is now kept -/
theorem fixed_and_null : FallibleAndFails andNull andNullEv := by decide +kernel

/-- `D_ctor_poststate` (remaining): `Abort::new` checks the message in the state after it was compiled
    (`y` a string); `type_info` types it in the state before (`y` an integer, infallible): at run time the
    message is `1` and the `abort` raises an error instead -/
theorem witness_ctor_poststate : InfallibleButFails ctorAbort ctorAbortEv ∧ nanFreeSeq ctorAbort T0 = true := by
  decide +kernel

/-- fixed (`D_ctor_poststate` at `Predicate::new` / `Not::new` / `Op::new`; d43fc03): in
    `x = "s"; if { y = x; x = true; y } { 1 } else { 2 }` the predicate was checked as if `x` already were
    a boolean. The check is now made in the state `type_info` uses, where it fails: the tree is no longer
    a compiled program (the compiler rejects the source) -/
theorem fixed_ctor_poststate :
    InfallibleButFails ctorPost ctorPostEv ∧
    (typeSeq (.cons (.blk (.cons (.asg (.internal "y" []) (.var "x")) (.cons (.asg (.internal "x" []) (.lit (.bool true))) (.cons (.var "y") .nil)))) .nil)
      (typeInfo (.asg (.internal "x" []) (.lit (.bytes [115]))) T0).2 {}).1.finish.kind.isBoolean = false ∧
    Chk.structural ∈ checksSeq ctorPost T0 {} := by
  decide +kernel

theorem refutes_full (prog : Exprs) (ev : Value)
    (hc : (checksSeq prog T0 {}).all (· != .outOfModel) = true)
    (h1 : mem ev anyObj = true) (h2 : ev.Sorted = true)
    (h : InfallibleButFails prog ev) (hn : nanFreeSeq prog T0 = true) : ¬ C02.Full := by
  intro hf
  have hm := hf (.blk prog) T0 (checks_blk prog ▸ hc) (st ev) (conforms_st ev h1 h2) h.1 h.2
  rw [checks_blk, ← List.contains_iff_mem] at hm
  rw [nanFreeSeq, hm] at hn
  cases hn

/-- **the full-strength statement of C02 is false of the model**: a variable first assigned by the
    right operand of `||` (`D_short_circuit_defines_var`) -/
theorem not_full : ¬ C02.Full :=
  refutes_full shortVar shortVarEv (by decide +kernel) (by decide +kernel) (by decide +kernel)
    witness_short_var.1 witness_short_var.2

set_option maxRecDepth 100000 in
/-- `x = 5; .r = 10 / x; .r` is safe, typed infallible and has no `abort`; it has float arithmetic
    (`nanFreeSeq` fails, as for every `/`), so `C02.program_never_fails`, which has no NaN exception,
    does not apply to it … -/
example : safeSeq okDiv T0 = true ∧ (typeSeq okDiv T0 {}).1.finish.fallible = false ∧
    noAbortS okDiv = true := by
  rw [safeSeq, okDiv_checks]
  decide +kernel

set_option maxRecDepth 100000 in
/-- … and the conditional program meets every hypothesis of `C02.program_never_fails` -/
example : safeSeq okIf T0 = true ∧ nanFreeSeq okIf T0 = true ∧ noAbortS okIf = true ∧
    (typeSeq okIf T0 {}).1.finish.fallible = false := by
  rw [safeSeq, nanFreeSeq, okIf_checks]
  decide +kernel

end C02.W
