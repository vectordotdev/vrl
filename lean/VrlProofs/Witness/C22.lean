/-
  C22 — witnesses and non-vacuity examples.

  * The unrestricted percent round trip is false of the code (and of its model) for the six
    WHATWG-style sets that leave `%` unescaped: `"%ba"` is encoded to itself and decoded to the
    byte 0xBA, which `decode_utf8_lossy` turns into U+FFFD. Replayed on the implementation by the
    check (`o.c22 pct <SET> 256261`), class `percent:D_percent_literal`.
  * Non-vacuity: the primitive structures (whose fields carry the assumed laws) are inhabited, so
    no theorem is vacuous because of contradictory laws, and the hypotheses of the property
    theorems are met by concrete inputs (of the punycode theorems, `punycode_roundtrip_validate`
    is applied; for `validate: false` only the label hypothesis is shown to be met, on ASCII labels).
-/
import VrlProofs.Props.C22

namespace C22
open Codec

/-- "%ba" -/
def pctBa : Bytes := [37, 98, 97]

/-- the six sets of `encode_percent` that do not escape `%`. -/
def leavesPercent : List Percent.AsciiSet := [.controls, .fragment, .query, .special, .path, .userinfo]

theorem leavesPercent_iff (set : Percent.AsciiSet) :
    set ∈ leavesPercent ↔ set.escapes Percent.pct = false := by
  cases set <;> decide +kernel

/-- D_percent_literal: `decode_percent(encode_percent("%ba", set))` is `"\u{FFFD}"`, not `"%ba"`. -/
theorem witness_percent_literal :
    Utf8.lossy pctBa = pctBa ∧ D_percent_literal .path pctBa = true ∧
    percent .path pctBa = .ok [0xEF, 0xBF, 0xBD] ∧ ¬ RoundTrip pctBa (percent .path pctBa) := by
  decide +kernel

/-- the same for every set that leaves `%` alone; the three other sets round-trip it. -/
theorem witness_percent_literal_all_sets :
    (∀ set ∈ leavesPercent, D_percent_literal set pctBa = true ∧ ¬ RoundTrip pctBa (percent set pctBa)) ∧
    (∀ set ∈ Percent.AsciiSet.all, set ∉ leavesPercent → RoundTrip pctBa (percent set pctBa)) := by
  decide +kernel

/-- the class is exactly the failure set (restating `percent_roundtrip_iff`). -/
theorem percent_class_exact (set : Percent.AsciiSet) (s : Bytes) (hs : Utf8.lossy s = s) :
    ¬ RoundTrip s (percent set s) ↔ D_percent_literal set s = true := by
  rw [percent_roundtrip_iff set s hs]
  simp [D_percent_literal]

example : ∀ x ∈ ([0, 15, 16, 255] : Bytes), x < 256 := by decide
example : RoundTrip [0, 15, 16, 255] (base16 [0, 15, 16, 255]) := base16_roundtrip _ (by decide)
example : RoundTrip [0, 15, 16, 255] (base64 [0, 15, 16, 255] false urlSafeName) :=
  base64_roundtrip _ (by decide) _ _ (Or.inr rfl)
-- model outputs on a known vector: "Ma" -> "TWE=" / "TWE"
example : Base64.encode [77, 97] true standardName = some [84, 87, 69, 61] := by decide
example : Base64.decode [84, 87, 69, 61, 61, 61] standardName = .ok [77, 97] := by decide
-- the all-padding quirk of the decoder glue: "" decodes, "=" does not
example : Base64.decode [] standardName = .ok [] ∧ Base64.decode [61] standardName = .badInput := by decide
-- a text with a literal `%` that is not followed by two hex digits is outside the class
example : Utf8.lossy [97, 37, 122, 122] = [97, 37, 122, 122] ∧ D_percent_literal .path [97, 37, 122, 122] = false := by
  decide
-- well-formed UTF-8 in the sense of Table 3-7: "é%" (C3 A9 25)
example : Utf8.Valid [0xC3, 0xA9, 37] :=
  .two _ _ _ (by decide) (by decide) (by decide) (by decide) (.ascii _ _ (by decide) .nil)

/-- identity "compression": the assumed laws are satisfiable. -/
def idGzip : Gzip.Prim where
  compress _ b := .ok b
  decompress c := some c
  rt _ b _ := ⟨b, rfl, rfl⟩

def idZlib : Zlib.Prim where
  compress _ b := .ok b
  decompress c := some c
  rt _ b _ := ⟨b, rfl, rfl⟩

def idZstd : Zstd.Prim where
  encodeAll _ b := .ok b
  decodeAll c := some c
  rt _ b _ _ := ⟨b, rfl, rfl⟩

def idSnappy : Snappy.Prim where
  compress b := some b
  decompress c := some c
  rt b _ := ⟨b, rfl, rfl⟩

/-- a toy lz4: the block is `0 :: bytes` (so it never starts with 0x04). -/
def toyLz4 : Lz4.Prim where
  compress b := 0 :: b
  compressPrepend b := Lz4.le32 b.length ++ 0 :: b
  decompress c n := if c.tail.length ≤ n then .ok c.tail else .err
  decompressPrepended c := .ok (c.drop 5)
  frameDecode _ _ := .err
  rtBlock b n h _ := by simp [h]
  rtPrepend b _ := by simp [Lz4.le32]
  prependShape _ _ := rfl
  blockNoMagic _ := by simp [Lz4.magic, List.isPrefixOf]

def idCharset : Charset.Prim where
  Enc := Unit
  forLabel _ := some ()
  encode _ t := t
  decode _ t := t
  representable _ _ := True
  rt _ _ _ _ := rfl

/-- a toy idna: ASCII domains are valid and map to themselves; raw punycode always fails. -/
def toyPuny : Punycode.Prim where
  toAscii d := if Punycode.isAscii d then some d else none
  toUnicode a := (a, true)
  punyEnc _ := none
  punyDec _ := none
  lower l := l
  validDomain d := Punycode.isAscii d = true
  rtIdna d h := ⟨d, by simp [h], h, rfl⟩
  asciiFixed d a h ha _ := by simp [h] at ha; exact ha.symm
  rtPuny _ _ h := by cases h

example : RoundTrip [1, 2, 3] (andThen (Gzip.encode idGzip [1, 2, 3] 6) (Gzip.decode idGzip)) :=
  gzip_roundtrip idGzip _ 6 (by decide)
-- 2^32 + 9 is level 9 after the `as u32` cast
example : RoundTrip [1] (andThen (Zlib.encode idZlib [1] 4294967305) (Zlib.decode idZlib)) :=
  zlib_roundtrip idZlib _ _ (by decide)
example : RoundTrip [1] (andThen (Zstd.encode idZstd [1] (-5)) (Zstd.decode idZstd)) :=
  zstd_roundtrip idZstd _ _
example : RoundTrip [1] (andThen (Snappy.encode idSnappy [1]) (Snappy.decode idSnappy)) :=
  snappy_roundtrip idSnappy _ (by decide)
example : RoundTrip [1, 2] (Lz4.decode toyLz4 (Lz4.encode toyLz4 [1, 2] false) 2 false) :=
  lz4_roundtrip_block toyLz4 _ 2 (by decide) (by decide) (by decide)
example : RoundTrip [1, 2] (Lz4.decode toyLz4 (Lz4.encode toyLz4 [1, 2] true) (-1) true) :=
  lz4_roundtrip_prepended_partial toyLz4 _ _ (by decide) (by decide)
-- the excluded class is inhabited: a byte string of 0x184D2204 bytes
example : (List.replicate Lz4.magicAsSize 0).length = Lz4.magicAsSize ∧
    D_lz4_size_is_magic Lz4.magicAsSize = true := ⟨List.length_replicate, by decide⟩
example : RoundTrip [104, 105] (andThen (Charset.encodeCharset idCharset [104, 105] [108])
    (fun x => Charset.decodeCharset idCharset x [108])) :=
  charset_roundtrip idCharset _ _ () rfl (by decide) trivial
-- "a.b"
example : RoundTrip [97, 46, 98] (andThen (Punycode.encode toyPuny [97, 46, 98] true)
    (fun e => Punycode.decode toyPuny e true)) :=
  punycode_roundtrip_validate toyPuny _ (by decide) (by show Punycode.isAscii _ = true; decide)
example : ∀ l ∈ Punycode.splitDot [97, 46, 98], PunyLabelOK toyPuny l := by
  intro l hl
  have : l = [97] ∨ l = [98] := by simpa [Punycode.splitDot, Punycode.dot] using hl
  rcases this with rfl | rfl <;> refine ⟨rfl, by decide, ?_⟩ <;> intro h <;> simp [Punycode.isAscii] at h

end C22
