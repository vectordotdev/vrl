/-
  C03 – witnesses: concrete calls of modelled functions on which the unchanged code violates a
  clause, inside the model (each is also a replay case of the oracle `o.c03.fn` in
  corpus/C03/known.case, i.e. re-observed on the real implementation by every check); the `fixed_…`
  theorems for the calls of finding classes that /repo has closed, with `to_float_ts_total` the general
  form of one of them; and non-vacuity examples for the `_partial` theorems.
-/
import VrlProofs.Props.C03Err
import VrlProofs.Props.C03Union

namespace C03.W
open C03 Spec

/-- a call on which clause (a) fails -/
def RefutesType (E : Env) (F : Fn) (as : ASlots) (vs : Slots) : Prop :=
  ∃ td v, LitsSorted as = true ∧ declared F as = some td ∧ Admits as vs = true ∧
    model E F vs = .ok v ∧ memR v td.kind = false

/-- a call on which clause (b) fails -/
def RefutesInfallible (E : Env) (F : Fn) (as : ASlots) (vs : Slots) : Prop :=
  ∃ td, LitsSorted as = true ∧ declared F as = some td ∧ td.fallible = false ∧
    Admits as vs = true ∧ model E F vs = .err

theorem not_sound_of {E : Env} {F : Fn} {as : ASlots} {vs : Slots} (h : RefutesType E F as vs) :
    ¬ Sound E F := by
  intro hs
  obtain ⟨td, v, hl, hd, ha, hm, hn⟩ := h
  have := (hs as vs td ⟨hl, hd, ha⟩ v hm).1
  rw [hn] at this; cases this

theorem not_infallible_of {E : Env} {F : Fn} {as : ASlots} {vs : Slots}
    (h : RefutesInfallible E F as vs) : ¬ Infallible E F := by
  intro hs
  obtain ⟨td, hl, hd, hf, ha, hm⟩ := h
  exact hs as vs td ⟨hl, hd, ha⟩ hf hm

def i (n : Int) : Value := .int n
def arrOf (l : List Value) : Value := .arr (Coll.ofList l)
def kA : Key := [97]     -- "a"
def kX : Key := [120]    -- "x"
def kY : Key := [121]    -- "y"
def objA (v : Value) : Value := .obj (.cons kA v .nil)

/-! ### clause (a): the value is outside the declared kind -/

/-- `pop([1])` is `[]`, declared `[integer]` (index 0 must be present): `result_type:pop`. -/
theorem witness_pop (E : Env) : RefutesType E .pop [some (.lit (arrOf [i 1]))] [some (arrOf [i 1])] :=
  ⟨_, _, rfl, rfl, by decide +kernel, rfl, by decide +kernel⟩

/-- `slice([[1], [2]], 1)` is `[[2]]`, declared `[[integer], [integer]]` (index 1 must be present):
    `result_type:slice`. -/
theorem witness_slice (E : Env) :
    RefutesType E .slice [some (.lit (arrOf [arrOf [i 1], arrOf [i 2]])), some (.lit (i 1)), none]
      [some (arrOf [arrOf [i 1], arrOf [i 2]]), some (i 1), none] :=
  ⟨_, _, rfl, rfl, by decide +kernel, rfl, by decide +kernel⟩

/-- `mod(0.1, 1)` is the float `0.1` and the declared kind is the kind of the dividend, `float`.
    Class `result_type:mod`, closed by /repo cbab0ba: a constant integer modulus was typed `integer`
    whatever the dividend, so this value was outside the declared kind. The general statement is
    `C03.mod_sound`. -/
theorem fixed_mod (E : Env) :
    ∃ td v, declared .mod [some (.lit (.float 0x3fb999999999999a)), some (.lit (i 1))] = some td ∧
      td.kind = Kind.float ∧ td.fallible = false ∧
      model E .mod [some (.float 0x3fb999999999999a), some (i 1)] = .ok v ∧ memR v td.kind = true :=
  ⟨_, .float 0x3fb999999999999a, rfl, rfl, rfl,
    (by show ofArith (Arith.tryRem (.float 0x3fb999999999999a) (.int 1)) = _; decide +kernel), by decide +kernel⟩

/-- `compact(.p)` with `.p = []` is `[]`, declared `object` (the argument is not *exactly* an
    array): `result_type:compact`. -/
theorem witness_compact (E : Env) :
    RefutesType E .compact [some (.dyn Kind.any), none, none, none, none, none, none]
      [some (arrOf []), none, none, none, none, none, none] :=
  ⟨_, _, rfl, rfl, by decide +kernel, rfl, by decide +kernel⟩

/-- `flatten(.p)` with `.p = []`: `result_type:flatten`. -/
theorem witness_flatten (E : Env) :
    RefutesType E .flatten [some (.dyn Kind.any), none, none] [some (arrOf []), none, none] :=
  ⟨_, _, rfl, rfl, by decide +kernel, rfl, by decide +kernel⟩

/-- `merge({"a": {"x": 1}}, {"a": {"y": 2}}, deep: true)` is `{"a": {"x": 1, "y": 2}}`, declared
    `{"a": {"y": integer}}` (`merge_overwrite` ignores `deep`; TODO in merge.rs, upstream #13597):
    `result_type:merge`. -/
theorem witness_merge_deep (E : Env) :
    RefutesType E .merge
      [some (.lit (objA (.obj (.cons kX (i 1) .nil)))), some (.lit (objA (.obj (.cons kY (i 2) .nil)))),
       some (.lit (.bool true))]
      [some (objA (.obj (.cons kX (i 1) .nil))), some (objA (.obj (.cons kY (i 2) .nil))),
       some (.bool true)] :=
  ⟨_, _, rfl, rfl, by decide +kernel, rfl, by decide +kernel⟩

/-! ### clause (b): typed infallible, returns an error -/

/-- `from_entries([1])`: `infallible_err:from_entries`. -/
theorem witness_from_entries (E : Env) :
    RefutesInfallible E .fromEntries [some (.lit (arrOf [i 1]))] [some (arrOf [i 1])] :=
  ⟨_, rfl, rfl, rfl, by decide +kernel, rfl⟩

/-- `unflatten({"a": 1}, separator: "")`: `infallible_err:unflatten`. -/
theorem witness_unflatten (E : Env) :
    RefutesInfallible E .unflatten [some (.lit (objA (i 1))), some (.lit (.bytes [])), none]
      [some (objA (i 1)), some (.bytes []), none] :=
  ⟨_, rfl, rfl, rfl, by decide +kernel, rfl⟩

/-- `encode_base64(".", charset: "")`: `infallible_err:encode_base64`. -/
theorem witness_encode_base64 (E : Env) :
    RefutesInfallible E .encodeBase64 [some (.lit (.bytes [46])), none, some (.lit (.bytes []))]
      [some (.bytes [46]), none, some (.bytes [])] :=
  ⟨_, rfl, rfl, rfl, by decide +kernel, rfl⟩

/-- `to_float(t'9999-12-31T23:59:59Z')`: the nanoseconds do not fit an `i64`
    (`timestamp_nanos_opt()` is `None`); the call is typed infallible and returns `253402300799.0`,
    seconds and fraction converted separately. Class `infallible_err:to_float`, closed by /repo
    3677b5b: `to_float` returned an `OutOfRange` error on such a timestamp though declared infallible.
    The general statement is `infallible_partial`, which has no class for `to_float`. -/
theorem fixed_to_float (E : Env) :
    ∃ td, declared .toFloat [some (.lit (.ts 253402300799000000000))] = some td ∧ td.fallible = false ∧
      model E .toFloat [some (.ts 253402300799000000000)] = .ok (.float 0x424d7ffa20bf8000) :=
  ⟨_, rfl, rfl, by
    -- the parser is not consulted for a timestamp
    show Round.toFloat (fun _ => none) (.ts 253402300799000000000) = _
    decide +kernel⟩

/-- `to_float` of a timestamp never errors, whatever the instant: the class `infallible_err:to_float`
    (/repo 3677b5b) is closed for every timestamp, not only for that of `fixed_to_float`. -/
theorem to_float_ts_total (E : Env) (ns : Int) : ∃ f, model E .toFloat [some (.ts ns)] = .ok (.float f) := by
  show ∃ f, Round.toFloat E.parseF (.ts ns) = .ok (.float f)
  simp only [Round.toFloat]
  split <;> exact ⟨_, rfl⟩

/-- `mod(x, 2.0)` with `x : float` at run time `+∞` (`inf % 2.0` is NaN → `NanFloat` error); the
    constant normal modulus makes the call infallible, the guard only looks at a CONSTANT dividend:
    `infallible_err:mod`. -/
theorem witness_mod_inf (E : Env) :
    RefutesInfallible E .mod [some (.dyn Kind.float), some (.lit (.float 0x4000000000000000))]
      [some (.float 0x7ff0000000000000), some (.float 0x4000000000000000)] :=
  ⟨_, rfl, rfl, rfl, by decide +kernel,
    (by show ofArith (Arith.tryRem (.float 0x7ff0000000000000) (.float 0x4000000000000000)) = _; decide +kernel)⟩

theorem sound_fails (E : Env) :
    ¬ Sound E .pop ∧ ¬ Sound E .slice ∧ ¬ Sound E .compact ∧ ¬ Sound E .flatten ∧
    ¬ Sound E .merge :=
  ⟨not_sound_of (witness_pop E), not_sound_of (witness_slice E),
   not_sound_of (witness_compact E), not_sound_of (witness_flatten E),
   not_sound_of (witness_merge_deep E)⟩

theorem infallible_fails (E : Env) :
    ¬ Infallible E .fromEntries ∧ ¬ Infallible E .unflatten ∧ ¬ Infallible E .encodeBase64 ∧
    ¬ Infallible E .mod :=
  ⟨not_infallible_of (witness_from_entries E), not_infallible_of (witness_unflatten E),
   not_infallible_of (witness_encode_base64 E), not_infallible_of (witness_mod_inf E)⟩

/-! ### non-vacuity: calls that satisfy the hypotheses of the `_partial` theorems and return a value -/

/-- the hypotheses of `sound_partial` hold of this call (it is outside every class of `soundClass`) and
    the function returns a value -/
def Covered (E : Env) (F : Fn) (as : ASlots) (vs : Slots) : Prop :=
  ∃ td v, Call F as vs td ∧ soundClass F as = false ∧ model E F vs = .ok v

/-- the hypotheses of `infallible_partial` hold of this call (outside every class of `errClass`), and it
    is typed infallible -/
def CoveredInfallible (F : Fn) (as : ASlots) (vs : Slots) : Prop :=
  ∃ td, Call F as vs td ∧ errClass F vs = false ∧ td.fallible = false

/-- `pop(.p)` with `.p = [1, 2]` -/
example (E : Env) : Covered E .pop [some (.dyn Kind.any)] [some (arrOf [i 1, i 2])] :=
  ⟨_, _, ⟨rfl, rfl, by decide +kernel⟩, by decide +kernel, rfl⟩

/-- `slice(.p, 1)` with `.p = [1, "a"]`, and `slice("abc", 1)` -/
example (E : Env) : Covered E .slice [some (.dyn Kind.any), some (.lit (i 1)), none]
    [some (arrOf [i 1, .bytes [97]]), some (i 1), none] :=
  ⟨_, _, ⟨rfl, rfl, by decide +kernel⟩, by decide +kernel, rfl⟩
example (E : Env) : Covered E .slice [some (.lit (.bytes [97, 98, 99])), some (.lit (i 1)), none]
    [some (.bytes [97, 98, 99]), some (i 1), none] :=
  ⟨_, _, ⟨rfl, rfl, by decide +kernel⟩, by decide +kernel, rfl⟩

/-- `mod(5, 3)` (constant integer modulus, integer dividend) and `mod(.p, .q)` -/
example (E : Env) : Covered E .mod [some (.lit (i 5)), some (.lit (i 3))] [some (i 5), some (i 3)] :=
  ⟨_, _, ⟨rfl, rfl, by decide +kernel⟩, by decide +kernel, rfl⟩
example (E : Env) : Covered E .mod [some (.dyn Kind.any), some (.dyn Kind.any)] [some (i 5), some (i 3)] :=
  ⟨_, _, ⟨rfl, rfl, by decide +kernel⟩, by decide +kernel, rfl⟩

/-- `mod(0.1, 3)`: constant integer modulus, float dividend -/
example (E : Env) : Covered E .mod [some (.lit (.float 0x3fb999999999999a)), some (.lit (i 3))]
    [some (.float 0x3fb999999999999a), some (i 3)] :=
  ⟨_, .float 0x3fb999999999999a, ⟨rfl, rfl, by decide +kernel⟩, by decide +kernel,
    (by show ofArith (Arith.tryRem (.float 0x3fb999999999999a) (.int 3)) = _; decide +kernel)⟩

/-- `compact([null, 1])` (exactly an array) and `flatten({"a": {"x": 1}})` (exactly an object) -/
example (E : Env) : Covered E .compact [some (.lit (arrOf [.null, i 1])), none, none, none, none, none, none]
    [some (arrOf [.null, i 1]), none, none, none, none, none, none] :=
  ⟨_, _, ⟨rfl, rfl, by decide +kernel⟩, by decide +kernel, rfl⟩
example (E : Env) : Covered E .flatten [some (.lit (objA (.obj (.cons kX (i 1) .nil)))), none, none]
    [some (objA (.obj (.cons kX (i 1) .nil))), none, none] :=
  ⟨_, _, ⟨rfl, rfl, by decide +kernel⟩, by decide +kernel, rfl⟩

/-- `values({"a": 1, "b": "x"})`, `values(.p)`, `push([1], "a")`, `push(.p, .q)` -/
example (E : Env) : Covered E .values
    [some (.lit (.obj (.cons kA (i 1) (.cons [98] (.bytes [120]) .nil))))]
    [some (.obj (.cons kA (i 1) (.cons [98] (.bytes [120]) .nil)))] :=
  ⟨_, _, ⟨rfl, rfl, by decide +kernel⟩, by decide +kernel, rfl⟩
example (E : Env) : Covered E .values [some (.dyn Kind.any)] [some (objA (i 1))] :=
  ⟨_, _, ⟨rfl, rfl, by decide +kernel⟩, by decide +kernel, rfl⟩
example (E : Env) : Covered E .push [some (.lit (arrOf [i 1])), some (.lit (.bytes [97]))]
    [some (arrOf [i 1]), some (.bytes [97])] :=
  ⟨_, _, ⟨rfl, rfl, by decide +kernel⟩, by decide +kernel, rfl⟩
example (E : Env) : Covered E .push [some (.dyn Kind.any), some (.dyn Kind.any)]
    [some (arrOf [i 1]), some .null] :=
  ⟨_, _, ⟨rfl, rfl, by decide +kernel⟩, by decide +kernel, rfl⟩

/-- `append(.p, [1, "a"])` -/
example (E : Env) : Covered E .append [some (.dyn Kind.any), some (.lit (arrOf [i 1, .bytes [97]]))]
    [some (arrOf [.null]), some (arrOf [i 1, .bytes [97]])] :=
  ⟨_, _, ⟨rfl, rfl, by decide +kernel⟩, by decide +kernel, rfl⟩

/-- a function outside every class: `array([1, "a"])`, `keys({"a": 1})`, `split("a,b", ",")` -/
example (E : Env) : Covered E .array [some (.lit (arrOf [i 1, .bytes [97]]))] [some (arrOf [i 1, .bytes [97]])] :=
  ⟨_, _, ⟨rfl, rfl, by decide +kernel⟩, by decide +kernel, rfl⟩
example (E : Env) : Covered E .keys [some (.lit (objA (i 1)))] [some (objA (i 1))] :=
  ⟨_, _, ⟨rfl, rfl, by decide +kernel⟩, by decide +kernel, rfl⟩
example (E : Env) : Covered E .split [some (.lit (.bytes [97, 44, 98])), some (.lit (.bytes [44])), none]
    [some (.bytes [97, 44, 98]), some (.bytes [44]), none] :=
  ⟨_, _, ⟨rfl, rfl, by decide +kernel⟩, by decide +kernel, rfl⟩

/-- clause (b): `from_entries([{"key": "a", "value": 1}])`, `unflatten({"a": 1})`,
    `encode_base64(".")`, `to_float(t'1970-01-01T00:00:00Z')`, `mod(5, 3)`, `mod(1.5, 2.0)`,
    `upcase("a")`, `string("a")` -/
example : CoveredInfallible .fromEntries
    [some (.lit (arrOf [.obj (.cons Conv.kKey (.bytes [97]) (.cons Conv.kValue (i 1) .nil))]))]
    [some (arrOf [.obj (.cons Conv.kKey (.bytes [97]) (.cons Conv.kValue (i 1) .nil))])] :=
  ⟨_, ⟨by decide +kernel, rfl, by decide +kernel⟩, by decide +kernel, rfl⟩
example : CoveredInfallible .unflatten [some (.lit (objA (i 1))), none, none] [some (objA (i 1)), none, none] :=
  ⟨_, ⟨rfl, rfl, by decide +kernel⟩, by decide +kernel, rfl⟩
example : CoveredInfallible .encodeBase64 [some (.lit (.bytes [46])), none, none] [some (.bytes [46]), none, none] :=
  ⟨_, ⟨rfl, rfl, by decide +kernel⟩, by decide +kernel, rfl⟩
example : CoveredInfallible .toFloat [some (.lit (.ts 0))] [some (.ts 0)] :=
  ⟨_, ⟨rfl, rfl, by decide +kernel⟩, by decide +kernel, rfl⟩
example : CoveredInfallible .toFloat [some (.lit (.ts 253402300799000000000))]
    [some (.ts 253402300799000000000)] :=
  ⟨_, ⟨rfl, rfl, by decide +kernel⟩, by decide +kernel, rfl⟩
example : CoveredInfallible .mod [some (.lit (i 5)), some (.lit (i 3))] [some (i 5), some (i 3)] :=
  ⟨_, ⟨rfl, rfl, by decide +kernel⟩, by decide +kernel, rfl⟩
example : CoveredInfallible .mod [some (.lit (.float 0x3ff8000000000000)), some (.lit (.float 0x4000000000000000))]
    [some (.float 0x3ff8000000000000), some (.float 0x4000000000000000)] :=
  ⟨_, ⟨rfl, rfl, by decide +kernel⟩, by decide +kernel, rfl⟩
example : CoveredInfallible .upcase [some (.lit (.bytes [97]))] [some (.bytes [97])] :=
  ⟨_, ⟨rfl, rfl, by decide +kernel⟩, by decide +kernel, rfl⟩
example : CoveredInfallible .string [some (.lit (.bytes [97]))] [some (.bytes [97])] :=
  ⟨_, ⟨rfl, rfl, by decide +kernel⟩, by decide +kernel, rfl⟩

end C03.W
