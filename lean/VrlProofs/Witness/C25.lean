/-
  C25 — witnesses of the known findings that lie inside the model, necessity of the hypotheses,
  and non-vacuity examples for the hypotheses of the property theorems.
-/
import VrlProofs.Props.C25

namespace C25
open Conv Conv.Flat

/-! #### flatten / unflatten -/

/-- `{"xa": {"y": 1}}` -/
def wOverlap : VMap := .cons [120, 97] (.obj (.cons [121] (.int 1) .nil)) .nil
/-- the separator `"aa"` -/
def sepAA : Key := [97, 97]

/-- D_sep_overlap: no key of `{"xa": {"y": 1}}` contains the separator `"aa"`, there is no empty
    container, and yet `unflatten(flatten(o, "aa"), "aa")` is `{"x": {"ay": 1}}`: the joined key
    `xaaay` splits at the first `aa`. The property as worded is false of the code (and of the
    model); the theorem needs `sepFree`. -/
theorem witness_sep_overlap :
    statedOKM sepAA wOverlap = true ∧ VMap.Sorted wOverlap = true ∧
    D_sep_overlapM sepAA wOverlap = true ∧ flatOKM sepAA wOverlap = false ∧
    (flatten (.obj wOverlap) (.bytes sepAA) []).bind (fun f => unflatten f (.bytes sepAA) (.bool true))
      = .ok (.obj (.cons [120] (.obj (.cons [97, 121] (.int 1) .nil)) .nil)) ∧
    specFlatten sepAA wOverlap
      ((flatten (.obj wOverlap) (.bytes sepAA) []).bind fun f => unflatten f (.bytes sepAA) (.bool true))
      = false := by
  decide +kernel

/-- necessity of "no empty nested object": `{"a": {}}` flattens to `{}`. -/
theorem witness_empty_object_lost :
    (flatten (.obj (.cons [97] (.obj .nil) .nil)) (.bytes [46]) []).bind
      (fun f => unflatten f (.bytes [46]) (.bool true)) = .ok (.obj .nil) := by
  decide +kernel

/-- necessity of "keys without separator": `{"a.b": 1}` comes back as `{"a": {"b": 1}}`. -/
theorem witness_key_with_separator :
    (flatten (.obj (.cons [97, 46, 98] (.int 1) .nil)) (.bytes [46]) []).bind
      (fun f => unflatten f (.bytes [46]) (.bool true))
      = .ok (.obj (.cons [97] (.obj (.cons [98] (.int 1) .nil)) .nil)) := by
  decide +kernel

/-- `{"a": {"0": [ {"x.y": {}}, [] ], "b": 1}, "c": []}` -/
def wNested : VMap :=
  .cons [97] (.obj (.cons [48] (.arr (.cons (.obj (.cons [120, 46, 121] (.obj .nil) .nil)) (.cons (.arr .nil) .nil)))
    (.cons [98] (.int 1) .nil)))
  (.cons [99] (.arr .nil) .nil)

/-- non-vacuity of `unflatten_flatten`, and a case outside the worded domain that the theorem
    covers: arrays (even empty, even holding empty objects and keys with separators) are opaque;
    integer-looking keys stay object keys. -/
example : flatOKM [46] wNested = true ∧ Utf8.fixed [46] = true ∧ statedOKM [46] wNested = false ∧
    (flatten (.obj wNested) (.bytes [46]) []).bind (fun f => unflatten f (.bytes [46]) (.bool true))
      = .ok (.obj wNested) := by decide +kernel

/-- the empty separator with two entries (the input of the fixed stack-overflow finding: the model's
    depth bound would be exhausted, `.panic`) is refused with an error ("separator must not be
    empty", /repo 7cd2172). -/
theorem witness_empty_separator_overflow :
    unflatten (.obj (.cons [97] (.int 1) (.cons [98] (.int 2) .nil))) (.bytes []) (.bool true)
      = .err := by decide +kernel

/-! #### format_int / parse_int -/

example : intDomain (-255) 16 = true ∧ (-255 : Int) ≠ i64Min := by decide +kernel

example : formatInt (.int (-255)) (.int 16) = .ok (.bytes [45, 102, 102]) ∧
    parseInt (.bytes [45, 102, 102]) (some (.int 16)) = .ok (.int (-255)) := by decide +kernel

/-- `parse_int` without a base: a leading `0` alone selects octal (`"09"` is an error),
    and the text after a prefix may carry a sign (`"0x-5"` is `-5`). -/
theorem witness_parse_int_prefix_quirks :
    parseInt (.bytes [48, 57]) none = .err ∧ parseInt (.bytes [48, 49, 55]) none = .ok (.int 15) ∧
    parseInt (.bytes [48, 120, 45, 53]) none = .ok (.int (-5)) := by decide +kernel

/-! #### to_entries / from_entries -/

example : entriesDomain (.cons [97] (.int 1) (.cons [195, 169] (.arr .nil) .nil)) = true := by decide +kernel

/-! #### IP -/

/-- non-vacuity of the IPv6 law: the transcription of std satisfies it on `::ffff:1.2.3.4`,
    `2001:db8::1` and `::` (the correspondence run samples it on the real std). -/
example : v6ok Ip.V6Text.std (Ip.mapped [1, 2, 3, 4]) = true ∧
    v6ok Ip.V6Text.std [8193, 3512, 0, 0, 0, 0, 0, 1] = true ∧
    v6ok Ip.V6Text.std [0, 0, 0, 0, 0, 0, 0, 0] = true := by decide +kernel

example : Ip.ipNtoa (.int 3232235777) = .ok (.bytes [49, 57, 50, 46, 49, 54, 56, 46, 49, 46, 49]) := by
  decide +kernel

/-! #### unix timestamps -/

/-- what a coarser unit loses: 1.5 s comes back as 1 s; −1.5 s comes back as −2 s (floor). -/
theorem witness_unix_floor :
    (Time.toUnix .seconds (.ts 1500000000)).bind (Time.fromUnix .seconds) = .ok (.ts 1000000000) ∧
    (Time.toUnix .seconds (.ts (-1500000000))).bind (Time.fromUnix .seconds) = .ok (.ts (-2000000000)) := by
  decide +kernel

/-- in-range timestamps beyond ±292 years have no nanosecond count: an error, not a wrap. -/
theorem witness_unix_nanos_range :
    Time.tsInRange 9223372036854775808 = true ∧
    Time.toUnix .nanoseconds (.ts 9223372036854775808) = .err := by decide +kernel

example : Time.tsInRange Time.tsMax = true ∧ Time.tsInRange (Time.tsMax + 1) = false ∧
    Time.fromUnix .seconds (.int Time.maxSecs) = .ok (.ts (Time.maxSecs * 1000000000)) ∧
    Time.fromUnix .seconds (.int (Time.maxSecs + 1)) = .err := by decide +kernel

/-! #### format_timestamp / parse_timestamp -/

/-- a toy instance of the chrono parameter (it prints no date at all: the text is a fixed marker
    and the parser returns the instant it was built for) showing that the hypotheses of
    `parse_format_timestamp` are satisfiable. -/
def toyChrono (t : Int) : Time.Chrono where
  validFormat := fun _ => true
  tzByName := fun n => if n = [85, 84, 67] then some 0 else none
  format := fun _ _ _ => some [116]
  parseFixed := fun s _ => if s = [116] then some (t / 1000000000, (t % 1000000000).toNat) else none
  parseIn := fun _ _ _ => none

example : tsLaw (toyChrono (-1500000000)) (.named 0) (-1500000000) [37, 43] = true ∧
    Time.formatHasZone [37, 43] = true ∧
    zoneOfArg (toyChrono (-1500000000)) (some (.bytes [85, 84, 67])) = some (.named 0) ∧
    tzAccepted (toyChrono (-1500000000)) none = true := by decide +kernel

/-- FIXED finding (/repo 83f4a4b): a leap-second representation that is not on second 59 of a UTC
    minute, which chrono hands back for a zone whose offset is not a whole number of minutes:
    `parse_timestamp!("1880-01-01 00:00:60", "%Y-%m-%d %H:%M:%S", timezone: "America/New_York")`.
    `datetime_to_utc` returns the instant (reply of the implementation: `ts:-2840122978000000000`). -/
theorem fixed_leap_second : Time.datetimeToUtc (-2840122979, 1000000000) = .ok (.ts (-2840122978000000000)) := by
  decide +kernel

/-- `datetime_to_utc` never panics, whatever pair chrono hands it: the finding of `fixed_leap_second`
    (/repo 83f4a4b) is closed for every instant. -/
theorem datetimeToUtc_never_panics (p : Int × Nat) : Time.datetimeToUtc p ≠ .panic := by
  simp [Time.datetimeToUtc]

end C25
