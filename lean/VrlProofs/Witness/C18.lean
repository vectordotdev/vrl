/-
  C18 — witnesses: the unrestricted frame law is false of the code (and of its model), in three
  classes, each replayed on the implementation by the check (`o.c18`); non-vacuity examples for the
  hypotheses of the property theorems.
-/
import VrlProofs.Props.C18

namespace C18
open Value

def kA : List Nat := [97]
def kB : List Nat := [98]

/-- `{"a": {"b": 1}}` -/
def wObj : Value := .obj (.cons kA (.obj (.cons kB (.int 1) .nil)) .nil)

/-- D_coerce: `.a[0] = 9` on `{"a":{"b":1}}` destroys `.a.b`. -/
theorem witness_coerce :
    diverge [.field kA, .index 0] [.field kA, .field kB] = true ∧
    frameClass (some wObj) [.field kA, .index 0] = .coerce ∧
    (insertOpt (some wObj) [.field kA, .index 0] (.int 9)).get [.field kA, .field kB]
      ≠ wObj.get [.field kA, .field kB] := by
  decide

/-- D_pad: `[2] = 9` on `null` creates `[null, null, 9]`: `[0]` now reads `null`. -/
theorem witness_pad :
    diverge [.index 2] [.index 0] = true ∧ frameClass (some .null) [.index 2] = .pad ∧
    (insertOpt (some .null) [.index 2] (.int 9)).get [.index 0] ≠ Value.null.get [.index 0] := by
  decide

/-- D_shift: `[-3] = 9` on `[1]` prepends two elements: `[-2]` changes from absent to `null`. -/
theorem witness_shift :
    let v := Value.arr (.cons (.int 1) .nil)
    diverge [.index (-3)] [.index (-2)] = true ∧ frameClass (some v) [.index (-3)] = .shift ∧
    (insertOpt (some v) [.index (-3)] (.int 9)).get [.index (-2)] ≠ v.get [.index (-2)] := by
  decide

/-- non-vacuity of `frame_partial`: a nested value and diverging paths satisfying its hypotheses. -/
example : diverge [.field kA, .field kB] [.field kA, .field [99]] = true ∧
    frameOK (some wObj) [.field kA, .field kB] = true ∧ Value.Sorted wObj = true := by decide

/-- non-vacuity of `get_insert` / `insert_sorted`: a non-panicking insert exists. -/
example : ∃ v' prev, wObj.insert [.field kA, .index (-2)] (.int 7) = .ok (v', prev) := ⟨_, _, rfl⟩

/-- the finding classes are the complement of the hypothesis of `frame_partial`. -/
theorem frameClass_none_iff (p : Path) : ∀ c, frameClass c p = .none ↔ frameOK c p = true := by
  induction p with
  | nil => intro c; exact ⟨fun _ => rfl, fun _ => rfl⟩
  | cons s rest ih =>
    intro c
    -- an index segment: the class of the rest when `idxOK` holds, else `pad` or `shift`
    have index (ok : Bool) (cls : FrameClass) (below : Bool) (i : Int)
        (h : cls = .none ↔ below = true) :
        (if ok = true then cls else if 0 ≤ i then .pad else .shift) = FrameClass.none ↔
          (ok && below) = true := by
      cases ok with
      | true => simpa using h
      | false =>
        rw [if_neg Bool.false_ne_true]
        split <;> simp
    cases s with
    | field f =>
      cases c with
      | none => exact ih none
      | some cv =>
        cases cv with
        | obj m => exact ih (m.get f)
        | arr a => exact ⟨nofun, nofun⟩
        | _ => exact ih none
    | index i =>
      cases c with
      | none => exact index _ _ _ i (ih none)
      | some cv =>
        cases cv with
        | arr a => exact index _ _ _ i (ih (a.getIdx i))
        | obj m => exact ⟨nofun, nofun⟩
        | _ => exact index _ _ _ i (ih none)

end C18
