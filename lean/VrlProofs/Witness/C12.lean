/-
  Witnesses for C12: type states in which a recorded constant is not the run-time value.
  (`C12.constant_value` itself needs no side condition; what fails on the unchanged code is the
  preservation of "recorded constants are right" by evaluation.)
-/
import VrlProofs.Witness.C01

namespace C12.W
open Lang Spec C01.W

/-- fixed (`D_del_typing` / `D_const_after_del`; 6af54e3): after `x = {"a": 5}; del(x.a)` the compiler
    still knew `x.a = 5` while at run time `x.a` is `null`; `DelFn::type_info` now drops the constant
    of the variable (and the program passes every side condition of `constants_preserved_partial`) -/
theorem fixed_const_after_del :
    constOf (.qvar "x" [.field [97]]) (typeSeq delVarPrefix T0 {}).2 = none ∧
    (eval (.qvar "x" [.field [97]]) (evalSeq delVarPrefix (st delVarEv)).2).1 = .ok .null ∧
    safeSeq delVarPrefix T0 = true := by
  decide +kernel

/-- `D_const_signed_zero`: `Details::merge` keeps the constant of the branch state when both are
    `==`: `x = 0.0; if .a == 1 { x = -0.0 }` records `-0.0`; with `.a ≠ 1` the value is `0.0` -/
theorem witness_signed_zero :
    constOf (.var "x") (typeSeq signedZeroPrefix T0 {}).2 = some (.float 9223372036854775808) ∧
    (eval (.var "x") (evalSeq signedZeroPrefix (st signedZeroEv)).2).1 = .ok (.float 0) := by
  decide +kernel

/-! ### non-vacuity of `C12.constant_value` -/

set_option maxRecDepth 100000 in
/-- after `x = 5` the compiler knows the constant of `10 / x` … -/
example : constOf (.op .div (.lit (.int 10)) (.var "x"))
    (typeInfo (.asg (.internal "x" []) (.lit (.int 5))) T0).2 = some (.float 4611686018427387904) := by decide +kernel

end C12.W
