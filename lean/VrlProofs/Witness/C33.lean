/-
  C33 — witnesses: the full statement `ProducersSpec` is false of the code (and of its model) in
  its `verify_overwritable` and `Assignment::new` clauses; each witness is replayed on the real
  compiler by the check (`o.c33`, corpus/C33/known.case). The `fixed_…` theorems state the
  behaviour of the lexer (as of /repo 45c5794 and 694e815) on the inputs of the fixed finding classes
  `span:E209:split_char` (called `D_lexer_char_span` in the comments of `VrlModel/Spans.lean` and in
  DESIGN.md), `span:E207:past_end` (there `D_eof_span`) and `span:E207:split_char` (replayed from
  corpus/C33/fixed.case). Finding classes (decidable predicates on the model's inputs) and
  non-vacuity examples for the hypotheses of the `_partial` theorems.
-/
import VrlProofs.Props.C33

namespace C33
open Spans

/-- D_display_mismatch: the source text in front of the target's end is NOT the canonical
    spelling (dot + `Display` text) of the popped segments: escapes (`."é\n\n"`), template strings
    (`."{{x}}"` is displayed `"{{ x }}"`), quoted-but-valid fields, fields without a dot, spaced
    indices. Complement of the hypothesis of `overwritable_wf_partial`. -/
def D_display_mismatch (src : List Nat) (target : Span) (segs : List Seg) : Bool :=
  !canonAtB src target.start target.stop segs.reverse

/-- D_display_longer: the Display texts are even longer than the target text (template strings).
    Complement of the hypothesis of `overwritable_ordered_partial`. -/
def D_display_longer (target : Span) (segs : List Seg) : Bool :=
  !fitsB target.start target.stop segs.reverse

/-- D_nonascii_before_expr: the byte in front of the assigned expression is not ASCII
    (multi-byte white space after `=`). Complement of the hypothesis of `assignmentSpan_wf_partial`. -/
def D_nonascii_before_expr (src : List Nat) (expr : Span) : Bool :=
  match src[expr.start - 1]? with
  | some b => decide (128 ≤ b)
  | none => true

/-- `.a."é\n\n"` (source spelling with two escapes, 11 bytes) -/
def srcSplit : List Nat := [46, 97, 46, 34, 195, 169, 92, 110, 92, 110, 34]
/-- the parsed path: `a`, then the field `é⏎⏎` (4 bytes, Display `"é⏎⏎"` = 6 bytes) -/
def segsSplit : List Seg := [.field [97], .field [195, 169, 10, 10]]

/-- E642 split_char: `.a = 1; .a."é\n\n" = 2` — the kind check fails with one segment left; the
    reported `segment_span` starts at byte 5, the second byte of `é`.
    (real compiler, with the target at offset 7: labels `12-18, 7-11`) -/
theorem witness_split_char :
    WF srcSplit ⟨0, 11⟩ ∧ D_display_mismatch srcSplit ⟨0, 11⟩ segsSplit = true ∧
    verifyOverwritable (fun k => k != 1) ⟨0, 11⟩ segsSplit = some (⟨5, 11⟩, ⟨0, 4⟩) ∧
    ¬ WF srcSplit ⟨5, 11⟩ ∧ clause srcSplit ⟨5, 11⟩ = some "split_char" := by
  decide +kernel

/-- `x = 1⏎x."{{x}}" = 2` (19 bytes); the target `x."{{x}}"` is bytes 6‥15 -/
def srcRev : List Nat :=
  [120, 32, 61, 32, 49, 10, 120, 46, 34, 123, 123, 120, 125, 125, 34, 32, 61, 32, 50]
/-- the parser turns the template string into the field `{{ x }}` (7 bytes; Display 9 bytes,
    one more than the 8 bytes `."{{x}}"` it was written with) -/
def segsRev : List Seg := [.field [123, 123, 32, 120, 32, 125, 125]]

/-- E642 reversed: the reported `parent_span` is `(6, 5)`: start > end.
    (real compiler: labels `6-15, 6-5`) -/
theorem witness_reversed :
    WF srcRev ⟨6, 15⟩ ∧ D_display_longer ⟨6, 15⟩ segsRev = true ∧
    verifyOverwritable (fun k => k != 0) ⟨6, 15⟩ segsRev = some (⟨6, 15⟩, ⟨6, 5⟩) ∧
    ¬ WF srcRev ⟨6, 5⟩ ∧ clause srcRev ⟨6, 5⟩ = some "reversed" := by
  decide +kernel

theorem not_overwritableSpec : ¬ OverwritableSpec := by
  intro h
  obtain ⟨hw, -, hv, hn, -⟩ := witness_split_char
  exact hn (h srcSplit _ _ _ _ hw hv).1

/-- `_=␣1` with U+2003 EM SPACE (3 bytes) between `=` and the expression -/
def srcAssign : List Nat := [95, 61, 226, 128, 131, 49]

/-- E640 / E103 split_char: `assignment_span = (0, 5 − 1)` ends inside the EM SPACE.
    (real compiler: `_=\u{2003}1` → labels `5-6, 0-1, 0-4`) -/
theorem witness_assignment_split_char :
    WF srcAssign ⟨0, 1⟩ ∧ WF srcAssign ⟨5, 6⟩ ∧ D_nonascii_before_expr srcAssign ⟨5, 6⟩ = true ∧
    assignmentSpan ⟨0, 1⟩ ⟨5, 6⟩ = .ok ⟨0, 4⟩ ∧ ¬ WF srcAssign ⟨0, 4⟩ ∧
    clause srcAssign ⟨0, 4⟩ = some "split_char" := by
  decide +kernel

theorem not_assignmentSpec : ¬ AssignmentSpec := by
  intro h
  obtain ⟨ht, he, -, ha, hn, -⟩ := witness_assignment_split_char
  exact hn (h srcAssign _ _ _ ht he (by decide) (by decide) ha)

/-- `"\们` : an invalid escape whose character is 3 bytes long -/
def srcEsc : List Nat := [34, 92, 228, 187, 172]

/-- `span:E209:split_char` (fixed by /repo 45c5794; a label `(2, 3)` would end inside `们`): the
    label is `(2, 2 + len_utf8('们')) = (2, 5)`, well-formed. -/
theorem fixed_lexer_char_span :
    lexFirst srcEsc = some (.error (.escapeChar 2 (some 20204))) ∧
    (LexErr.escapeChar 2 (some 20204)).label = ⟨2, 5⟩ ∧
    WF srcEsc (LexErr.escapeChar 2 (some 20204)).label ∧
    clause srcEsc (LexErr.escapeChar 2 (some 20204)).label = none := by
  decide +kernel

/-- `[ "` : a string opened inside a delimited region of a query, at the end of input -/
def srcEof : List Nat := [91, 32, 34]

/-- `span:E207:past_end` (fixed by /repo 694e815; a label `(3, 4)` would lie past the 3-byte source):
    the nested lexer's "unterminated string" is reported at the opening quote, `(2, 3)`. -/
theorem fixed_eof_span :
    lexFirst srcEof = some (.error (.stringLiteral 2)) ∧
    WF srcEof (LexErr.stringLiteral 2).label ∧
    clause srcEof (LexErr.stringLiteral 2).label = none := by
  decide +kernel

/-- `[ "é` : same producer, the byte after the quote starts a 2-byte character -/
def srcNested : List Nat := [91, 32, 34, 195, 169]

/-- `span:E207:split_char` (fixed by /repo 694e815; a label `(3, 4)` would end inside `é`): `(2, 3)`. -/
theorem fixed_nested_split_char :
    lexFirst srcNested = some (.error (.stringLiteral 2)) ∧
    WF srcNested (LexErr.stringLiteral 2).label ∧
    clause srcNested (LexErr.stringLiteral 2).label = none := by
  decide +kernel

/-- `[ "\们` : a multi-byte invalid escape found by the nested lexer is shifted by `pos + 1` and
    covers the whole character: `(4, 7)`. -/
theorem fixed_nested_escape :
    lexFirst [91, 32, 34, 92, 228, 187, 172] = some (.error (.escapeChar 4 (some 20204))) ∧
    WF [91, 32, 34, 92, 228, 187, 172] (LexErr.escapeChar 4 (some 20204)).label := by
  decide +kernel

theorem not_producersSpec : ¬ ProducersSpec := fun h => not_overwritableSpec h.1

/-! ## non-vacuity of the `_partial` theorems -/

/-- `.a = 1; .a."b c"[10].d = 2`-style target in canonical spelling: `x."b c"[10].d` -/
def srcCanon : List Nat := [59, 120, 46, 34, 98, 32, 99, 34, 91, 49, 48, 93, 46, 100, 32, 61]
def segsCanon : List Seg := [.field [98, 32, 99], .index 10, .field [100]]

example : WF srcCanon ⟨1, 14⟩ ∧ canonAtB srcCanon 1 14 segsCanon.reverse = true ∧
    fitsB 1 14 segsCanon.reverse = true ∧
    verifyOverwritable (fun k => k != 2) ⟨1, 14⟩ segsCanon = some (⟨13, 14⟩, ⟨1, 12⟩) ∧
    verifyOverwritable (fun k => k != 0) ⟨1, 14⟩ segsCanon = some (⟨3, 8⟩, ⟨1, 2⟩) := by
  decide +kernel

/-- a spelling with escapes is longer than the Display text: `fits_of_spelling` applies to
    `.a."é\n\n"` (spelled 9 and 2 bytes, from the back) although `canonAtB` does not hold. -/
example : (∀ p ∈ [(Seg.field [195, 169, 10, 10], 9), (Seg.field [97], 2)],
      displayLen p.1 + dotLen p.1 ≤ p.2) ∧
    0 + ([(Seg.field [195, 169, 10, 10], 9), (Seg.field [97], 2)].map Prod.snd).sum ≤ 11 := by
  decide +kernel

/-- `x = 1` : target `x` (0,1), expression at 4, the byte before it is a space -/
example : WF [120, 32, 61, 32, 49] ⟨0, 1⟩ ∧ ([120, 32, 61, 32, 49] : List Nat)[4 - 1]? = some 32 ∧
    assignmentSpan ⟨0, 1⟩ ⟨4, 5⟩ = .ok ⟨0, 3⟩ ∧ WF [120, 32, 61, 32, 49] ⟨0, 3⟩ := by
  decide +kernel

/-- `"a\q` : an ASCII source with a lexer error, label `(3, 4)` well-formed -/
example : (∀ b ∈ [34, 97, 92, 113], b < 128) ∧
    lexStringAt0 [34, 97, 92, 113] = .error (.escapeChar 3 (some 113)) ∧
    WF [34, 97, 92, 113] (LexErr.escapeChar 3 (some 113)).label := by
  decide +kernel

/-- `"é\q` : a non-ASCII UTF-8 source with a lexer error (hypotheses of `lex_string_wf_utf8`) -/
example : wfUtf8 [34, 195, 169, 92, 113] = true ∧
    lexStringAt0 [34, 195, 169, 92, 113] = .error (.escapeChar 4 (some 113)) ∧
    WF [34, 195, 169, 92, 113] (LexErr.escapeChar 4 (some 113)).label := by
  decide +kernel

/-- `[ "\q` : the nested lexer reports an ASCII escape error: label `(4, 5)` is WF
    (hypotheses of `lex_nested_wf`) -/
example : lexFirst [91, 32, 34, 92, 113] = some (.error (.escapeChar 4 (some 113))) ∧
    ([91, 32, 34, 92, 113] : List Nat)[2]? = some 34 ∧
    wfUtf8 (([91, 32, 34, 92, 113] : List Nat).drop 3) = true ∧
    WF [91, 32, 34, 92, 113] (LexErr.escapeChar 4 (some 113)).label := by
  decide +kernel

/-- `wfUtf8` accepts real UTF-8 (1- to 4-byte characters) and rejects overlong / truncated /
    stray-continuation input -/
example : wfUtf8 [97, 195, 169, 228, 187, 172, 240, 159, 152, 128] = true ∧
    wfUtf8 [192, 128] = false ∧ wfUtf8 [224, 128, 128] = false ∧ wfUtf8 [195] = false ∧
    wfUtf8 [169] = false := by
  decide +kernel

/-- `s'ab` : unterminated raw string -/
example : lexFirst [115, 39, 97, 98] = some (.error (.literal 0)) := by decide +kernel

end C33
