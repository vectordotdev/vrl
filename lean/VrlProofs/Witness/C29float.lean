/-
  C29 (float part) — witnesses of the known findings on concrete bit patterns, evaluated by the
  kernel (`decide +kernel`: the soft-float uses `Nat.log2`/`Nat.pow`, which the kernel computes with
  its built-in bignum arithmetic), and non-vacuity examples.
  The multiplier is the value `10f64.powf(p as f64)` has on the implementation (libm is a parameter
  of the model; the correspondence run passes the same bits):
      powf(400) = +∞ = 0x7ff0000000000000      powf(-400) = 0
      powf(10)  = 1e10 = 0x4202a05f20000000    powf(9) = 1e9 = 0x41cdcd6500000000
-/
import VrlProofs.Props.C29float

namespace C29f
open F64 Round

def x_1_5e300 : Nat := 0x7e41eb2d66005835
def x_1e300 : Nat := 0x7e37e43c8800759c
def x_123 : Nat := 0x405ec00000000000
def e10Bits : Nat := 0x4202a05f20000000
/-- −6630686.7451171875 -/
def x_ceil : Nat := 0xc1594b47afb00000
/-- −7799889.7041015625 -/
def x_floor : Nat := 0xc15dc1146d100000

def run (m10 : Nat) (x : Nat) : Obs :=
  ⟨orZero (roundToPrecision m10 .round x), orZero (roundToPrecision m10 .ceil x),
   orZero (roundToPrecision m10 .floor x)⟩

/-- `round:D_overflow_mult` — `round(1.5e300, 400) = 0.0` (`∞/∞ → NaN → 0`). -/
theorem witness_overflow_zero :
    roundFn .round (fun _ => infBits) (.float x_1_5e300) (some (.int 400)) = .ok (.float 0) ∧
    spec x_1_5e300 400 (run infBits x_1_5e300) = false ∧
    classify x_1_5e300 400 infBits = .overflowMult := by decide +kernel

/-- `round:D_overflow_mult` — `round(1e300, 10) = +∞` for a finite input. -/
theorem witness_overflow_inf :
    roundFn .round (fun _ => e10Bits) (.float x_1e300) (some (.int 10)) = .ok (.float infBits) ∧
    spec x_1e300 10 (run e10Bits x_1e300) = false ∧
    classify x_1e300 10 e10Bits = .overflowMult := by decide +kernel

/-- `round:D_underflow_mult` — `ceil(123.0, -400) = 0.0 < 123.0`. -/
theorem witness_underflow :
    roundFn .ceil (fun _ => 0) (.float x_123) (some (.int (-400))) = .ok (.float 0) ∧
    le x_123 0 = false ∧
    spec x_123 (-400) (run 0 x_123) = false ∧
    classify x_123 (-400) 0 = .underflowMult := by decide +kernel

/-- `round:D_product_rounding` — `ceil(-6630686.7451171875, 9)` is one ulp *below* its input:
    `x·1e9 ≈ −6.6e15 ≥ 2^52` is rounded to an integer by the multiplication already. -/
theorem witness_ceil_below :
    roundFn .ceil (fun _ => e9Bits) (.float x_ceil) (some (.int 9)) = .ok (.float 0xc1594b47afb00001) ∧
    le x_ceil 0xc1594b47afb00001 = false ∧
    spec x_ceil 9 (run e9Bits x_ceil) = false ∧
    classify x_ceil 9 e9Bits = .productRounding := by decide +kernel

/-- `round:D_product_rounding` — `floor(-7799889.7041015625, 9)` is one ulp *above* its input. -/
theorem witness_floor_above :
    roundFn .floor (fun _ => e9Bits) (.float x_floor) (some (.int 9)) = .ok (.float 0xc15dc1146d0fffff) ∧
    le 0xc15dc1146d0fffff x_floor = false ∧
    spec x_floor 9 (run e9Bits x_floor) = false ∧
    classify x_floor 9 e9Bits = .productRounding := by decide +kernel

/-- the statement is satisfiable in class `none`, which needs an exact product: `x = 2.5`,
    `precision = 0` gives `round = 3`, `ceil = 3`, `floor = 2`. -/
example : spec 0x4004000000000000 0 (run oneBits 0x4004000000000000) = true ∧
    classify 0x4004000000000000 0 oneBits = .none ∧
    run oneBits 0x4004000000000000 = ⟨0x4008000000000000, 0x4008000000000000, 0x4000000000000000⟩ := by
  decide +kernel

/-- also `x = 1234.5678`, `precision = 2` (`round = 1234.57`, `ceil = 1234.57`,
    `floor = 1234.56`). -/
example : spec 0x40934a456d5cfaad 2 (run 0x4059000000000000 0x40934a456d5cfaad) = true := by decide +kernel

/-- `round` is half away from zero, the sign of zero survives: `round(-0.4) = -0.0`, `round(-2.5) = -3`. -/
example : rint .round 0xbfd999999999999a = 0x8000000000000000 ∧ rint .round 0xc004000000000000 = 0xc008000000000000 := by
  decide +kernel

/-- exact layer, instance: `x = 1234.5678 = 6172839/5000`, `p = 2` (`s = 100`, `t = 1`):
    `floor(x·100) = 123456`, `ceil = 123457`, `round = 123457`. -/
example : (6172839 * 100 : Int) / ((5000 * 1 : Nat) : Int) = 123456 ∧ roundDiv (6172839 * 100) (5000 * 1) = 123457 := by
  decide

end C29f
