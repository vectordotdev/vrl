/-
  C10 — witnesses and non-vacuity examples.
  The full statement "integer equality is exact / exactly one of < == >" is FALSE of `eq_lossy` as
  it was before commit dfcd6fd (`Arith.eqLossy`, behind `observe`): it compares two integers after
  `as f64`.  Finding class `D_eq_lossy` (VrlModel/C10.lean), replayed on the implementation by
  `o.c10` (corpus/C10/known.case).  `observeFixed` answers with `Arith.eqFixed`, the function since
  dfcd6fd.
-/
import VrlProofs.Props.C10

namespace C10
open Arith

/-- `9007199254740993 == 9007199254740992` is `true` while `>` is `true` as well:
    the pair is in the class, `==` is not exact, trichotomy fails. -/
theorem int_eq_lossy_witness :
    D_eq_lossy 9007199254740993 9007199254740992 = true ∧
    (observe (.int 9007199254740993) (.int 9007199254740992)).eq = some true ∧
    (observe (.int 9007199254740993) (.int 9007199254740992)).gt = some true ∧
    consistent (observe (.int 9007199254740993) (.int 9007199254740992)) = false ∧
    (observe (.int 9007199254740993) (.int 9007199254740992)).eq
      ≠ some (decide ((9007199254740993 : Int) = 9007199254740992)) := by
  decide +kernel

/-- the same pair with `eq_lossy` as it is since /repo dfcd6fd: `==` is `false`, the six answers are
    consistent. -/
theorem int_eq_fixed_witness :
    (observeFixed (.int 9007199254740993) (.int 9007199254740992)).eq = some false ∧
    consistent (observeFixed (.int 9007199254740993) (.int 9007199254740992)) = true := by
  decide +kernel

/-- the class is also inhabited at the edge of `i64`: `i64::MAX == i64::MAX - 1`. -/
theorem int_eq_lossy_witness_max :
    D_eq_lossy 9223372036854775807 9223372036854775806 = true ∧
    (observe (.int 9223372036854775807) (.int 9223372036854775806)).eq = some true := by
  decide +kernel

/-- quirk recorded with the model: inside containers integers ARE compared exactly
    (`[9007199254740993] == [9007199254740992]` is `false`), and `[1] == [1.0]` is `false`
    although `1 == 1.0` is `true`. -/
theorem container_int_exact_witness :
    eqLossy (.arr (.cons (.int 9007199254740993) .nil)) (.arr (.cons (.int 9007199254740992) .nil)) = false ∧
    eqLossy (.arr (.cons (.int 1) .nil)) (.arr (.cons (.float 4607182418800017408) .nil)) = false ∧
    eqLossy (.int 1) (.float 4607182418800017408) = true := by
  decide +kernel

/-! non-vacuity of the hypotheses used in Props/C10.lean -/

example : D_eq_lossy 5 7 = false ∧ D_eq_lossy (-9223372036854775808) 9223372036854775807 = false := by decide
example : floatOK 0 ∧ floatOK 9223372036854775808 ∧ floatOK 9218868437227405312 ∧ floatOK 1 := by decide
/-- `[0.0, {"k": -0.0}]` satisfies `floatsOK` and is a container -/
example : floatsOK (.arr (.cons (.float 0) (.cons (.obj (.cons [107] (.float 9223372036854775808) .nil)) .nil))) = true ∧
    isContainer (.arr .nil) = true := by decide
example : comparable (.int 1) (.float 0) = true ∧ comparable (.bytes [97]) (.bytes []) = true := by decide
/-- `[0.0] == [-0.0]` is structurally equal, `[1] == [2]` is not -/
example : structEq (.arr (.cons (.float 0) .nil)) (.arr (.cons (.float 9223372036854775808) .nil)) = true ∧
    structEq (.arr (.cons (.int 1) .nil)) (.arr (.cons (.int 2) .nil)) = false := by decide

end C10
