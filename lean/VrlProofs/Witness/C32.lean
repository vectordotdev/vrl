/-
  C32 — witnesses of the finding classes and non-vacuity examples of the theorems' hypotheses.
-/
import VrlProofs.Props.C32

namespace C32
open Grok Rx

/-- primitives that decline everything: enough wherever no float literal / case mapping occurs. -/
def P0 : Prims := ⟨fun _ => none, fun _ => none, fun _ => none⟩

/-! ### finding `capture:D_name_order` -/

/-- with twelve captures the `BTreeMap` order of the generated names is not the rule order:
    `grok10` and `grok11` come before `grok2`. -/
theorem witness_name_order :
    (patternNames [] ((List.range 12).map grokName)).map Prod.fst
      = [0, 1, 10, 11, 2, 3, 4, 5, 6, 7, 8, 9].map grokName := by decide +kernel

/-- twelve captures `%{d:x}` of one character each -/
def rule12 : Str :=
  cs!"%{d:x}%{d:x}%{d:x}%{d:x}%{d:x}%{d:x}%{d:x}%{d:x}%{d:x}%{d:x}%{d:x}%{d:x}"
def aliasesD : List (Str × Str) := [(cs!"d", cs!"[0-9a-z]")]

def bytesOfChar (c : Char) : Value := .bytes [c.toNat]
def arrOf (cs : Str) : VList := cs.foldr (fun c acc => .cons (bytesOfChar c) acc) .nil

/-- the same on the whole model (reference engine): the twelve captures of `rule12` on
    `0123456789ab` collect `x = [0, 1, a, b, 2, …, 9]`, whereas the Spec (`expected`, rule order)
    is `[0, 1, 2, …, 9, a, b]`. -/
theorem witness_name_order_model :
    (match compileRule P0 Rx.refEngine [] aliasesD rule12 with
     | .ok r => applyRule P0 Rx.refEngine r cs!"0123456789ab"
     | _ => .oom)
      = .ok (.matched (.obj (.cons [120] (.arr (arrOf cs!"01ab23456789")) .nil)) 0) := by
  decide +kernel

/-! ### finding `anchor:D_unguarded_alt` -/

/-- the rule `a|b` matches `ax`: the alternation splits `\A` from `\z`. -/
theorem witness_unguarded_alt :
    (match compileRule P0 Rx.refEngine [] [] cs!"a|b" with
     | .ok r => applyRule P0 Rx.refEngine r cs!"ax"
     | _ => .oom) = .ok (.matched (.obj .nil) 0)
    ∧ D_unguarded_alt [] [.text cs!"a|b"] = true := by
  decide +kernel

/-- the same through an alias used without a destination: `x%{ab}y` with `ab = a|b` matches `xa`,
    whereas the grouped ("corresponding") expression `\A(?:x(?:a|b)y)\z` does not. -/
theorem witness_unguarded_alt_alias :
    (match compileRule P0 Rx.refEngine [] [(cs!"ab", cs!"a|b")] cs!"x%{ab}y" with
     | .ok r => applyRule P0 Rx.refEngine r cs!"xa"
     | _ => .oom) = .ok (.matched (.obj .nil) 0)
    ∧ (match Rx.parse (groupedSource [(cs!"ab", cs!"a|b")] [.text cs!"x", .ph cs!"ab" none, .text cs!"y"]) with
       | .ok re => (Rx.search re cs!"xa").isSome
       | .error _ => true) = false := by
  decide +kernel

/-! ### fixed finding `filter:D_scale_nan_panic` (/repo 9867014: `FailedToApplyFilter`) -/

/-- `scale` fails whenever the captured text parses to NaN. -/
theorem fixed_scale_nan (P : Prims) (s : Str) (x k : Nat) (hp : P.parseF64 s = some (some x))
    (hx : F64.isNaN x = true) : applyFilter P (.str s) (.scale k) = .failed := by
  simp only [applyFilter, hp, hx, ↓reduceIte, scaleBy]

/-- `scale` fails whenever the product is NaN: `inf` scaled by 0. -/
theorem fixed_scale_inf_zero (P : Prims) (s : Str)
    (hp : P.parseF64 s = some (some F64.infBits)) : applyFilter P (.str s) (.scale 0) = .failed := by
  have : F64.isNaN F64.infBits = false := by decide +kernel
  simp only [applyFilter, hp, this]
  decide +kernel

theorem scaleBy_no_panic (k : Nat) (x : Option Nat) : scaleBy k x ≠ .panic := by
  fun_cases scaleBy k x <;> nofun

theorem applyFilter_no_panic (P : Prims) (v : SV) (f : Filter) : applyFilter P v f ≠ .panic := by
  fun_cases applyFilter P v f <;> first | exact scaleBy_no_panic _ _ | nofun

/-! ### fixed finding `compile:D_nullif_noargs_panic` (/repo 8d0dd9b: `InvalidFunctionArguments`) -/

theorem fixed_nullif_noargs :
    ruleSource P0 [(cs!"d", cs!"[a-z]+")] cs!"%{d:x:nullIf()}" = .err .invalidArgs := by decide +kernel

/-! ### non-vacuity -/

/-- the aliases and (`ruleDW`) the text of a flat rule in concrete syntax; the examples below give its
    reading and the source `flat_rule_source` yields. -/
def aliasesDW : List (Str × Str) := [(cs!"d", cs!"[0-9]+"), (cs!"w", cs!"[a-z]+")]
def ruleDW : Str := cs!"a\\.%{d:n:integer}-%{w}=%{w:s}"

example : ReadsAs P0 aliasesDW ruleDW
    [.text cs!"a\\.", .cap cs!"[0-9]+" [cs!"n"] [.integer], .text cs!"-", .ref cs!"[a-z]+", .text cs!"=",
     .cap cs!"[a-z]+" [cs!"s"] [], .text []] := by
  have hseg : seg ruleDW = [.text cs!"a\\.", .ph cs!"%{d:n:integer}", .text cs!"-", .ph cs!"%{w}",
      .text cs!"=", .ph cs!"%{w:s}", .text []] := by decide +kernel
  -- `Except` has no decidable equality: the three placeholders are compared as options
  have ok {x : Except PhErr Pat} {p : Pat} (h : x.toOption = some p) : x = .ok p := by
    cases x <;> simp_all [Except.toOption]
  unfold ReadsAs
  rw [hseg]
  refine .cons (.text _) (.cons (.capF (fn := ⟨cs!"d", none⟩) (f := ⟨cs!"integer", none⟩) (ok ?_) ?_ ?_ ?_)
    (.cons (.text _) (.cons (.ref (fn := ⟨cs!"w", none⟩) (ok ?_) ?_ ?_) (.cons (.text _)
    (.cons (.cap (fn := ⟨cs!"w", none⟩) (ok ?_) ?_ ?_) (.cons (.text _) .nil))))))
  all_goals decide +kernel

example : ruleSource P0 aliasesDW ruleDW
    = .ok (cs!"(?m)\\Aa\\.(?<grok0>[0-9]+)-[a-z]+=(?<grok1>[a-z]+)\\z",
           [(0, ⟨[cs!"n"], [.integer]⟩), (1, ⟨[cs!"s"], []⟩)]) := by decide +kernel

/-- the hypotheses of `flat_rule_captures` hold together on this rule for the reference engine (group
    names in order, numbered fields), and the match result is the Spec's object. -/
example : (match compileRule P0 Rx.refEngine [] aliasesDW ruleDW with
     | .ok r => (r.names, r.fields.length, applyRule P0 Rx.refEngine r cs!"a.12-xy=z")
     | _ => ([], 0, .oom))
    = (patternNames [] ((List.range 2).map grokName), 2,
       .ok (.matched (.obj (.cons [110] (.int 12) (.cons [115] (.bytes [122]) .nil))) 0)) := by
  decide +kernel

/-- a cyclic definition set: rejected, and the reported alias is the first of the walk. -/
example : ruleSource P0 [(cs!"a", cs!"%{b}"), (cs!"b", cs!"x%{c}"), (cs!"c", cs!"%{b}")] cs!"%{a}"
    = .err (.circular cs!"a") := by decide +kernel

example : cycleReachable P0 [(cs!"a", cs!"%{b}"), (cs!"b", cs!"x%{c}"), (cs!"c", cs!"%{b}")] cs!"%{a}" = true := by
  decide +kernel

/-- an acyclic (shared, diamond-shaped) definition set is accepted. -/
example : ruleSource P0 [(cs!"a", cs!"%{b}%{c}"), (cs!"b", cs!"%{c}"), (cs!"c", cs!"z")] cs!"%{a}-%{c}"
    = .ok (cs!"(?m)\\Azz-z\\z", []) := by decide +kernel

/-- the literal theorem on a text made of metacharacters only. -/
example : ∃ r, compileRule P0 Rx.refEngine [] [] (esc cs!".*+?()[]{}^$|\\/") = .ok r ∧
    applyRule P0 Rx.refEngine r cs!".*+?()[]{}^$|\\/" = .ok (.matched (.obj .nil) 0) := by
  have := literal_rule_ref P0 [] [] cs!".*+?()[]{}^$|\\/" cs!".*+?()[]{}^$|\\/"
  simpa using this

/-- hypotheses of `captures_in_rule_order_partial` / `flat_rule_captures` hold for the fields of a flat rule. -/
example : Numbered (specFrom 0 [.cap cs!"[0-9]+" [cs!"n"] [.integer], .text cs!"-", .cap cs!"x" [cs!"m"] []]).2 :=
  specFrom_numbered _

end C32
