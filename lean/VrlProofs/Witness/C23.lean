/-
  C23 — witnesses and non-vacuity.

  * `toyPrims` / `toyIpPrims` satisfy the hypotheses `Prims.Lawful`, `Prims.EncTotal`,
    `IpPrims.Lawful` of the C23 theorems, so those theorems are not vacuous.
  * One witness per finding class of `ip_roundtrip_partial`: the round trip fails inside the model
    exactly where that theorem stops. The same inputs are replayed on the implementation
    (corpus/C23/known.case, KNOWN_FINDINGS.jsonl).
  * `witness_aead_reject`: an input of the class `D_aead_reject` (a ciphertext the AEAD rejects)
    is an error, not a panic.
-/
import VrlProofs.Props.C23

namespace C23
open Crypt

theorem toyPrims_lawful : toyPrims.Lawful where
  cfb_rt := by intros; rfl
  cfb_len := by intros; rfl
  keystream_rt := by rintro _ _ _ _ _ _ _ _ ⟨⟩; rfl
  keystream_len := by rintro _ _ _ _ _ _ _ _ ⟨⟩; rfl
  cbc_rt := by intros; rfl
  cbc_len := by intros; rfl
  aead_rt := by
    rintro _ _ _ p _ _ _ _ ⟨⟩
    have hl : (p ++ List.replicate 16 0).length - 16 = p.length := by simp
    simp only [toyPrims, hl, List.drop_left, List.take_left]
    simp
  aead_len := by rintro _ _ _ _ _ _ _ _ ⟨⟩; simp

theorem toyPrims_encTotal : toyPrims.EncTotal where
  keystream_some := by intros; simp [toyPrims]
  aead_some := by intros; simp [toyPrims]

theorem toyIpPrims_lawful : toyIpPrims.Lawful where
  parse_show := by
    intro ip hw
    cases ip <;> simp_all [toyIpPrims, toyParseIp, toyShowIp, Ip.WF]
  aes_rt := by intros; simp [toyIpPrims]
  aes_len := by intro k b _ hb; simpa [toyIpPrims] using hb
  pfx_rt := by
    intro k v b _ hb hv
    cases v with
    | false => simp [toyIpPrims]
    | true =>
      have h12 : (b.take 12).length = 12 := by simp [hb]
      simp only [toyIpPrims, if_true]
      rw [List.drop_left' h12, List.reverse_reverse, ← (isV4Form_iff b).mp (hv rfl),
        List.take_append_drop]
  pfx_len := by
    intro k v b _ hb
    cases v <;> simp [toyIpPrims, hb]
  pfx_keep4 := by
    intro k b _ hb hv
    have h12 : (b.take 12).length = 12 := by simp [hb]
    rw [isV4Form_iff] at hv ⊢
    simp only [toyIpPrims, if_true]
    rw [List.take_left' h12, hv]

/-- non-vacuity of `roundtrip`: a concrete algorithm name, key, IV and plaintext meet its hypotheses. -/
example : ∃ c, encrypt toyPrims
      [65,69,83,45,49,50,56,45,67,66,67,45,73,83,79,55,56,49,54]   -- "AES-128-CBC-ISO7816"
      (List.replicate 16 7) (List.replicate 16 9) [1, 2, 3] = .ok c ∧
    c.length = 16 ∧
    decrypt toyPrims [65,69,83,45,49,50,56,45,67,66,67,45,73,83,79,55,56,49,54]
      (List.replicate 16 7) (List.replicate 16 9) c = .ok [1, 2, 3] :=
  roundtrip toyPrims toyPrims_lawful toyPrims_encTotal _ _ _ _ (.cbc .k128 .iso7816) (by decide +kernel)
    rfl rfl

/-- non-vacuity of `ip_roundtrip_partial`: 2001:db8::1 in pfx mode with a key of distinct halves. -/
example : ∃ c, encryptIp toyIpPrims (54 :: [32,1,13,184,0,0,0,0,0,0,0,0,0,0,0,1])
      (List.replicate 16 1 ++ List.replicate 16 2) [112, 102, 120] = .ok c ∧
    decryptIp toyIpPrims c (List.replicate 16 1 ++ List.replicate 16 2) [112, 102, 120]
      = .ok (toyShowIp (.v6 [32,1,13,184,0,0,0,0,0,0,0,0,0,0,0,1])) :=
  ip_roundtrip_partial toyIpPrims toyIpPrims_lawful _ _ _ (.v6 [32,1,13,184,0,0,0,0,0,0,0,0,0,0,0,1]) .pfx
    rfl rfl rfl rfl rfl (by decide +kernel) (by decide +kernel)

/-- ASCII lower-casing (only used to state the next theorem). -/
def asciiLower (n : Bytes) : Bytes := n.map fun b => if 65 ≤ b ∧ b ≤ 90 then b + 32 else b

/-- `upperModel` (the executable stand-in for `from_utf8_lossy + to_uppercase`) leaves every listed
    name unchanged and maps its lower-case spelling to it: names are matched case-insensitively. -/
theorem upperModel_names :
    ∀ n ∈ encryptArms.flatMap (·.1), upperModel n = n ∧ upperModel (asciiLower n) = n := by
  decide +kernel

/-- `aes-128-ſıv` (long s, dotless i) is accepted as AES-128-SIV; the Kelvin sign is not a `K`. -/
theorem upperModel_unicode :
    algOfEncrypt (upperModel [97,101,115,45,49,50,56,45,0xC5,0xBF,0xC4,0xB1,118]) = some .siv128 ∧
    algOfEncrypt (upperModel [65,69,83,45,49,50,56,45,67,66,67,45,80,0xE2,0x84,0xAA,67,83,55]) = none := by
  decide +kernel

/-! ## `D_aead_reject`: a ciphertext the AEAD rejects is the error "Invalid input" -/

/-- concrete: `decrypt!("", "aes-128-siv", <32-byte key>, <16-byte iv>)` is an error. -/
theorem witness_aead_reject :
    decryptFn toyPrims [97,101,115,45,49,50,56,45,115,105,118] (List.replicate 32 0) (List.replicate 16 0) []
      = .err .invalidInput := by
  decide +kernel

/-! ## `D_v4mapped`: an IPv4-mapped IPv6 address comes back as the IPv4 address -/

/-- for every lawful choice of primitives, in AES-128 mode `::ffff:a.b.c.d` decrypts to `a.b.c.d`. -/
theorem v4mapped_returns_v4 (P : IpPrims) (hL : P.Lawful) (t k o : Bytes)
    (hp : P.parseIp t = some (.v6 (v4Prefix ++ o))) (ho : o.length = 4) (hk : k.length = 16) :
    ∃ c, encryptIp P t k [97, 101, 115, 49, 50, 56] = .ok c ∧
      decryptIp P c k [97, 101, 115, 49, 50, 56] = .ok (P.showIp (.v4 o)) := by
  have hw : (Ip.v6 (v4Prefix ++ o)).WF := by simp [Ip.WF, ho, v4Prefix_length]
  refine ⟨_, encryptIp_ok (md := .aes128) hp rfl hk rfl, ?_⟩
  rw [decryptIp_ok (hL.parse_show _ (encIp_WF hL hw hk)) rfl hk rfl]
  congr 2
  show bytesToIp (P.aesDec k (ipToBytes (bytesToIp (P.aesEnc k _)))) = _
  rw [ipToBytes_bytesToIp, hL.aes_rt k _ hk (ipToBytes_length _ hw),
    bytesToIp_ipToBytes_mapped _ (isV4Form_v4 o), List.drop_left' v4Prefix_length]

/-- concrete (`::ffff:1.2.3.4`, both modes): the round trip returns a different address. -/
theorem witness_v4mapped :
    D_v4mapped (.v6 (v4Prefix ++ [1, 2, 3, 4])) = true ∧
    (∀ c, encryptIp toyIpPrims (toyShowIp (.v6 (v4Prefix ++ [1, 2, 3, 4]))) (List.replicate 16 1)
        [97, 101, 115, 49, 50, 56] = .ok c →
      decryptIp toyIpPrims c (List.replicate 16 1) [97, 101, 115, 49, 50, 56]
        = .ok (toyShowIp (.v4 [1, 2, 3, 4]))) ∧
    (∀ c, encryptIp toyIpPrims (toyShowIp (.v6 (v4Prefix ++ [1, 2, 3, 4])))
        (List.replicate 16 1 ++ List.replicate 16 2) [112, 102, 120] = .ok c →
      decryptIp toyIpPrims c (List.replicate 16 1 ++ List.replicate 16 2) [112, 102, 120]
        = .ok (toyShowIp (.v4 [1, 2, 3, 4]))) := by
  refine ⟨by decide, fun c hc => ?_, fun c hc => ?_⟩ <;>
  · -- the encryption evaluates to `.ok` of some text, which `c` therefore is
    cases Res.ok.inj (hc.symm.trans rfl)
    decide

/-! ## `D_pfx_equal_halves`: a pfx key with equal halves is rejected (`IpcryptPfx::new` would assert that they differ) -/

/-- for every choice of primitives: a parsable address and a 32-byte key whose halves are equal
    are rejected by `encrypt_ip` and `decrypt_ip` in pfx mode with an error; despite the name
    nothing panics, the call does not reach the assertion in `IpcryptPfx::new`. -/
theorem pfx_equal_halves_panics (P : IpPrims) (t k : Bytes) (ip : Ip)
    (hp : P.parseIp t = some ip) (hk : k.length = 32) (hh : k.take 16 = k.drop 16) :
    encryptIp P t k [112, 102, 120] = .err .pfxHalves ∧ decryptIp P t k [112, 102, 120] = .err .pfxHalves := by
  have hpn : pfxKeyPanics k = true := by simp [pfxKeyPanics, hh]
  have he : encryptIp P t k [112, 102, 120] = .err .pfxHalves := by
    simp [encryptIp, hp, modeOf, hk, hpn]
  exact ⟨he, ((ip_checks_agree P t k _).1 _).mp he⟩

theorem witness_pfx_equal_halves :
    D_pfx_equal_halves .pfx (List.replicate 32 7) = true ∧
    encryptIp toyIpPrims (toyShowIp (.v4 [1, 2, 3, 4])) (List.replicate 32 7) [112, 102, 120] = .err .pfxHalves := by
  decide +kernel

/-! ## `D_pfx_v4form`: a pfx ciphertext in `::ffff:0:0/96` is printed, and then decrypted, as IPv4 -/

/-- the IPv6 address `403:201:ffff::` under the toy cipher (which reverses the bytes): the
    ciphertext is `::ffff:1.2.3.4`, printed as `1.2.3.4`, and `decrypt_ip` of that is the IPv4
    address `4.3.2.1`, not the input. The round-trip laws of the primitives all hold. -/
theorem witness_pfx_v4form :
    let ip : Ip := .v6 [4, 3, 2, 1, 255, 255, 0, 0, 0, 0, 0, 0, 0, 0, 0, 0]
    let key := List.replicate 16 1 ++ List.replicate 16 2
    D_v4mapped ip = false ∧ D_pfx_equal_halves .pfx key = false ∧
    D_pfx_v4form .pfx ip (pfxIpEnc toyIpPrims key ip) = true ∧
    encryptIp toyIpPrims (toyShowIp ip) key [112, 102, 120] = .ok (toyShowIp (.v4 [1, 2, 3, 4])) ∧
    decryptIp toyIpPrims (toyShowIp (.v4 [1, 2, 3, 4])) key [112, 102, 120]
      = .ok (toyShowIp (.v4 [4, 3, 2, 1])) := by
  decide +kernel

/-- hence the full-strength statement (no side conditions) is false of the model even for lawful
    primitives. -/
theorem ip_roundtrip_full_false :
    ¬ (∀ (P : IpPrims), P.Lawful → ∀ (t k m : Bytes) (ip : Ip) (md : Mode),
        P.parseIp t = some ip → ip.WF → modeOf m = some md → k.length = md.keyLen →
        ∃ c, encryptIp P t k m = .ok c ∧ decryptIp P c k m = .ok (P.showIp ip)) := by
  intro h
  obtain ⟨c, hc, hd⟩ := h toyIpPrims toyIpPrims_lawful
    (toyShowIp (.v6 [4, 3, 2, 1, 255, 255, 0, 0, 0, 0, 0, 0, 0, 0, 0, 0]))
    (List.replicate 16 1 ++ List.replicate 16 2) [112, 102, 120]
    (.v6 [4, 3, 2, 1, 255, 255, 0, 0, 0, 0, 0, 0, 0, 0, 0, 0]) .pfx rfl rfl rfl rfl
  have hw := witness_pfx_v4form
  simp only at hw
  rw [hw.2.2.2.1] at hc
  cases hc
  rw [hw.2.2.2.2] at hd
  exact absurd hd (by decide)

end C23
