/-
  C32 — Grok rules match and capture faithfully. Model:
  VrlModel/Grok.lean (parse_grok_rules.rs, grok.rs, grok_filter.rs, parse_grok.rs), reference matcher:
  VrlModel/GrokRegex.lean, Spec definitions: VrlModel/C32.lean. The regex engine (onig), Rust's
  float parsing / case mapping and the built-in pattern library are parameters (`Engine`, `Prims`,
  `lib`); "onig agrees with the reference matcher on the generated subset" is the hypothesis
  `AgreesOn E src`, sampled by the `c32.*` correspondence ops, never an axiom.
-/
import VrlProofs.Lemmas.C32
import VrlProofs.Lemmas.C32Cycle
import VrlProofs.Lemmas.C32Source
import VrlProofs.Lemmas.C32Match

namespace C32
open Grok Rx

/-! ## (i) alias resolution terminates and rejects exactly the reachable cycles

  `parse_grok_rule` expands alias definitions depth first; `alias_stack` (`Ctx.stack`) is the path
  from the rule to the definition being expanded. `Walk P aliases text w` is a walk `w` of the
  reference graph that starts at a placeholder of `text`; `HasCycleFrom` = some walk repeats a name. -/

/-- invariant of a successful expansion from the stack `c.stack`: every walk that starts in the
    expanded text avoids the stack and never repeats a name. -/
theorem expansion_ok_walks (P : Prims) (aliases : List (Str × Str)) :
    ∀ (n : Nat) (text : Str) (c c' : Ctx), parseRuleF P aliases n text c = .ok c' →
      ∀ w, Walk P aliases text w → (∀ a ∈ w, a ∉ c.stack) ∧ w.Nodup := by
  intro n
  induction n with
  | zero => intro text c c' h; simp [parseRuleF] at h
  | succ n ih =>
    intro text c c' h w hw
    simp only [parseRuleF] at h
    have hk := keepsStack_parseRuleF P aliases n
    obtain ⟨_, hrefs⟩ := resolvePieces_ok hk _ _ _ h
    cases hw with
    | one ha =>
      obtain ⟨hn, _⟩ := hrefs _ ha
      exact ⟨by simpa using hn, by simp⟩
    | @cons _ a d w' ha hd hw' =>
      obtain ⟨hn, d', cout, hd', cin, hcin, hrun⟩ := hrefs _ ha
      rw [hd] at hd'; injection hd' with hd'; subst hd'
      obtain ⟨havoid, hnodup⟩ := ih _ _ _ hrun w' hw'
      rw [hcin] at havoid
      constructor
      · intro b hb
        rcases List.mem_cons.mp hb with rfl | hb'
        · exact hn
        · have := havoid b hb'
          simp at this; exact this.1
      · refine List.nodup_cons.mpr ⟨?_, hnodup⟩
        intro hmem
        have := havoid a hmem
        simp at this

/-- invariant of a circular-dependency error: a walk from the expanded text runs into a name that
    is on the stack or earlier on the walk, and the reported name is the first of stack ++ walk. -/
theorem expansion_circular_walk (P : Prims) (aliases : List (Str × Str)) :
    ∀ (n : Nat) (text : Str) (c : Ctx) (x : Str), parseRuleF P aliases n text c = .err (.circular x) →
      ∃ w pre last, Walk P aliases text w ∧ w = pre ++ [last] ∧ last ∈ c.stack ++ pre ∧
        x = (c.stack ++ w).headD [] := by
  intro n
  induction n with
  | zero => intro text c x h; simp [parseRuleF] at h
  | succ n ih =>
    intro text c x h
    simp only [parseRuleF] at h
    have hk := keepsStack_parseRuleF P aliases n
    obtain ⟨a, ha, d, hd, hcase⟩ := resolvePieces_stuck (s := .circular x) hk _ _ h
    rcases hcase with ⟨hmem, hx⟩ | ⟨_, cin, hcin, hrun⟩
    · cases hx
      refine ⟨[a], [], a, Walk.one ha, rfl, by simpa using hmem, ?_⟩
      cases hc : c.stack with
      | nil => rw [hc] at hmem; cases hmem
      | cons _ _ => rfl
    · obtain ⟨w', pre', last', hw', hweq, hlast, hx⟩ := ih _ _ _ hrun
      refine ⟨a :: w', a :: pre', last', Walk.cons ha hd hw', by simp [hweq], ?_, ?_⟩
      · rw [hcin] at hlast; simpa [List.append_assoc] using hlast
      · rw [hcin] at hx; simpa [List.append_assoc] using hx

theorem expansion_no_fuel (P : Prims) (aliases : List (Str × Str)) :
    ∀ (n : Nat) (text : Str) (c : Ctx), remaining aliases c.stack < n →
      parseRuleF P aliases n text c ≠ .fuel := by
  intro n
  induction n with
  | zero => intro text c h; omega
  | succ n ih =>
    intro text c hlt h
    simp only [parseRuleF] at h
    have hk := keepsStack_parseRuleF P aliases n
    obtain ⟨a, _, d, hd, hcase⟩ := resolvePieces_stuck (s := .fuel) hk _ _ h
    rcases hcase with ⟨_, hs⟩ | ⟨hn, cin, hcin, hrun⟩
    · cases hs
    · have := remaining_lt (T := c.stack ++ [a]) (fun _ => List.mem_append_left _) (lookupAlias_mem hd) hn
        (by simp)
      exact ih d cin (by rw [hcin]; omega) hrun

/-- (i-a) **termination**: the model's recursion bound `aliases.length + 1` is never exhausted,
    whatever the rule and the definitions (cyclic or not). -/
theorem parseRule_terminates (P : Prims) (aliases : List (Str × Str)) (rule : Str) :
    parseRuleF P aliases (aliases.length + 1) rule Ctx.empty ≠ .fuel :=
  expansion_no_fuel P aliases _ rule Ctx.empty (by
    have := remaining_le aliases Ctx.empty.stack
    omega)

/-- (i-b) an accepted rule has no reachable cycle: **cyclic alias definitions are rejected when the
    rule is compiled** (with the circular-dependency error or with an earlier error). -/
theorem accepted_acyclic (P : Prims) (aliases : List (Str × Str)) (rule : Str)
    (r : Str × List (Nat × Field)) (h : ruleSource P aliases rule = .ok r) :
    ¬ HasCycleFrom P aliases rule := by
  unfold ruleSource at h
  obtain ⟨c, hc, _⟩ := bind_eq_ok h
  rintro ⟨w, hw, hnd⟩
  exact hnd (expansion_ok_walks P aliases _ rule _ _ hc w hw).2

theorem compiled_acyclic (P : Prims) (E : Engine) (lib aliases : List (Str × Str)) (rule : Str)
    (r : Rule E) (h : compileRule P E lib aliases rule = .ok r) : ¬ HasCycleFrom P aliases rule := by
  unfold compileRule at h
  obtain ⟨sf, hsf, _⟩ := bind_eq_ok h
  exact accepted_acyclic P aliases rule sf hsf

/-- (i-c) the circular-dependency error is only raised for a reachable cycle, and the alias it
    names (`alias_stack.first()`) is the first alias of a walk into that cycle — a reference of the
    rule itself, not necessarily a member of the cycle. -/
theorem circular_has_cycle (P : Prims) (aliases : List (Str × Str)) (rule x : Str)
    (h : ruleSource P aliases rule = .err (.circular x)) :
    HasCycleFrom P aliases rule ∧ ∃ w, Walk P aliases rule w ∧ ¬ w.Nodup ∧ w.head? = some x := by
  rcases bind_eq_stuck (s := .circular x) h with hc | ⟨_, _, h⟩
  · obtain ⟨w, pre, last, hw, rfl, hlast, hx⟩ := expansion_circular_walk P aliases _ rule _ x hc
    have hnd : ¬ (pre ++ [last]).Nodup := fun hn =>
      (List.nodup_append.mp hn).2.2 last hlast last (by simp) rfl
    refine ⟨⟨_, hw, hnd⟩, _, hw, hnd, ?_⟩
    cases pre with
    | nil => cases hlast
    | cons a t => exact hx ▸ rfl
  · cases h

/-- the decidable test the `o.c32.cyc` oracle evaluates (a closure computation, independent of the
    depth-first expansion) only reports real cycles. -/
theorem cycleReachable_sound (P : Prims) (aliases : List (Str × Str)) (text : Str)
    (h : cycleReachable P aliases text = true) : HasCycleFrom P aliases text :=
  hasCycleFrom_iff.mpr (cycleReachable_spec.mp h)

/-- the oracle's test reports every reachable cycle: the closure over `aliases.length` rounds is
    complete. -/
theorem cycleReachable_complete (P : Prims) (aliases : List (Str × Str)) (text : Str)
    (h : HasCycleFrom P aliases text) : cycleReachable P aliases text = true :=
  cycleReachable_spec.mpr (hasCycleFrom_iff.mp h)

/-- the oracle's decidable test is exactly the Spec notion. -/
theorem cycleReachable_iff (P : Prims) (aliases : List (Str × Str)) (text : Str) :
    cycleReachable P aliases text = true ↔ HasCycleFrom P aliases text :=
  ⟨cycleReachable_sound P aliases text, cycleReachable_complete P aliases text⟩

/-- the Spec predicate `cycSpec` evaluated by the `o.c32.cyc` oracle holds of the model for every
    rule: accepted ⇒ no reachable cycle, circular error ⇒ a reachable cycle. -/
theorem cycSpec_holds (P : Prims) (aliases : List (Str × Str)) (rule : Str) :
    cycSpec P aliases rule
      (match ruleSource P aliases rule with
       | .ok _ => .accepted
       | .err (.circular _) => .circular
       | .panic => .panicked
       | _ => .otherError) = true := by
  cases hr : ruleSource P aliases rule with
  | ok r =>
    have : cycleReachable P aliases rule ≠ true := fun hc =>
      accepted_acyclic P aliases rule r hr (cycleReachable_sound P aliases rule hc)
    simpa [cycSpec] using this
  | err e =>
    cases e with
    | circular x =>
      simp only [cycSpec]
      exact cycleReachable_complete P aliases rule (circular_has_cycle P aliases rule x hr).1
    | _ => rfl
  | panic => rfl
  | oom => rfl
  | fuel => rfl

/-- an accepted rule passes the oracle's test (the clause `cycSpec … accepted`). -/
theorem accepted_not_cycleReachable (P : Prims) (aliases : List (Str × Str)) (rule : Str)
    (r : Str × List (Nat × Field)) (h : ruleSource P aliases rule = .ok r) :
    cycleReachable P aliases rule = false :=
  Bool.eq_false_iff.mpr fun hc => accepted_acyclic P aliases rule r h (cycleReachable_sound P aliases rule hc)

/-! ## (ii) the regex source of a rule: anchored concatenation, one named group per capture

  A *flat* rule is verbatim text interleaved with placeholders whose matcher is an alias with a
  placeholder-free definition (`ReadsAs` ties the rule text to its items through the model's own
  segmentation and placeholder parser). `specFrom` is the Spec: texts and definitions verbatim, in
  order, `(?<grokK>definition)` for the K-th placeholder with a destination; `fields` maps `K` to
  the declared destination and filters. Text is **not** escaped by vrl. -/

/-- (ii) the source vrl builds for a flat rule is `(?m)\A` + the ordered concatenation + `\z`, and
    the registered fields are exactly the declared destinations/filters under `grok0, grok1, …`. -/
theorem flat_rule_source (P : Prims) (aliases : List (Str × Str)) (rule : Str) (items : List SItem)
    (h : ReadsAs P aliases rule items) :
    ruleSource P aliases rule = .ok (wrap (specFrom 0 items).1, (specFrom 0 items).2) := by
  unfold ruleSource
  have := resolvePieces_flat P (expandsPlain_parseRuleF P aliases) _ _ h Ctx.empty rfl rfl
  simp only [parseRuleF, this]
  simp [Ctx.empty]

theorem specFrom_keys (items : List SItem) : ∀ k,
    (specFrom k items).2.map Prod.fst = List.range' k (specFrom k items).2.length := by
  induction items with
  | nil => intro k; simp [specFrom]
  | cons it rest ih =>
    intro k
    cases it with
    | text t => simpa [specFrom] using ih k
    | ref d => simpa [specFrom] using ih k
    | cap d path fl => simp [specFrom, ih (k + 1), List.range'_succ]

/-- (ii, matching) `apply_grok_rule` answers "no match" exactly when the engine finds no match of the
    rule's compiled expression; for a flat rule whose source is free of `%{` (so that `Grok::compile`
    has nothing left to expand from the pattern library) that expression is the anchored
    concatenation itself (`compileRule_flat`). -/
theorem rule_matches_iff_source_matches (P : Prims) (E : Engine) (r : Rule E) (input : Str) :
    applyRule P E r input = .ok .noMatch ↔ E.captures r.rx input = none := by
  unfold applyRule
  cases hc : E.captures r.rx input with
  | none => simp
  | some caps =>
    simp only [reduceCtorEq, iff_false]
    intro h
    obtain ⟨x, _, hx⟩ := bind_eq_ok h
    simp at hx

theorem compileRule_flat (P : Prims) (E : Engine) (lib aliases : List (Str × Str)) (rule : Str)
    (items : List SItem) (h : ReadsAs P aliases rule items)
    (hno : noPh (wrap (specFrom 0 items).1) = true) (r : Rule E)
    (hr : compileRule P E lib aliases rule = .ok r) :
    E.compile (wrap (specFrom 0 items).1) = .ok r.rx ∧ r.fields = (specFrom 0 items).2 ∧
      r.names = patternNames [] (E.names r.rx) := by
  rw [compileRule_of_source (flat_rule_source P aliases rule items h) hno] at hr
  split at hr
  · rename_i rx hc; cases hr; exact ⟨hc, rfl, rfl⟩
  · cases hr
  · cases hr

/-! ## (iii) a literal-only rule matches exactly its own text -/

theorem agreesOn_ref (src : Str) : AgreesOn Rx.refEngine src := by
  intro re h
  exact ⟨re, h, rfl, fun _ => rfl⟩

theorem ruleSource_literal (P : Prims) (aliases : List (Str × Str)) (s : Str) :
    ruleSource P aliases (esc s) = .ok (litSource s, []) := by
  unfold ruleSource
  simp only [parseRuleF, seg_noPh _ (noPh_esc s), resolvePieces, bind_ok, pure_eq_ok, Ctx.append, Ctx.empty,
    List.nil_append, wrap_esc]

/-- (iii, reference semantics) for the reference escaper `esc` (every metacharacter
    `. * + ? ( ) [ ] { } ^ $ | \ /` is protected), the reference matcher accepts the source built
    for `esc s` on exactly the input `s`. -/
theorem esc_matches_exactly (s t : Str) :
    ∃ re, Rx.refCompile (litSource s) = .ok re ∧ ((Rx.search re t).isSome ↔ t = s) := by
  refine ⟨litRe s, refCompile_litSource s, ?_⟩
  rw [search_litRe]; by_cases h : t = s <;> simp [h]

/-- (iii) a literal-only rule matches exactly its own text: for every engine that agrees with the
    reference matcher on the source of `esc s` (in particular the reference engine itself), the rule
    `esc s` compiles, and applied to `t` it matches — with an empty object — iff `t = s`.
    (At the level of `parse_grok_rules` an *empty* rule is dropped, so `s ≠ []` there.) -/
theorem literal_rule_matches_exactly_its_text (P : Prims) (E : Engine) (lib aliases : List (Str × Str))
    (s t : Str) (hE : AgreesOn E (litSource s)) :
    ∃ r, compileRule P E lib aliases (esc s) = .ok r ∧
      applyRule P E r t = .ok (if t = s then .matched (.obj .nil) 0 else .noMatch) := by
  obtain ⟨rx, hrx, hnames, hcaps⟩ := hE _ (refCompile_litSource s)
  refine ⟨⟨rx, [], []⟩, ?_, ?_⟩
  · rw [compileRule_of_source (ruleSource_literal P aliases s) (noPh_litSource s), hrx]
    simp only [hnames, groupNames_litRe]
    rfl
  · unfold applyRule
    simp only [hcaps, Rx.refCaptures, search_litRe]
    by_cases h : t = s
    · simp [h, groupNames_litRe, applyCaptures, pp, ppM]
    · simp [h]

theorem literal_rule_ref (P : Prims) (lib aliases : List (Str × Str)) (s t : Str) :
    ∃ r, compileRule P Rx.refEngine lib aliases (esc s) = .ok r ∧
      applyRule P Rx.refEngine r t = .ok (if t = s then .matched (.obj .nil) 0 else .noMatch) :=
  literal_rule_matches_exactly_its_text P Rx.refEngine lib aliases s t (agreesOn_ref _)

/-! ## (iv) captured fields = matched substrings after the declared filters, in rule order

  `expectedFrom` (VrlModel/C32.lean) is the Spec: every non-empty captured substring goes through
  its declared filters and is stored at its destination, in the order of the rule. The
  implementation visits the captures in the `BTreeMap` order of their generated names, which is the
  rule order only up to ten captures (`grok10 < grok2`): `captures_in_rule_order_partial`, witness
  `witness_name_order`. -/

/-- (iv, partial: at most ten captures) the object built by `apply_grok_rule` is the Spec's:
    substrings, through the filters, stored in rule order. The names are those of a rule whose only
    named groups are the generated `grok<i>` (no group named by the rule author, no `%{p:alias}` left
    to the pattern library). -/
theorem captures_in_rule_order_partial (P : Prims) (fields : List (Nat × Field))
    (caps : List (Str × Option Str)) (hnum : Numbered fields) (hk : fields.length ≤ 10)
    (parsed : Value) (n : Nat) :
    applyCaptures P fields caps (patternNames [] ((List.range fields.length).map grokName)) parsed n
      = expectedFrom P (capsOf fields (textOf caps)) parsed n := by
  rw [patternNames_small _ hk]
  have hmap : (List.range fields.length).map (fun i => (grokName i, grokName i))
      = fields.map (fun kv => (grokName kv.1, grokName kv.1)) := by
    rw [← hnum, List.map_map]; rfl
  rw [hmap]
  apply applyCaptures_eq_expectedFrom
  intro kv hkv
  exact ⟨grokIndex_grokName_small _ (Nat.lt_of_lt_of_le (numbered_keys_lt hnum kv hkv) hk),
    lookupField_of_nodup fields (numbered_nodup hnum) kv hkv⟩

/-- (iv) for a compiled flat rule with at most ten captures whose engine reports the group names in
    order, matching an input yields exactly the Spec object for the substrings the engine captured. -/
theorem flat_rule_captures (P : Prims) (E : Engine) (r : Rule E) (input : Str)
    (hnum : Numbered r.fields) (hk : r.fields.length ≤ 10)
    (hnames : r.names = patternNames [] ((List.range r.fields.length).map grokName))
    (caps : List (Str × Option Str)) (hc : E.captures r.rx input = some caps) :
    applyRule P E r input =
      (match expectedFrom P (capsOf r.fields (textOf caps)) (.obj .nil) 0 with
       | .ok (v, n) => .ok (.matched (pp v) n)
       | .err e => .err e
       | .panic => .panic
       | .oom => .oom
       | .fuel => .fuel) := by
  unfold applyRule
  simp only [hc, hnames, captures_in_rule_order_partial P r.fields caps hnum hk]
  cases expectedFrom P (capsOf r.fields (textOf caps)) (.obj .nil) 0 <;> rfl

/-- the fields of a flat rule satisfy the numbering hypothesis of the two theorems above. -/
theorem specFrom_numbered (items : List SItem) : Numbered (specFrom 0 items).2 := by
  unfold Numbered
  rw [specFrom_keys items 0, List.range_eq_range']

/-- (iv, reference semantics) **captured fields hold matched substrings**: every capture the
    reference matcher reports — for every expression of the subset, nested groups, greedy or lazy
    repetition, any alternative taken — is a contiguous substring of the input. -/
theorem captures_are_substrings (re : Rx.Re) (input : Str) (caps : Rx.Caps)
    (h : Rx.search re input = some caps) : ∀ nt ∈ caps, nt.2 <:+: input :=
  Rx.searchFrom_ok input none caps (List.suffix_refl _) h

/-- the text a rule stores for `grok<i>` is a substring of the input (reference engine). -/
theorem stored_text_is_substring (re : Rx.Re) (input : Str) (caps : List (Str × Option Str))
    (h : Rx.refCaptures re input = some caps) (i : Nat) : textOf caps i <:+: input := by
  -- every text `refCaptures` reports is one of the captures of `search`
  unfold Rx.refCaptures at h
  split at h
  · cases h
  · rename_i rc hrc
    simp only [Option.some.injEq] at h
    subst h
    unfold textOf capText
    split
    · rename_i nm t hfind
      have hmem := List.mem_of_find?_eq_some hfind
      obtain ⟨n, _, hn⟩ := List.mem_map.mp hmem
      simp only [Prod.mk.injEq] at hn
      obtain ⟨_, hn2⟩ := hn
      cases hf : rc.find? (fun kv => kv.1 = n) with
      | none => simp [hf] at hn2
      | some kv =>
        simp only [hf, Option.map_some, Option.some.injEq] at hn2
        subst hn2
        exact captures_are_substrings re input rc hrc kv (List.mem_of_find?_eq_some hf)
    · exact List.nil_infix

theorem filter_nullIf (P : Prims) (s t : Str) :
    applyFilter P (.str s) (.nullIf t) = if s = t then .val .null else .val (.str s) := rfl

theorem filter_boolean (P : Prims) (s : Str) :
    applyFilter P (.str s) .boolean = .val (.bool (s.map Char.toLower = cs!"true")) := rfl

theorem filter_lowercase (P : Prims) (s t : Str) (h : P.lower s = some t) :
    applyFilter P (.str s) .lowercase = .val (.str t) := by dsimp only [applyFilter]; rw [h]

theorem filter_uppercase (P : Prims) (s t : Str) (h : P.upper s = some t) :
    applyFilter P (.str s) .uppercase = .val (.str t) := by dsimp only [applyFilter]; rw [h]

/-- `integer` yields an `i64`, and only from text. -/
theorem filter_integer_range (P : Prims) (v : SV) (i : Int) (h : applyFilter P v .integer = .val (.int i)) :
    (∃ s, v = .str s) ∧ i64Min ≤ i ∧ i ≤ i64Max := by
  cases v with
  | str s =>
    refine ⟨⟨s, rfl⟩, ?_⟩
    dsimp only [applyFilter] at h
    cases hp : parseI64 s with
    | none => rw [hp] at h; cases h
    | some j => rw [hp] at h; cases h; exact parseI64_range hp
  | _ => cases h

/-- a value dropped by a filter (null result or failed filter) stays dropped. -/
theorem applyFilters_none (P : Prims) (fs : List Filter) (n : Nat) : applyFilters P fs none n = .ok (none, n) := by
  induction fs with
  | nil => rfl
  | cons f fs ih => simpa [applyFilters] using ih

/-- a single capture stored at a fresh one-segment destination: the field holds the filtered substring. -/
theorem single_capture_field (P : Prims) (d t : Str) (fl : List Filter) (v : SV) (k : Nat) (ht : t.isEmpty = false)
    (hf : applyFilters P fl (some (.str t)) 0 = .ok (some v, k)) :
    expectedFrom P [⟨[d], fl, t⟩] (.obj .nil) 0 = .ok (.obj (.cons (utf8 d) v.toValue .nil), k) := by
  simp [expectedFrom, ht, hf, storeField, fieldPath, Value.get, Value.getOpt, VMap.get, Value.insertOpt,
    Value.asMap, VMap.insert]

end C32
