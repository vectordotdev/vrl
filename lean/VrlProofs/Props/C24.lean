/-
  C24 — Key-value, logfmt and CSV encoders round-trip.  Models: VrlModel/KeyValue.lean
  (`encode_key_value`/`encode_logfmt`, the nom parser of `parse_key_value`/`parse_logfmt`) and
  VrlModel/Csv.lean (`encode_csv`/`parse_csv` with the csv-core writer and the csv-core NFA),
  tied to the code by the `kv.*` / `csv.*` correspondence ops.

  Full-strength statements (`KvRoundTrip`, `LogfmtRoundTrip`, `CsvRoundTrip`) are FALSE of the
  modelled code (`kv_roundtrip_false`, `logfmt_roundtrip_false`, `csv_roundtrip_false`, from the
  witnesses).  What is proved instead are the round trips on the complement of the finding classes
  ((1), (2), (4)), and that the hypotheses of these are exactly "the oracle's classifier finds no
  finding class" ((3), (5)): a round-trip failure outside the listed classes would contradict them.
-/
import VrlProofs.Lemmas.KeyValue
import VrlProofs.Lemmas.Csv

namespace C24
open KV

/-- flat object whose keys and values are non-empty strings, entries in `BTreeMap` order. -/
def flatStr (o : List (List Char × List Char)) : Prop :=
  keysSorted o = true ∧ ∀ kv ∈ o, kv.1 ≠ [] ∧ kv.2 ≠ []

/-- C24, key-value clause: the property's statement for matching single-character delimiters and the
    default `whitespace`/`accept_standalone_key` arguments, the key-value delimiter already
    restricted to `delimOK` (a space or tab there is the class `D_delimiters`,
    `witness_space_delimiter`). -/
def KvRoundTrip : Prop :=
  ∀ (kd fd : Char) (o : List (List Char × List Char)), delimOK kd = true → flatStr o →
    parseKV (defaultCfg [kd] [fd]) (encodeKV [kd] [fd] o) = .ok (expected o)

/-- C24, logfmt clause. -/
def LogfmtRoundTrip : Prop :=
  ∀ (o : List (List Char × List Char)), flatStr o → parseLogfmt (encodeLogfmt o) = .ok (expected o)

/-- C24, CSV clause (default delimiter `,`). -/
def CsvRoundTrip : Prop :=
  ∀ (l : List (List Nat)), Csv.parseCsv 44 (Csv.encodeCsv 44 l) = l

/-- (1) For every flat object with keys and values of the safe class, every pair of admissible
    single-character delimiters, both whitespace modes and both `accept_standalone_key` settings,
    parsing what the encoder wrote returns the object. -/
theorem kv_roundtrip_partial (kd fd : Char) (ws : Whitespace) (sk : Bool)
    (o : List (List Char × List Char))
    (hd : delimOK kd = true) (hsorted : keysSorted o = true)
    (hsafe : safeObject kd fd o = true) :
    parseKV { kd := [kd], fd := [fd], ws := ws, standalone := sk } (encodeKV [kd] [fd] o)
      = .ok (expected o) := by
  simp only [safeObject, Bool.and_eq_true, Bool.not_eq_true', List.all_eq_true] at hsafe
  obtain ⟨hne, hall⟩ := hsafe
  cases o with
  | nil => simp at hne
  | cons kv r =>
    have htok : ∀ p ∈ kv :: r, SafeTok [kd, fd] p.1 ∧ SafeTok [fd] p.2 := by
      intro p hp
      have := hall p hp
      exact ⟨safeTok_of_class kd fd true _ (by simpa [safeKey] using this.1),
        safeTok_of_class kd fd false _ (by simpa [safeVal] using this.2)⟩
    have hp := parsePairs_enc { kd := [kd], fd := [fd], ws := ws, standalone := sk } rfl rfl hd kv r htok
    unfold parseKV
    rw [encodeKV_cons, hp]
    simp only
    rw [group_sorted _ hsorted]

theorem encodeLoop_flatten_irrelevant (kd fd : List Char) (o : List (List Char × List Char)) :
    encodeLoop kd fd true (strFields o) = encodeLoop kd fd false (strFields o) := by
  induction o with
  | nil => rfl
  | cons kv r ih =>
    simp only [strFields, List.map_cons] at ih ⊢
    simp [encodeLoop, ih]

/-- `encode_logfmt` is `encode_key_value` with `=` and space on string objects. -/
theorem encodeLogfmt_eq (o : List (List Char × List Char)) :
    encodeLogfmt o = encodeKV ['='] [' '] o := by
  simp [encodeLogfmt, encodeKV, encodeFlat, encodeLoop_flatten_irrelevant]

/-- (2) the logfmt instance. -/
theorem logfmt_roundtrip_partial (o : List (List Char × List Char))
    (hsorted : keysSorted o = true) (hsafe : safeObject '=' ' ' o = true) :
    parseLogfmt (encodeLogfmt o) = .ok (expected o) := by
  rw [encodeLogfmt_eq]
  exact kv_roundtrip_partial '=' ' ' .lenient true o (by decide) hsorted hsafe

/-- On the `vrl::Value` of a flat string object (`vmapOf`, keys in `BTreeMap` order) the stdlib entry
    point `encode_key_value` (model `encodeValue`: `flatten` + `to_string`; the function compared
    with the implementation by the `kv.encode` op) is `encodeKV`, for every UTF-8 codec
    `dec ∘ enc = some` (the codec is a parameter, its law a hypothesis). -/
theorem encodeValue_flat (dec : List Nat → Option (List Char)) (enc : List Char → List Nat)
    (hde : ∀ s, dec (enc s) = some s) (kd fd : List Char) (o : List (List Char × List Char))
    (hsorted : keysSorted o = true) :
    encodeValue dec kd fd false (vmapOf enc o) = some (encodeKV kd fd o) := by
  unfold encodeValue
  rw [flattenTop_flat dec enc hde o [] hsorted (by simp)]
  simp [encodeKV]

/-- (3) the hypotheses of (1) are exactly "the oracle's classifier reports no finding class". -/
theorem kv_safe_iff_no_class (kd fd : Char) (o : List (List Char × List Char)) :
    (delimOK kd = true ∧ safeObject kd fd o = true) ↔ objectClass [kd] [fd] o = none := by
  unfold objectClass
  split
  · rename_i h
    have : delimOK kd = false := by rcases (by simpa using h : kd = ' ' ∨ kd = '\t') with rfl | rfl <;> rfl
    simp [this]
  · rename_i h
    have : delimOK kd = true := by simpa [delimOK, not_or] using h
    simp only [this, true_and, safeObject, Bool.and_eq_true, Bool.not_eq_true']
    split
    · simp [*]
    · simp only [*, true_and, firstSome_eq_none, List.all_eq_true, Bool.and_eq_true, safeKey, safeVal,
        Option.isNone_iff_eq_none]
      refine forall_congr' fun a => forall_congr' fun _ => ?_
      cases tokenClass [kd] [fd] true a.1 <;> simp

/-- (4) every list of byte strings survives `parse_csv(encode_csv(l, d), d)` for every delimiter
    other than `"`, `\r`, `\n`, unless the encoded text starts with a byte-order mark (a condition on
    the whole output: with `d = 0xBB` the mark can straddle the first two fields). -/
theorem csv_roundtrip_partial (d : Nat) (l : List (List Nat)) (hd : Csv.delimOK d = true)
    (hb : Csv.startsWithBom (Csv.encodeCsv d l) = false) :
    Csv.parseCsv d (Csv.encodeCsv d l) = l := by
  unfold Csv.parseCsv
  rw [Csv.stripBom_of_not_bom _ hb]
  cases l with
  | nil => simp [Csv.encodeCsv, Csv.readRecord]
  | cons f r =>
    have henc : Csv.encodeCsv d (f :: r)
        = if (Csv.joinFields d (f :: r)).isEmpty then [Csv.QUOTE, Csv.QUOTE]
          else Csv.joinFields d (f :: r) := by
      simp [Csv.encodeCsv, Csv.writeRecord]
    rw [henc]
    cases hj : Csv.joinFields d (f :: r) with
    | nil =>
      have := Csv.joinFields_eq_nil d (f :: r) (by simp) hj
      rw [this]
      simp [Csv.readRecord, Csv.isTerm, Csv.QUOTE, Csv.CR, Csv.LF, Csv.readFields]
    | cons b t =>
      have hterm := Csv.joinFields_head_not_term d hd (f :: r) b t hj
      have hread := Csv.read_joinFields d hd r f
      rw [hj] at hread
      simp [Csv.readRecord, hterm, hread]

/-- (5) the hypotheses of (4) are exactly "the classifier finds no CSV finding class". -/
theorem csv_ok_iff_no_class (d : Nat) (l : List (List Nat)) :
    (Csv.delimOK d = true ∧ Csv.startsWithBom (Csv.encodeCsv d l) = false)
      ↔ Csv.listClass d l = none := by
  unfold Csv.listClass
  cases Csv.delimOK d <;> cases Csv.startsWithBom (Csv.encodeCsv d l) <;> simp

end C24
