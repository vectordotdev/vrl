/-
  C27 — Digest and checksum functions match the reference algorithms.

  LEVEL: `other`. The statement "the Rust crates md-5/sha1/sha2/sha3/hmac/crc/xxhash-rust/seahash,
  as called by vrl, compute the published functions" is not a theorem about a model of vrl; it is
  established by the `c27.*` correspondence (differential run of the real stdlib functions against
  the executable Lean specifications `VrlModel/Hash/*.lean`, sampling). What IS proved here:

  (i)   the Lean specifications reproduce the published test vectors of RFC 1321, FIPS 180-4,
        FIPS 202, RFC 2202/4231, the CRC catalogue (all 112 rows), xxHash and SeaHash, and the
        tables the standards define by a procedure are the generated ones
        — `VrlProofs/Props/C27Vectors.lean` (kernel evaluation);
  (ii)  glue, for ALL inputs: the variant-name dispatch of the vrl functions is total on the
        documented names, maps every name to the intended algorithm, has the documented defaults,
        fails exactly on the other names (the run-time names as the model compares them, after
        ASCII upper-casing: VrlModel/Hash/Vrl.lean); the result encodings (lower-case hex, decimal text,
        `u64 as i64`) have the documented length/range and are injective; digest lengths, padding
        lengths, word bounds;
  (iii) the hmac model is the RFC 2104 definition instantiated with the very hash functions that
        `sha1`/`sha2` use (so every hmac variant is covered once the hash is).

  Model: VrlModel/Hash/Vrl.lean (dispatch + encoding), VrlModel/Hash/{MD5,SHA,SHA3,HMAC,CRC,XXH,
  XXH3,SeaHash}.lean (reference specifications).
-/
import VrlProofs.Lemmas.C27
import VrlProofs.Props.C27Vectors

namespace C27
open Hash Hash.Vrl

/-! ### (ii) dispatch on the variant name -/

theorem lookupFn_none_iff {α : Type} (tbl : List (String × α)) (n : String) :
    lookupFn tbl n = none ↔ n ∉ tbl.map (·.1) := by
  simp only [lookupFn, Option.map_eq_none_iff, List.find?_eq_none, beq_iff_eq, List.mem_map, not_exists, not_and]

/-- `sha2`: every documented variant name selects the FIPS 180-4 function of that name; the
    default is SHA-512/256; any other name is rejected (compile-time enum). -/
theorem sha2_dispatch (b : Bytes) :
    sha2 (some "SHA-224") b = .ok (hexValue (SHA.sha224 b)) ∧
    sha2 (some "SHA-256") b = .ok (hexValue (SHA.sha256 b)) ∧
    sha2 (some "SHA-384") b = .ok (hexValue (SHA.sha384 b)) ∧
    sha2 (some "SHA-512") b = .ok (hexValue (SHA.sha512 b)) ∧
    sha2 (some "SHA-512/224") b = .ok (hexValue (SHA.sha512_224 b)) ∧
    sha2 (some "SHA-512/256") b = .ok (hexValue (SHA.sha512_256 b)) ∧
    sha2 none b = .ok (hexValue (SHA.sha512_256 b)) :=
  ⟨rfl, rfl, rfl, rfl, rfl, rfl, rfl⟩

theorem sha2_unknown (n : String) (b : Bytes)
    (h : n ∉ ["SHA-224", "SHA-256", "SHA-384", "SHA-512", "SHA-512/224", "SHA-512/256"]) :
    sha2 (some n) b = .err := by
  have : lookupFn sha2Variants n = none := (lookupFn_none_iff _ _).2 h
  simp [sha2, this]

/-- `sha3`: names ↦ FIPS 202 functions, default SHA3-512. -/
theorem sha3_dispatch (b : Bytes) :
    sha3 (some "SHA3-224") b = .ok (hexValue (SHA3.sha3_224 b)) ∧
    sha3 (some "SHA3-256") b = .ok (hexValue (SHA3.sha3_256 b)) ∧
    sha3 (some "SHA3-384") b = .ok (hexValue (SHA3.sha3_384 b)) ∧
    sha3 (some "SHA3-512") b = .ok (hexValue (SHA3.sha3_512 b)) ∧
    sha3 none b = .ok (hexValue (SHA3.sha3_512 b)) :=
  ⟨rfl, rfl, rfl, rfl, rfl⟩

theorem sha3_unknown (n : String) (b : Bytes)
    (h : n ∉ ["SHA3-224", "SHA3-256", "SHA3-384", "SHA3-512"]) : sha3 (some n) b = .err := by
  have : lookupFn sha3Variants n = none := (lookupFn_none_iff _ _).2 h
  simp [sha3, this]

/-- `hmac`: names ↦ (block size, hash) pairs of RFC 2104 / FIPS 198-1 (B = 64 for SHA-1,
    SHA-224, SHA-256; B = 128 for SHA-384, SHA-512), default SHA-256; raw MAC bytes. -/
theorem hmac_dispatch (v k : Bytes) :
    hmac (some "SHA1") v k = .ok (.bytes (HMAC.hmac ⟨64, SHA.SHA1.digest⟩ k v)) ∧
    hmac (some "SHA-224") v k = .ok (.bytes (HMAC.hmac ⟨64, SHA.sha224⟩ k v)) ∧
    hmac (some "SHA-256") v k = .ok (.bytes (HMAC.hmac ⟨64, SHA.sha256⟩ k v)) ∧
    hmac (some "SHA-384") v k = .ok (.bytes (HMAC.hmac ⟨128, SHA.sha384⟩ k v)) ∧
    hmac (some "SHA-512") v k = .ok (.bytes (HMAC.hmac ⟨128, SHA.sha512⟩ k v)) ∧
    hmac none v k = .ok (.bytes (HMAC.hmac ⟨64, SHA.sha256⟩ k v)) :=
  ⟨rfl, rfl, rfl, rfl, rfl, rfl⟩

/-- the name is compared after upper-casing: only the upper-cased name matters. -/
theorem hmac_name_upper (n n' : String) (v k : Bytes) (h : asciiUpper n = asciiUpper n') :
    hmac (some n) v k = hmac (some n') v k := by
  simp [hmac, h]

theorem hmac_unknown (n : String) (v k : Bytes)
    (h : asciiUpper n ∉ ["SHA1", "SHA-224", "SHA-256", "SHA-384", "SHA-512"]) :
    hmac (some n) v k = .err := by
  have : lookupFn hmacAlgorithms (asciiUpper n) = none := (lookupFn_none_iff _ _).2 h
  simp [hmac, this]

/-- `xxhash`: names ↦ algorithm and result encoding, default XXH32, seed 0. -/
theorem xxhash_dispatch (b : Bytes) :
    xxhash (some "XXH32") b = .ok (.int (XXH.xxh32 0 b)) ∧
    xxhash (some "XXH64") b = .ok (.int (asI64 (XXH.xxh64 0 b))) ∧
    xxhash (some "XXH3-64") b = .ok (.int (asI64 (XXH3.xxh3_64 b))) ∧
    xxhash (some "XXH3-128") b = .ok (.bytes (decAscii (XXH3.xxh3_128 b))) ∧
    xxhash none b = .ok (.int (XXH.xxh32 0 b)) :=
  ⟨rfl, rfl, rfl, rfl, rfl⟩

theorem xxhash_unknown (n : String) (b : Bytes)
    (h : asciiUpper n ∉ ["XXH32", "XXH64", "XXH3-64", "XXH3-128"]) : xxhash (some n) b = .err := by
  have : lookupFn xxhashVariants (asciiUpper n) = none := (lookupFn_none_iff _ _).2 h
  simp [xxhash, this]

theorem xxhash_name_upper (n n' : String) (b : Bytes) (h : asciiUpper n = asciiUpper n') :
    xxhash (some n) b = xxhash (some n') b := by
  simp [xxhash, h]

/-- No byte of a row name is a lower-case letter (so `asciiUpper` leaves the name alone), and the
    names are pairwise distinct. They are compared as numbers (their bytes read big-endian, a function
    of the name): that keeps the kernel from comparing `String`s pair by pair. -/
theorem crc_names : (∀ p ∈ CRC.table, ∀ b ∈ utf8Bytes p.name, ¬(97 ≤ b ∧ b ≤ 122)) ∧
    (CRC.table.map fun p => beNat (utf8Bytes p.name)).Nodup := by
  decide +kernel

theorem crc_names_upper (p : CRC.Params) (hp : p ∈ CRC.table) : asciiUpper p.name = p.name :=
  asciiUpper_of_no_lower_byte _ (crc_names.1 p hp)

/-- `crc`: no row shadows another. -/
theorem crc_lookup_name : ∀ p ∈ CRC.table, CRC.lookup p.name = some p :=
  find?_of_nodup_key CRC.Params.name (fun s => beNat (utf8Bytes s)) crc_names.2

/-- what `crc` does with a row's name: it upper-cases it, which changes nothing, and finds that row. -/
theorem crc_lookup_rows : ∀ p ∈ CRC.table, CRC.lookup (asciiUpper p.name) = some p := fun p hp => by
  rw [crc_names_upper p hp]; exact crc_lookup_name p hp

/-- Stated with variables: on two closed names `rfl` would have both look-ups evaluated. -/
theorem crc_congr (a a' : Option String) (b : Bytes)
    (h : asciiUpper (a.getD crcDefault) = asciiUpper (a'.getD crcDefault)) : crc a b = crc a' b := by
  unfold crc; rw [h]

/-- lower-case and mixed-case spellings select the same row. -/
theorem crc_name_upper (n n' : String) (b : Bytes) (h : asciiUpper n = asciiUpper n') :
    crc (some n) b = crc (some n') b :=
  crc_congr _ _ b h

theorem upper_examples :
    asciiUpper "crc_32_iscsi" = "CRC_32_ISCSI" ∧ asciiUpper "Sha-256" = "SHA-256" ∧
    asciiUpper "xxh3-128" = "XXH3-128" ∧ asciiUpper "SHA-512/256" = "SHA-512/256" := by
  decide +kernel

/-- every row name selects the Rocksoft model with that row's parameters; the result is the
    checksum in decimal. -/
theorem crc_dispatch (p : CRC.Params) (hp : p ∈ CRC.table) (b : Bytes) :
    crc (some p.name) b = .ok (.bytes (decAscii (CRC.crc p b))) := by
  simp [crc, crc_lookup_rows p hp]

/-- the default is CRC-32/ISO-HDLC (the zlib/PNG CRC-32). -/
theorem crc_default (b : Bytes) : crc none b = crc (some "CRC_32_ISO_HDLC") b :=
  crc_congr _ _ b rfl

/-- with the catalogue's parameters of that algorithm. -/
theorem crc_default_row :
    (CRC.lookup crcDefault).map (fun p => (p.width, p.poly, p.init, p.refin, p.refout, p.xorout))
      = some (32, 0x04c11db7, 0xffffffff, true, true, 0xffffffff) := by
  decide +kernel

theorem crc_unknown (n : String) (b : Bytes) (h : asciiUpper n ∉ CRC.table.map (·.name)) :
    crc (some n) b = .err := by
  have : CRC.lookup (asciiUpper n) = none := by
    unfold CRC.lookup
    rw [List.find?_eq_none]
    intro p hp hbeq
    exact h (List.mem_map.2 ⟨p, hp, by simpa using hbeq⟩)
  simp [crc, this]

/-- `md5`, `sha1`, `seahash` have no variants. -/
theorem plain_functions (b : Bytes) :
    md5 b = .ok (hexValue (MD5.digest b)) ∧ sha1 b = .ok (hexValue (SHA.SHA1.digest b)) ∧
    seahash b = .ok (.int (asI64 (SeaHash.hash b))) :=
  ⟨rfl, rfl, rfl⟩

/-! ### (ii) lengths, encodings, bounds -/

theorem digest_lengths (m : Bytes) :
    (MD5.digest m).length = 16 ∧ (SHA.SHA1.digest m).length = 20 ∧
    (SHA.sha224 m).length = 28 ∧ (SHA.sha256 m).length = 32 ∧
    (SHA.sha384 m).length = 48 ∧ (SHA.sha512 m).length = 64 ∧
    (SHA.sha512_224 m).length = 28 ∧ (SHA.sha512_256 m).length = 32 ∧
    (SHA3.sha3_224 m).length = 28 ∧ (SHA3.sha3_256 m).length = 32 ∧
    (SHA3.sha3_384 m).length = 48 ∧ (SHA3.sha3_512 m).length = 64 :=
  ⟨md5_length m, sha1_length m, sha2_digest_length _ _ _ m, sha2_digest_length _ _ _ m,
    sha2_digest_length _ _ _ m, sha2_digest_length _ _ _ m, sha2_digest_length _ _ _ m,
    sha2_digest_length _ _ _ m, sha3_length 28 m, sha3_length 32 m, sha3_length 48 m, sha3_length 64 m⟩

theorem hmac_length (h : HMAC.HashFn) (n : Nat) (hn : ∀ x, (h.hash x).length = n) (k m : Bytes) :
    (HMAC.hmac h k m).length = n := by
  simp [HMAC.hmac, hn]

/-- RFC 1321 §3.1–3.2, FIPS 180-4 §5.1, FIPS 202 §5.1 (pad10*1 after the domain bits): the padded
    message fills whole blocks. -/
theorem padding_lengths (m : Bytes) :
    (MD5.pad m).length % 64 = 0 ∧ (SHA.pad 64 8 m).length % 64 = 0 ∧
    (SHA.pad 128 16 m).length % 128 = 0 ∧
    (∀ rate, 2 ≤ rate → (SHA3.pad rate m).length % rate = 0 ∧ m.length < (SHA3.pad rate m).length) :=
  ⟨md5_pad_length m, sha_pad64_length m, sha_pad128_length m, fun r hr => sha3_pad_length r hr m⟩

/-- `hex::encode`: 2 characters per byte, lower-case hex digits only, injective. -/
theorem hex_encoding (a b : Bytes) (ha : ∀ x ∈ a, x < 256) (hb : ∀ x ∈ b, x < 256) :
    (hexAscii a).length = 2 * a.length ∧
    (∀ c ∈ hexChars a, c ∈ "0123456789abcdef".toList) ∧
    (hexAscii a = hexAscii b → a = b) := by
  refine ⟨hexAscii_length a, hexChars_lower a ha, fun h => hexChars_inj a b ha hb ?_⟩
  exact (List.map_inj_right fun _ _ => Char.toNat_inj.1).1 h

/-- the text results have the documented sizes. -/
theorem hex_result_lengths (m : Bytes) :
    (hexAscii (MD5.digest m)).length = 32 ∧ (hexAscii (SHA.SHA1.digest m)).length = 40 ∧
    (hexAscii (SHA.sha224 m)).length = 56 ∧ (hexAscii (SHA.sha256 m)).length = 64 ∧
    (hexAscii (SHA.sha384 m)).length = 96 ∧ (hexAscii (SHA.sha512 m)).length = 128 ∧
    (hexAscii (SHA.sha512_224 m)).length = 56 ∧ (hexAscii (SHA.sha512_256 m)).length = 64 ∧
    (hexAscii (SHA3.sha3_224 m)).length = 56 ∧ (hexAscii (SHA3.sha3_256 m)).length = 64 ∧
    (hexAscii (SHA3.sha3_384 m)).length = 96 ∧ (hexAscii (SHA3.sha3_512 m)).length = 128 := by
  have h := digest_lengths m
  simp only [hexAscii_length]
  omega

theorem i64_encoding (a b : Nat) (ha : a < 2 ^ 64) (hb : b < 2 ^ 64) :
    -(2 ^ 63 : Int) ≤ asI64 a ∧ asI64 a < 2 ^ 63 ∧ asI64 a % (2 ^ 64 : Int) = a ∧
    (asI64 a = asI64 b → a = b) :=
  ⟨(asI64_range a ha).1, (asI64_range a ha).2, asI64_mod a ha, asI64_inj a b ha hb⟩

theorem decimal_encoding (a b : Nat) (ha : a < 10 ^ 64) (hb : b < 10 ^ 64) :
    decValue (decAscii a) = a ∧ (decAscii a = decAscii b → a = b) :=
  ⟨decValue_decAscii a ha, decAscii_inj a b ha hb⟩

/-- a CRC value fits its register width (so it fits the Rust type u8/u16/u32/u64/u128 that
    `crc.rs` instantiates for that width, and the decimal text is faithful). -/
theorem crc_lt (p : CRC.Params) (hp : p.poly < 2 ^ p.width) (hi : p.init < 2 ^ p.width)
    (hx : p.xorout < 2 ^ p.width) (m : Bytes) : CRC.crc p m < 2 ^ p.width := by
  unfold CRC.crc
  apply Nat.xor_lt_two_pow _ hx
  split
  · exact reflect_lt _ _
  · exact List.foldlRecOn (motive := (· < 2 ^ p.width)) m _ hi fun r hr b _ => feedByte_lt p hp r b hr

theorem crc_decimal_faithful (p : CRC.Params) (hp : p ∈ CRC.table) (m : Bytes) :
    decValue (decAscii (CRC.crc p m)) = CRC.crc p m := by
  have hw := crc_rows_wellformed p hp
  have hlt := crc_lt p hw.2.2.1 hw.2.2.2.1 hw.2.2.2.2.1 m
  apply decValue_decAscii
  have h82 : (2 : Nat) ^ p.width ≤ 2 ^ 82 := Nat.pow_le_pow_right (by omega) hw.2.1
  have : (2 : Nat) ^ 82 < 10 ^ 64 := by decide
  omega

/-- XXH32 fits in 32 bits (so `i64::from(u32)` is the identity on it); XXH64, XXH3-64 and
    SeaHash fit in 64 bits (so `as i64` above applies); XXH3-128 fits in 128 bits (so its decimal
    text is faithful: 2^128 < 10^64). -/
theorem word_bounds (seed : Nat) (m : Bytes) :
    XXH.xxh32 seed m < 2 ^ 32 ∧ XXH.xxh64 seed m < 2 ^ 64 ∧ SeaHash.hash m < 2 ^ 64 ∧
    XXH3.xxh3_64 m < 2 ^ 64 ∧ XXH3.xxh3_128 m < 2 ^ 128 := by
  refine ⟨?_, ?_, ?_, xxh3_64_lt m, xxh3_128_lt m⟩
  · unfold XXH.xxh32 XXH.avalanche32
    exact xorshift_lt _ 16 32 (Nat.mod_lt _ (by decide))
  · exact xxh_avalanche64_lt _
  · unfold SeaHash.hash SeaHash.hashSeeded SeaHash.diffuse
    exact Nat.mod_lt _ (by decide)

theorem xxh3_128_decimal_faithful (m : Bytes) :
    decValue (decAscii (XXH3.xxh3_128 m)) = XXH3.xxh3_128 m := by
  apply decValue_decAscii
  have := xxh3_128_lt m
  have : (2 : Nat) ^ 128 < 10 ^ 64 := by decide
  omega

/-! ### (iii) hmac is RFC 2104 over the modelled hash -/

/-- RFC 2104 §2, written out: `H(K XOR opad, H(K XOR ipad, text))` with `ipad` = the byte 0x36
    repeated B times, `opad` = the byte 0x5C repeated B times, and `K` = the key with zeros
    appended to B bytes ("applications that use keys longer than B bytes will first hash the key
    using H"). -/
def rfc2104 (H : Bytes → Bytes) (B : Nat) (key text : Bytes) : Bytes :=
  let k := if key.length > B then H key else key
  let k0 := k ++ List.replicate (B - k.length) 0
  let ipad := List.replicate B 0x36
  let opad := List.replicate B 0x5c
  H (List.zipWith (· ^^^ ·) k0 opad ++ H (List.zipWith (· ^^^ ·) k0 ipad ++ text))

theorem zipWith_xor_replicate (c : Nat) : ∀ (l : List Nat) (n : Nat), l.length = n →
    List.zipWith (· ^^^ ·) l (List.replicate n c) = l.map (· ^^^ c)
  | [], _, h => by simp
  | x :: l, n, h => by
    cases n with
    | zero => simp at h
    | succ n =>
      simp only [List.replicate_succ, List.zipWith_cons_cons, List.map_cons]
      rw [zipWith_xor_replicate c l n (by simpa using h)]

/-- the model's HMAC is the RFC 2104 text, for every hash whose output is not longer than its
    block (true of every standard hash). -/
theorem hmac_eq_rfc2104 (h : HMAC.HashFn) (n : Nat) (hn : ∀ x, (h.hash x).length = n)
    (hB : n ≤ h.blockBytes) (key text : Bytes) :
    HMAC.hmac h key text = rfc2104 h.hash h.blockBytes key text := by
  unfold HMAC.hmac rfc2104
  simp only
  split
  · rw [zipWith_xor_replicate 0x5c _ h.blockBytes (by simp [hn]; omega),
      zipWith_xor_replicate 0x36 _ h.blockBytes (by simp [hn]; omega)]
  · rw [zipWith_xor_replicate 0x5c _ h.blockBytes (by simp; omega),
      zipWith_xor_replicate 0x36 _ h.blockBytes (by simp; omega)]

/-- vrl's `hmac` with each algorithm name is RFC 2104 over the SAME hash function that
    `sha1(…)` / `sha2(…, variant: name)` return in hex – so the hmac variants are covered by the
    vectors and the correspondence of the hashes plus the RFC 2202/4231 vectors. -/
theorem hmac_is_rfc2104 (v k : Bytes) :
    hmac (some "SHA1") v k = .ok (.bytes (rfc2104 SHA.SHA1.digest 64 k v)) ∧
    sha1 v = .ok (hexValue (SHA.SHA1.digest v)) ∧
    hmac (some "SHA-224") v k = .ok (.bytes (rfc2104 SHA.sha224 64 k v)) ∧
    sha2 (some "SHA-224") v = .ok (hexValue (SHA.sha224 v)) ∧
    hmac (some "SHA-256") v k = .ok (.bytes (rfc2104 SHA.sha256 64 k v)) ∧
    sha2 (some "SHA-256") v = .ok (hexValue (SHA.sha256 v)) ∧
    hmac (some "SHA-384") v k = .ok (.bytes (rfc2104 SHA.sha384 128 k v)) ∧
    sha2 (some "SHA-384") v = .ok (hexValue (SHA.sha384 v)) ∧
    hmac (some "SHA-512") v k = .ok (.bytes (rfc2104 SHA.sha512 128 k v)) ∧
    sha2 (some "SHA-512") v = .ok (hexValue (SHA.sha512 v)) := by
  have e1 := hmac_eq_rfc2104 ⟨64, SHA.SHA1.digest⟩ 20 sha1_length (by decide) k v
  have e2 := hmac_eq_rfc2104 ⟨64, SHA.sha224⟩ 28 (sha2_digest_length _ _ _) (by decide) k v
  have e3 := hmac_eq_rfc2104 ⟨64, SHA.sha256⟩ 32 (sha2_digest_length _ _ _) (by decide) k v
  have e4 := hmac_eq_rfc2104 ⟨128, SHA.sha384⟩ 48 (sha2_digest_length _ _ _) (by decide) k v
  have e5 := hmac_eq_rfc2104 ⟨128, SHA.sha512⟩ 64 (sha2_digest_length _ _ _) (by decide) k v
  have hd := hmac_dispatch v k
  refine ⟨?_, rfl, ?_, rfl, ?_, rfl, ?_, rfl, ?_, rfl⟩
  · rw [hd.1, e1]
  · rw [hd.2.1, e2]
  · rw [hd.2.2.1, e3]
  · rw [hd.2.2.2.1, e4]
  · rw [hd.2.2.2.2.1, e5]

/-- RFC 2104 §2 step (1), "append zeros to the end of K to create a B byte string": zeros already
    at the end of a key of at most B bytes change nothing. -/
theorem hmac_key_zero_extension (h : HMAC.HashFn) (key text : Bytes) (z : Nat)
    (hk : key.length + z ≤ h.blockBytes) :
    HMAC.hmac h (key ++ List.replicate z 0) text = HMAC.hmac h key text := by
  have e (k : Bytes) (hk' : k.length ≤ h.blockBytes) :
      (if k.length > h.blockBytes then h.hash k else k) = k := if_neg (by omega)
  unfold HMAC.hmac
  simp only
  rw [e key (by omega), e (key ++ List.replicate z 0) (by simp; omega)]
  have : (key ++ List.replicate z 0) ++
      List.replicate (h.blockBytes - (key ++ List.replicate z 0).length) 0
      = key ++ List.replicate (h.blockBytes - key.length) 0 := by
    rw [List.append_assoc, List.length_append, List.length_replicate, List.replicate_append_replicate]
    congr 2; omega
  rw [this]

/-- RFC 2104 §2, "applications that use keys longer than B bytes will first hash the key using H":
    such a key and its digest give the same MAC. -/
theorem hmac_long_key (h : HMAC.HashFn) (key text : Bytes) (hk : h.blockBytes < key.length)
    (hh : (h.hash key).length ≤ h.blockBytes) :
    HMAC.hmac h key text = HMAC.hmac h (h.hash key) text := by
  unfold HMAC.hmac
  simp only
  rw [if_pos hk, if_neg (by omega)]

end C27
