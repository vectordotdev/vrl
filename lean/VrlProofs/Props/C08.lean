/-
  C08 — error coalescing and infallible assignment follow their definitions.

  (a) `a ?? b`: value and final state of `a` when `a` succeeds (`b` is not evaluated: it does not
      occur on the right-hand side), otherwise `b` evaluated in the state `a` left.
  (b) `ok, err = e`: on success `ok := v`, `err := null`, value `v`; on a runtime error with text `m`
      `ok := default`, `err := m`, value `m` (the text is the implementation's `error.to_string()`,
      carried by the model as an opaque token taken from the recorded list `errs`).
  (c) the stored default belongs to `ok`'s reported type — stated with the Kind model in
      `default_mem_reported` below (over the C19 Kind model); the oracle `o.c08.default`
      evaluates `Lang.defaultSpec` on the real compiler's kind for `ok`.
-/
import VrlProofs.Props.C06
import VrlProofs.Lemmas.Vars
import VrlProofs.Props.C19
import VrlProofs.Lemmas.C03KindOf
import VrlModel.Lang.Default

namespace C08
open Lang

theorem coalesce_ok (a b : Expr) (s s1 : St) (v : Value) (h : eval a (C06.catchS s) = (.ok v, s1)) :
    eval (.op .err a b) s = (.ok v, s1) := by
  rw [eval_err, h]

theorem coalesce_err (a b : Expr) (s s1 : St) (h : eval a (C06.catchS s) = (.err, s1)) :
    eval (.op .err a b) s = eval b s1 := by
  rw [eval_err, h]

/-- success: both targets are written (`ok` first), the expression evaluates to `e`'s value. -/
theorem ok_err_success (okT errT : Tgt) (e : Expr) (d v : Value) (s s1 s2 s3 : St)
    (h : eval e (C06.catchS s) = (.ok v, s1)) (h1 : okT.insert v s1 = some s2)
    (h2 : errT.insert .null s2 = some s3) : eval (.iasg okT errT e d) s = (.ok v, s3) := by
  rw [eval_iasg, h]; simp [iasgOk, h1, h2]

/-- failure: `ok` receives the default, `err` the message, the expression evaluates to the message. -/
theorem ok_err_failure (okT errT : Tgt) (e : Expr) (d : Value) (s s1 s2 s3 : St) (msg : List Nat)
    (rest : List (List Nat)) (h : eval e (C06.catchS s) = (.err, s1)) (h1 : okT.insert d s1 = some s2)
    (hm : s2.errs = msg :: rest) (h2 : errT.insert (.bytes msg) { s2 with errs := rest } = some s3) :
    eval (.iasg okT errT e d) s = (.ok (.bytes msg), s3) := by
  rw [eval_iasg, h]; simp [iasgErr, h1, hm, h2]

/-- what "stores" means for a plain variable target: afterwards the variable reads that value. -/
theorem variable_target (n : String) (v : Value) (s : St) :
    ∃ s', (Tgt.internal n []).insert v s = some s' ∧ s'.getVar n = some v :=
  ⟨s.setVar n v, rfl, by simp⟩

/-- `x, err = !1` with recorded message "E" : `x = false` (default), `err = "E"`, value "E" -/
def exProg : Exprs :=
  .cons (.iasg (.internal "x" []) (.internal "err" [])
      (.not (.lit (.int 1))) (.bool false)) .nil

def exS : St :=
  { vars := [], event := .obj .nil, metadata := .null, faults := [], ops := 0, log := [], errs := [[69]] }

example :
    (run exProg exS).1 = .ok (.bytes [69]) ∧
    (run exProg exS).2.getVar "x" = some (.bool false) ∧
    (run exProg exS).2.getVar "err" = some (.bytes [69]) := by
  decide

/-! ### (c) the stored default (`DefaultValue::default_value`, model `Lang.defaultValue`) -/

theorem defaultValue_ind (k : Kind) (P : Value → Prop) (h1 : P (.bytes [])) (h2 : P (.int 0))
    (h3 : P (.float 0)) (h4 : P (.bool false)) (h5 : P (.ts 0)) (h6 : P (.regex [])) (h7 : P (.arr .nil))
    (h8 : P (.obj .nil)) (h9 : P .null) : P (defaultValue k) :=
  iteInduction (fun _ => h1) fun _ => iteInduction (fun _ => h2) fun _ => iteInduction (fun _ => h3) fun _ =>
    iteInduction (fun _ => h4) fun _ => iteInduction (fun _ => h5) fun _ => iteInduction (fun _ => h6) fun _ =>
    iteInduction (fun _ => h7) fun _ => iteInduction (fun _ => h8) fun _ => h9

theorem defaultValue_cases (k : Kind) :
    defaultValue k = .bytes [] ∨ defaultValue k = .int 0 ∨ defaultValue k = .float 0 ∨
    defaultValue k = .bool false ∨ defaultValue k = .ts 0 ∨ defaultValue k = .regex [] ∨
    defaultValue k = .arr .nil ∨ defaultValue k = .obj .nil ∨ defaultValue k = .null := by
  refine defaultValue_ind k (fun v => v = .bytes [] ∨ v = .int 0 ∨ v = .float 0 ∨ v = .bool false ∨
    v = .ts 0 ∨ v = .regex [] ∨ v = .arr .nil ∨ v = .obj .nil ∨ v = .null) ?_ ?_ ?_ ?_ ?_ ?_ ?_ ?_ ?_ <;> simp

theorem mem_union_kindOf (v : Value) (k : Kind) (hs : v.Sorted = true) (tk : Spec.Tame k) :
    Spec.mem v (k.union v.kindOf) = true :=
  (Spec.union_locSub_right tk (C03.kindOf_good v hs)).elem (C19.mem_kindOf v hs)

/-- **C08 (c)**: the default stored in `ok` when `e` fails belongs to the type the compiler reports
    for `ok`, which is `e`'s kind united with the kind of the default (`assignment.rs`,
    `expr_result.union(TypeDef::from(default.kind()))`) — for every kind `k` of `e`. -/
theorem default_mem_reported (k : Kind) (sk : k.SortedK = true) (ik : k.hasNonAnyInf = false) :
    Spec.mem (defaultValue k) (k.union (defaultValue k).kindOf) = true :=
  mem_union_kindOf _ k (defaultValue_ind k (·.Sorted = true) rfl rfl rfl rfl rfl rfl rfl rfl rfl) ⟨sk, ik⟩

/-- for the exact kind `bytes` the stored default is the empty string, which already belongs to the
    kind: there the union of `default_mem_reported` adds nothing. -/
theorem default_mem_exact_bytes (k : Kind) (h : k.isBytes = true) : defaultValue k = .bytes [] := by
  simp [defaultValue, h]

example : defaultValue Kind.bytes = .bytes [] ∧ defaultValue Kind.integer = .int 0 ∧
    defaultValue (Kind.bytes.union Kind.integer) = .null := by decide

end C08
