/-
  C33 — Diagnostics are always renderable and point into the source.

  Property (full strength): for every source text, every label of every diagnostic satisfies
      WF src (a, b) := a ≤ b ∧ b ≤ |src| ∧ boundary a ∧ boundary b
  and rendering succeeds. The lexer, the LALRPOP parser and the compiler's span plumbing as a whole
  are NOT modelled (DESIGN §3): for them the property is only evaluated by the `o.c33` oracle on the
  real compiler. Modelled (lean/VrlModel/Spans.lean, tied to the code by the `c33.*` correspondence
  ops) are the span producers that do arithmetic; for those this file states `ProducersSpec` (the
  full statement, FALSE of the code in its first two clauses — witnesses in
  VrlProofs/Witness/C33.lean) and proves what holds of `verify_overwritable` and `Assignment::new`
  (assignment.rs) and of the lexer's literal errors (lex.rs), each theorem under the hypothesis it
  names.
-/
import VrlProofs.Lemmas.C33

namespace C33
open Spans

/-! The property restricted to the modelled producers, at full strength, one clause per producer:
    whatever the kind check answers and whatever the path is, the spans reported by
    `verify_overwritable` for a well-formed target span are well-formed; same for `assignment_span`
    and the lexer labels (of UTF-8 sources). The first two clauses are FALSE of the code
    (`Witness/C33.lean`: `not_overwritableSpec`, `not_assignmentSpec`); the lexer clause HOLDS
    (`lexSpec_holds`; the code as of /repo 45c5794 + 694e815). -/

def OverwritableSpec : Prop :=
  ∀ (src : List Nat) (valid : Nat → Bool) (target : Span) (segs : List Seg) (x : Span × Span),
    WF src target → verifyOverwritable valid target segs = some x → WF src x.1 ∧ WF src x.2

def AssignmentSpec : Prop :=
  ∀ (src : List Nat) (target expr s : Span),
    WF src target → WF src expr → target.stop ≤ expr.start → target.start < target.stop →
    assignmentSpan target expr = .ok s → WF src s

def LexSpec : Prop :=
  ∀ (src : List Nat) (e : LexErr), wfUtf8 src = true → lexFirst src = some (.error e) → WF src e.label

def ProducersSpec : Prop := OverwritableSpec ∧ AssignmentSpec ∧ LexSpec

/-- all inputs (any kind check, any path, any Display/spelling mismatch): `saturating_sub` keeps
    `segment_span` ordered and inside the source, `parent_span` ends inside the source. -/
theorem overwritable_bounds (src : List Nat) (valid : Nat → Bool) (target : Span) (segs : List Seg)
    (x : Span × Span) (ht : target.stop ≤ src.length)
    (h : verifyOverwritable valid target segs = some x) :
    x.1.start ≤ x.1.stop ∧ x.1.stop ≤ src.length ∧ x.2.stop ≤ src.length ∧
    x.2.start = target.start := by
  have hm := overwritableLoop_mem valid _ _ _ h
  have := walk_bounds _ _ _ hm
  omega

/-- `parent_span` is ordered (and `segment_span` stays right of the target start) when the
    Display lengths fit into the target text. Without `fitsB` this is false: `witness_reversed`. -/
theorem overwritable_ordered_partial (valid : Nat → Bool) (target : Span) (segs : List Seg)
    (x : Span × Span) (hf : fitsB target.start target.stop segs.reverse = true)
    (h : verifyOverwritable valid target segs = some x) :
    x.2.start ≤ x.2.stop ∧ target.start ≤ x.1.start := by
  have hm := overwritableLoop_mem valid _ _ _ h
  exact walk_ordered _ _ hf _ hm

/-- "the target text is the path spelled in the source": `spell` lists, from the back, every
    segment with the number of source bytes it occupies (its dot included); when no segment is
    spelled shorter than its Display text + dot, the lengths fit. -/
theorem fits_of_spelling (start : Nat) : ∀ (spell : List (Seg × Nat)) (stop : Nat),
    (∀ p ∈ spell, displayLen p.1 + dotLen p.1 ≤ p.2) →
    start + (spell.map Prod.snd).sum ≤ stop →
    fitsB start stop (spell.map Prod.fst) = true := by
  intro spell
  induction spell with
  | nil => intro stop _ h; simpa [fitsB] using h
  | cons p rest ih =>
    intro stop hall hsum
    have hp := hall p (List.mem_cons_self)
    simp only [List.map_cons, List.sum_cons] at hsum
    simp only [List.map_cons, fitsB, Bool.and_eq_true, decide_eq_true_eq]
    refine ⟨by omega, ih _ (fun q hq => hall q (List.mem_cons_of_mem _ hq)) (by omega)⟩

/-- full well-formedness (order, range, character boundaries) of both reported spans when the
    source really holds the canonical spelling `.` + Display text of every popped segment.
    Without `canonAtB` this is false: `witness_split_char`, `witness_reversed`. -/
theorem overwritable_wf_partial (src : List Nat) (valid : Nat → Bool) (target : Span)
    (segs : List Seg) (x : Span × Span) (ht : WF src target)
    (hc : canonAtB src target.start target.stop segs.reverse = true)
    (h : verifyOverwritable valid target segs = some x) :
    WF src x.1 ∧ WF src x.2 := by
  have hm := overwritableLoop_mem valid _ _ _ h
  exact walk_wf src _ target ht.2.1 ht.2.2.1 ht.2.2.2 hc _ hm

/-- C04 clause for `expr_span.start() - 1`: a non-empty target in front of the expression rules
    the underflow out. -/
theorem assignmentSpan_no_panic (target expr : Span) (h1 : target.start < target.stop)
    (h2 : target.stop ≤ expr.start) : assignmentSpan target expr ≠ .panic := by
  unfold assignmentSpan
  split
  · omega
  · simp

theorem assignmentSpan_range (src : List Nat) (target expr s : Span) (h1 : target.start < target.stop)
    (h2 : target.stop ≤ expr.start) (he : expr.start ≤ src.length)
    (h : assignmentSpan target expr = .ok s) : s.start ≤ s.stop ∧ s.stop ≤ src.length := by
  unfold assignmentSpan at h
  split at h
  · cases h
  · cases h; simp; omega

/-- fully WF when the byte in front of the expression is ASCII (in a well-formed program it is
    the `=`, a space, a newline …). A multi-byte white-space character there is the counterexample
    `witness_assignment_split_char`. -/
theorem assignmentSpan_wf_partial (src : List Nat) (target expr s : Span) (b : Nat)
    (ht : WF src target) (h1 : target.start < target.stop) (h2 : target.stop ≤ expr.start)
    (he : expr.start ≤ src.length) (hb : src[expr.start - 1]? = some b) (hb' : b < 128)
    (h : assignmentSpan target expr = .ok s) : WF src s := by
  have hr := assignmentSpan_range src target expr s h1 h2 he h
  unfold assignmentSpan at h
  split at h
  · cases h
  · cases h
    exact ⟨hr.1, hr.2, ht.2.2.1, boundary_of_ascii hb hb'⟩

/-- all sources: the label of a top-level string-literal error (E207, E209, E211) is non-empty,
    ordered and inside the source; in particular `(len, len + 1)` cannot come from here. -/
theorem lex_string_label_range (src : List Nat) (e : LexErr) (hne : src ≠ [])
    (h : lexStringAt0 src = .error e) :
    e.label.start < e.label.stop ∧ e.label.stop ≤ src.length := by
  have hp : PosOK src.length 0 (charIndices src) :=
    posOK_charIndicesFrom 0 src _ 0 (Nat.le_refl _) (Nat.le_of_eq (Nat.zero_add _))
  rcases scanString_label (fun _ => True) src.length 0 trivial _ .normal 0 e (posOK_tail hp)
    (fun _ _ => ⟨trivial, trivial⟩) (Nat.zero_le _) trivial h with rfl | hg
  · exact ⟨Nat.zero_lt_one, List.length_pos_iff.mpr hne⟩
  · exact ⟨hg.1, hg.2.1⟩

/-- ASCII-only sources, whether or not they open with `"`: that label is well-formed, with no
    UTF-8 reasoning.  On the sources that open with `"` this is a special case of
    `lex_string_wf_utf8`. -/
theorem lex_string_wf_partial (src : List Nat) (e : LexErr) (hne : src ≠ [])
    (ha : ∀ b ∈ src, b < 128) (h : lexStringAt0 src = .error e) : WF src e.label := by
  have hr := lex_string_label_range src e hne h
  exact ⟨by omega, hr.2, boundary_of_allAscii ha (by omega), boundary_of_allAscii ha hr.2⟩

/-- every UTF-8 source: the label of a top-level string-literal error (E207, E209, E211) is
    well-formed; the label of an invalid escape covers the whole character,
    `(start, start + len_utf8(ch))` (/repo 45c5794; finding class `span:E209:split_char`, fixed). -/
theorem lex_string_wf_utf8 (tl : List Nat) (e : LexErr) (hu : wfUtf8 (34 :: tl) = true)
    (h : lexStringAt0 (34 :: tl) = .error e) : WF (34 :: tl) e.label := by
  have hu' : wfUtf8 tl = true := wfUtf8_cons_ascii (by omega) hu
  have hb1 : isCharBoundary (34 :: tl) 1 = true := boundary_wfUtf8 [34] tl rfl hu'
  rw [lexStringAt0, charIndices, charIndicesFrom_ascii 0 34 tl (by omega)] at h
  rcases scanString_label (isCharBoundary (34 :: tl) · = true) _ 0 (boundary_len _) _ .normal 1 e
    (posOK_charIndicesFrom 1 tl _ 1 (Nat.le_refl _) (by rw [List.length_cons, Nat.add_comm]; exact Nat.le_refl _))
    (allGood_charIndicesFrom (34 :: tl) tl [34] rfl hu')
    (Nat.le_add_left _ _) trivial h with rfl | hg
  · exact ⟨Nat.zero_le _, Nat.le_add_left _ _, rfl, hb1⟩
  · exact ⟨Nat.le_of_lt hg.1, hg.2⟩

/-- the nested lexer of `query_start` (string whose opening quote is byte `pos`, inside a
    delimited region): every error label is well-formed; "unterminated string" is reported on the
    opening quote, `(pos, pos + 1)` (/repo 694e815; finding class `span:E207:past_end`, fixed). -/
theorem lex_nested_wf (src : List Nat) (pos : Nat) (e : LexErr)
    (hq : src[pos]? = some 34) (hu : wfUtf8 (src.drop (pos + 1)) = true)
    (h : lexNestedString src pos = .error e) : WF src e.label := by
  have hpos : pos + 1 ≤ src.length := (List.getElem?_eq_some_iff.mp hq).1
  unfold lexNestedString at h
  generalize hsub : src.drop (pos + 1) = sub at h hu
  have hsrc : src = src.take (pos + 1) ++ sub := by rw [← hsub]; exact (List.take_append_drop _ _).symm
  have hlen : (src.take (pos + 1)).length = pos + 1 := by rw [List.length_take]; omega
  have hb1 : isCharBoundary src (pos + 1) = true := by
    rw [← hlen]; exact boundary_wfUtf8 _ sub hsrc hu
  have hstr : WF src (LexErr.stringLiteral pos).label :=
    ⟨Nat.le_succ _, hpos, boundary_of_ascii hq (by omega), hb1⟩
  -- any other error: well-formed in the text behind the quote, hence, shifted, in the source
  have shift : ∀ e0, scanString sub.length 0 .normal (charIndices sub) = .error e0 →
      e0 ≠ .stringLiteral 0 → WF src (e0.offsetBy (pos + 1)).label := by
    intro e0 hscan hs
    have hg := (scanString_label (isCharBoundary sub · = true) _ 0 (boundary_len _) _ .normal 0 e0
      (posOK_charIndicesFrom 0 sub _ 0 (Nat.le_refl _) (Nat.le_of_eq (Nat.zero_add _)))
      (allGood_charIndicesFrom sub sub [] rfl hu) (Nat.zero_le _) trivial hscan).resolve_left hs
    have := wf_shift (src.take (pos + 1)) sub hu e0.label ⟨Nat.le_of_lt hg.1, hg.2⟩
    rwa [← hsrc, hlen, ← offsetBy_label] at this
  cases hscan : scanString sub.length 0 .normal (charIndices sub) with
  | ok v => simp only [hscan] at h; cases h
  | error e0 =>
    simp only [hscan] at h
    cases e0 with
    | stringLiteral s => cases h; exact hstr
    | literal s => cases h; exact shift _ hscan nofun
    | escapeChar s ch => cases h; exact shift _ hscan nofun
    | unicodeEscape s t => cases h; exact shift _ hscan nofun

/-- all sources: an unterminated `s'…`, `r'…`, `t'…` literal at the start of the source is
    reported at `(0, 1)`, which is well-formed. -/
theorem lex_quoted_wf (c : Nat) (rest : List Nat) (e : LexErr)
    (h : scanQuoted (c :: 39 :: rest).length 0 false ((charIndices (c :: 39 :: rest)).drop 2) = .error e) :
    WF (c :: 39 :: rest) e.label := by
  have := scanQuoted_error _ _ _ _ _ h
  subst this
  refine ⟨by simp [LexErr.label], by simp [LexErr.label], rfl, ?_⟩
  simp [LexErr.label, isCharBoundary, isCont]

/-- the lexer clause of `ProducersSpec` HOLDS, for every UTF-8 source and every entry shape of `lexFirst` -/
theorem lexSpec_holds : LexSpec := by
  intro src e hu
  -- the entry shapes of `lexFirst`: `"…`, `s'…`/`r'…`/`t'…`, another letter before `'`, `[ "…`, `{ "…`, `f( "…`, none
  fun_cases lexFirst src <;> intro h
  · exact lex_string_wf_utf8 _ e hu (Option.some.inj h)
  · exact lex_quoted_wf _ _ e (Option.some.inj h)
  · cases h
  · exact lex_nested_wf _ 2 e rfl
      (wfUtf8_cons_ascii (by omega) (wfUtf8_cons_ascii (by omega) (wfUtf8_cons_ascii (by omega) hu)))
      (Option.some.inj h)
  · exact lex_nested_wf _ 2 e rfl
      (wfUtf8_cons_ascii (by omega) (wfUtf8_cons_ascii (by omega) (wfUtf8_cons_ascii (by omega) hu)))
      (Option.some.inj h)
  · exact lex_nested_wf _ 3 e rfl
      (wfUtf8_cons_ascii (by omega) (wfUtf8_cons_ascii (by omega)
        (wfUtf8_cons_ascii (by omega) (wfUtf8_cons_ascii (by omega) hu)))) (Option.some.inj h)
  · cases h

end C33
