/-
  C18 — Value path operations obey get/insert/remove laws.
  Model: VrlModel/Value.lean (`crud::{get,insert,remove}` of src/value/value/crud, tied to the code
  by the `val.*` correspondence ops); the side conditions of the partial laws are in VrlModel/C18.lean.

  (1) get_insert            after inserting x at p, reading p returns x           — all v p x
  (1b) insert_returns_get  insert hands back exactly what get returned before       — all v p x
  (2) frame_partial         locations that diverge from p are unchanged            — under `frameOK`
      (the full statement is false of the code: witnesses in VrlProofs/Witness/C18.lean)
  (2b) frame_shift_negative  a prepending insert keeps every negative position     — class `D_shift`
  (3) remove_returns_get    remove returns exactly what get returned               — all v p prune
  (3b) get_after_remove_partial  a removed field path reads as absent             — field paths (index: witness)
  (4) get_through_scalar    a root value that is no container has nothing below it — all v s rest
      remove_absent_unchanged  removing what get does not find changes nothing    — all v p prune
  (5) insert_sorted / remove_sorted   object keys stay strictly sorted             — all v p x
  (6) insert_panics_iff     the only panic is `-isize::MIN`                        — all v p x
-/
import VrlProofs.Lemmas.C18
import VrlProofs.Lemmas.Sorted

namespace C18
open Value

theorem getOpt_field (c : Option Value) (f : List Nat) (q : Path) :
    getOpt c (.field f :: q) = getOpt ((asMap c).get f) q :=
  getOpt_cons c _ q

theorem getOpt_index (c : Option Value) (i : Int) (q : Path) :
    getOpt c (.index i :: q) = getOpt ((asList c).getIdx i) q :=
  getOpt_cons c _ q

theorem getOpt_insertOpt (p : Path) : ∀ (c : Option Value) (x : Value),
    getOpt (some (insertOpt c p x)) p = some x := by
  induction p with
  | nil => intro c x; rfl
  | cons s rest ih =>
    intro c x
    rw [insertOpt_cons, getOpt_cons, child_put_same]
    exact ih _ x

theorem get_insert (v : Value) (p : Path) (x : Value) (v' : Value) (prev : Option Value)
    (h : v.insert p x = .ok (v', prev)) : v'.get p = some x := by
  obtain ⟨rfl, -⟩ := insert_ok h
  exact getOpt_insertOpt p (some v) x

/-- (6) `insert` panics exactly when the path holds the index `isize::MIN` (`-index` overflows). -/
theorem insert_panics_iff (v : Value) (p : Path) (x : Value) :
    v.insert p x = .panic ↔ pathPanics p = true := by
  unfold Value.insert
  split <;> simp_all

theorem getOpt_insertOpt_frame (p : Path) (c : Option Value) (q : Path) (x : Value)
    (hd : diverge p q = true) (hok : frameOK c p = true) :
    getOpt (some (insertOpt c p x)) q = getOpt c q :=
  getOpt_insertOpt_of_divergeOK p c q x (divergeOK_of_frameOK p c q hd hok)

theorem frame_partial (v : Value) (p q : Path) (x : Value) (v' : Value) (prev : Option Value)
    (hd : diverge p q = true) (hok : frameOK (some v) p = true)
    (h : v.insert p x = .ok (v', prev)) : v'.get q = v.get q := by
  obtain ⟨rfl, -⟩ := insert_ok h
  exact getOpt_insertOpt_frame p (some v) q x hd hok

theorem removeOpt_fst (p : Path) : ∀ (c : Option Value) (prune : Bool),
    (removeOpt c p prune).map (·.1) = getOpt c p := by
  induction p with
  | nil => intro c prune; cases c <;> rfl
  | cons s rest ih =>
    intro c prune
    cases c with
    | none => cases s <;> rfl
    | some cv =>
      cases s with
      | field f =>
        cases cv with
        | obj m =>
          simp only [removeOpt, getOpt]
          rw [← ih (m.get f) prune]
          cases removeOpt (m.get f) rest prune <;> rfl
        | _ => rfl
      | index i =>
        cases cv with
        | arr a =>
          simp only [removeOpt, getOpt]
          rw [← ih (a.getIdx i) prune]
          cases removeOpt (a.getIdx i) rest prune <;> rfl
        | _ => rfl

theorem removeOpt_eq_none (p : Path) (c : Option Value) (prune : Bool) :
    removeOpt c p prune = none ↔ getOpt c p = none := by
  rw [← removeOpt_fst p c prune]
  cases removeOpt c p prune <;> simp

theorem remove_returns_get (v : Value) (p : Path) (prune : Bool) :
    (v.remove p prune).1 = v.get p := by
  unfold Value.remove Value.get
  cases hr : removeOpt (some v) p prune with
  | none => exact ((removeOpt_eq_none p _ prune).1 hr).symm
  | some r => rw [← removeOpt_fst p (some v) prune, hr]; rfl

theorem get_through_scalar (v : Value) (s : Seg) (rest : Path)
    (hs : (∀ m, v ≠ .obj m) ∧ (∀ a, v ≠ .arr a)) : v.get (s :: rest) = none := by
  unfold Value.get
  cases v with
  | obj m => exact absurd rfl (hs.1 m)
  | arr a => exact absurd rfl (hs.2 a)
  | _ => cases s <;> rfl

/-- (4b) removing a location that `get` does not find returns nothing and changes nothing
    (in particular every path through a non-container). -/
theorem remove_absent_unchanged (v : Value) (p : Path) (prune : Bool) (h : v.get p = none) :
    v.remove p prune = (none, v) := by
  unfold Value.remove
  rw [(removeOpt_eq_none p (some v) prune).2 h]

theorem insertOpt_sorted (p : Path) : ∀ (c : Option Value) (x : Value),
    optSorted c = true → x.Sorted = true → (insertOpt c p x).Sorted = true := by
  induction p with
  | nil => intro c x _ hx; exact hx
  | cons s rest ih =>
    intro c x hc hx
    rw [insertOpt_cons]
    exact put_sorted s hc (ih _ x (child_sorted s hc) hx)

theorem insert_sorted (v : Value) (p : Path) (x : Value) (v' : Value) (prev : Option Value)
    (hv : v.Sorted = true) (hx : x.Sorted = true) (h : v.insert p x = .ok (v', prev)) :
    v'.Sorted = true := by
  obtain ⟨rfl, -⟩ := insert_ok h
  exact insertOpt_sorted p (some v) x hv hx

theorem emptied_sorted (v : Value) : (emptied v).Sorted = true := by
  cases v <;> rfl

theorem removeOpt_sorted (p : Path) : ∀ (c : Option Value) (prune : Bool) (prev new : Value)
    (gone : Bool), optSorted c = true → removeOpt c p prune = some (prev, new, gone) →
    new.Sorted = true := by
  intro c prune
  -- the branches of `removeOpt` that return something: the end of the path (2), a field of an
  -- object (4), an element of an array (6)
  fun_induction removeOpt c p prune with
  | case2 v => intro _ _ _ _ h; cases h; exact emptied_sorted v
  | case4 m f rest prune prev new gone hr m' ih =>
    intro _ _ _ hc h; cases h
    have hm : m.Sorted = true := hc
    have hnew := ih _ _ _ (child_sorted (.field f) hc) hr
    show VMap.Sorted (if gone = true then _ else _) = true
    split
    · exact VMap.sorted_remove m f hm
    · exact VMap.sorted_insert m f new hm hnew
  | case6 a i rest prune prev new gone hr a' ih =>
    intro _ _ _ hc h; cases h
    have ha : a.Sorted = true := hc
    -- the location is given: found by unification against `a.getIdx i` it is slow to check
    have hnew := ih _ _ _ (child_sorted (c := some (.arr a)) (.index i) hc) hr
    show VList.Sorted (match a.arrayIndex i with | some n => _ | none => _) = true
    split
    · split
      · exact VList.sorted_removeN a _ ha
      · exact VList.sorted_setN a _ new ha hnew
    · exact ha
  | _ => intro _ _ _ _ h; cases h

theorem remove_sorted (v : Value) (p : Path) (prune : Bool) (hv : v.Sorted = true) :
    (v.remove p prune).2.Sorted = true := by
  unfold Value.remove
  cases hr : removeOpt (some v) p prune with
  | none => exact hv
  | some r =>
    obtain ⟨prev, new, gone⟩ := r
    exact removeOpt_sorted p (some v) prune _ _ _ hv hr

theorem insertPrev_eq_getOpt (p : Path) : ∀ (c : Option Value), insertPrev c p = getOpt c p := by
  induction p with
  | nil => intro c; rfl
  | cons s rest ih =>
    intro c
    rw [getOpt_cons]
    cases s with
    | field f => exact ih _
    | index i =>
      -- at the last segment `insert_value` reports the previous element itself
      cases rest with
      | nil => exact VList.insertIdxPrev_eq_getIdx _ i
      | cons t r => exact ih _

theorem insertPrev_none (p : Path) : insertPrev none p = none := by
  rw [insertPrev_eq_getOpt, getOpt_none]

theorem insert_returns_get (v : Value) (p : Path) (x : Value) (v' : Value) (prev : Option Value)
    (h : v.insert p x = .ok (v', prev)) : prev = v.get p := by
  obtain ⟨-, rfl⟩ := insert_ok h
  exact insertPrev_eq_getOpt p (some v)

theorem removeOpt_gone_nil {c : Option Value} {prune : Bool} {prev new : Value} {gone : Bool}
    (h : removeOpt c [] prune = some (prev, new, gone)) : gone = true := by
  cases c with
  | none => cases h
  | some v => cases h; rfl

theorem getOpt_removeOpt (p : Path) : ∀ (c : Option Value) (prune : Bool) (prev new : Value)
    (gone : Bool), fieldsOnly p = true → p ≠ [] → optSorted c = true →
    removeOpt c p prune = some (prev, new, gone) → getOpt (some new) p = none := by
  intro c prune
  -- of the branches of `removeOpt` that return something (2, 4, 6 as in `removeOpt_sorted`) only
  -- the field of an object (4) is a non-empty path of fields
  fun_induction removeOpt c p prune with
  | case2 => intro _ _ _ _ hne; exact absurd rfl hne
  | case4 m f rest prune prev new gone hr m' ih =>
    intro _ _ _ hf _ hs h; cases h
    have hm : m.Sorted = true := hs
    show getOpt ((if gone = true then m.remove f else m.insert f new).get f) rest = none
    cases gone with
    | true =>
      rw [if_pos rfl, VMap.get_remove_same m f hm]
      exact getOpt_none rest
    | false =>
      rw [if_neg Bool.false_ne_true, VMap.get_insert_same]
      -- the field stays, so the removal went deeper
      have hne : rest ≠ [] := fun e => by subst e; cases removeOpt_gone_nil hr
      exact ih _ _ _ hf hne (child_sorted (.field f) hs) hr
  | case6 => intro _ _ _ hf; cases hf
  | _ => intro _ _ _ _ _ _ h; cases h

/-- (3b) after removing at a non-root path of field segments the path reads as absent
    (with and without pruning). `_partial`: for index segments the statement is false of code and
    model alike, because the later elements move down (`remove_then_get_index_witness`). -/
theorem get_after_remove_partial (v : Value) (p : Path) (prune : Bool) (hv : v.Sorted = true)
    (hf : fieldsOnly p = true) (hne : p ≠ []) : (v.remove p prune).2.get p = none := by
  unfold Value.remove Value.get
  cases hr : removeOpt (some v) p prune with
  | none => exact (removeOpt_eq_none p _ prune).1 hr
  | some r =>
    obtain ⟨prev, new, gone⟩ := r
    exact getOpt_removeOpt p (some v) prune prev new gone hf hne hv hr

/-- `[1, 2]`: remove `[0]`, then `[0]` reads `2`. -/
theorem remove_then_get_index_witness :
    ((Value.arr (.cons (.int 1) (.cons (.int 2) .nil))).remove [.index 0] false).2.get [.index 0]
      = some (.int 2) := by decide

/-- non-vacuity: `{"a": {"b": 1}}`, `.a.b`, pruning. -/
example : ((Value.obj (.cons [97] (.obj (.cons [98] (.int 1) .nil)) .nil)).remove
    [.field [97], .field [98]] true).2 = .obj .nil := by decide

open VList in
/-- when a negative index before the start prepends (class `D_shift`), every existing element keeps
    its NEGATIVE position. -/
theorem shift_keeps_negative (a : VList) (k j : Nat) (x : Value) (hk : a.length < k)
    (hj : 0 < j) (hjl : j ≤ a.length) :
    (a.insertIdx (-(k : Int)) x).getIdx (-(j : Int)) = a.getIdx (-(j : Int)) := by
  rw [insertIdx_neg_gt a k x (by omega) hk]
  exact getIdx_neg_append (.cons x _) a j hj hjl

/-- (2b) frame law inside the class `D_shift`: on a top-level array a prepending insert at `[-k]`
    leaves every existing `[-j]` (`j ≤ len`) unchanged. -/
theorem frame_shift_negative (v : Value) (p q : Path) (x : Value) (h : shiftNeg v p q = true) :
    (insertOpt (some v) p x).get q = v.get q := by
  revert h
  fun_cases shiftNeg v p q with
  | case1 a i j =>
    intro h
    simp only [Bool.and_eq_true, decide_eq_true_eq] at h
    obtain ⟨⟨⟨hi, hlen⟩, hj⟩, hjl⟩ := h
    obtain ⟨k, rfl⟩ := Int.exists_eq_neg_ofNat (Int.le_of_lt hi)
    obtain ⟨l, rfl⟩ := Int.exists_eq_neg_ofNat (Int.le_of_lt hj)
    rw [Int.neg_neg] at hlen hjl
    show (a.insertIdx (-(k : Int)) x).getIdx (-(l : Int)) = a.getIdx (-(l : Int))
    exact shift_keeps_negative a k l x (Int.ofNat_lt.1 hlen)
      (Nat.pos_of_ne_zero fun e => by subst e; exact absurd hj (by decide)) (Int.ofNat_le.1 hjl)
  | case2 => intro h; cases h

end C18
