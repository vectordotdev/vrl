/-
  C05 — stdlib calls terminate promptly.

  What a theorem carries here: (1) every modelled function is a *total* Lean definition accepted
  by the kernel's termination checker (structural recursion or explicit fuel bounded by the input),
  so the modelled algorithms terminate on every input — a fact of the definitions, not a separate
  theorem; (2) output sizes are linear in the input for the modelled codecs and string functions.
  The size theorems stay in the files of their components, under their own names;
  lean/obligations/C05.txt is the complete list, and this file imports the modules of most of them:
    `C23.pad_length`          block padding adds at most one block
    `C23.encrypt_length`      ciphertext length: unchanged, padded to the next block, or plus a
                              16-byte tag
    `C27.digest_lengths`, `C27.hex_result_lengths`
                              digests have their fixed length whatever the input size
    `C28.truncate_strlen`     `truncate` never yields more than the limit plus the suffix
  Wall-clock behaviour of the real code and all unmodelled functions are outside any theorem: the
  watchdog sweep of the check (`o.c05.fn`: every registered function x extreme arguments, 2 s per
  call, output-size bound) is search, reported as such.
-/
import VrlProofs.Props.C23
import VrlProofs.Props.C27
import VrlProofs.Props.C28

namespace C05

#check @C28.truncate_strlen

end C05
