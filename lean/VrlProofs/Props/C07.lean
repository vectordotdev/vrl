/-
  C07 — `abort` terminates the program and cannot be intercepted.

  `abort` (with or without message) evaluates to the outcome `abort m`; the generic propagation
  theorems of C06 (`Res.isEscape` covers `abort`) show that no enclosing expression intercepts it;
  here they are instantiated for the three catchers the property names — error coalescing,
  infallible assignment, closures — and for the program boundary, where the run ends with
  `RunOutcome.abort m` carrying the message.
-/
import VrlProofs.Props.C06

namespace C07
open Lang

/-- `abort` without a message: the outcome `abort none`; the message slot is not evaluated. -/
theorem abort_plain (e : Expr) (s : St) :
    eval (.abort false e) s = (.abort none, { s with evAbort := true }) := rfl

/-- `abort "msg"`: the message is the (valid UTF-8) string the expression evaluates to. -/
theorem abort_message (e : Expr) (s s1 : St) (b : List Nat) (h : eval e s = (.ok (.bytes b), s1))
    (hu : validUtf8 b = true) : eval (.abort true e) s = (.abort (some b), { s1 with evAbort := true }) := by
  rw [eval_abort_msg, h]; exact if_pos hu

/-- a non-string message is a runtime error, not an abort. -/
theorem abort_message_nonstring (e : Expr) (s s1 : St) (v : Value) (h : eval e s = (.ok v, s1))
    (hv : ∀ b, v ≠ .bytes b) : eval (.abort true e) s = (.err, s1) := by
  rw [eval_abort_msg, h]
  cases v with
  | bytes b => exact absurd rfl (hv b)
  | _ => rfl

/-- `??` does not catch it. -/
theorem not_caught_by_coalesce (l r : Expr) (s s1 : St) (m : Option (List Nat))
    (h : eval l (C06.catchS s) = (.abort m, s1)) : eval (.op .err l r) s = (.abort m, s1) :=
  C06.coalesce_lhs l r s s1 _ rfl h

/-- `ok, err = …` does not catch it and assigns neither target. -/
theorem not_caught_by_ok_err (okT errT : Tgt) (e : Expr) (d : Value) (s s1 : St) (m : Option (List Nat))
    (h : eval e (C06.catchS s) = (.abort m, s1)) : eval (.iasg okT errT e d) s = (.abort m, s1) :=
  C06.ok_err_assign okT errT e d s s1 _ rfl h

/-- closures do not catch it: the run of the body on one element ends with the abort (that the
    parameters are restored on this path too is C13). -/
theorem not_caught_by_closure_kv (vars : List String) (body : Thunk) (k : List Nat) (v : Value)
    (s s1 : St) (m : Option (List Nat))
    (h : body (cInsert (cInsert s (cIdent vars 0) (.bytes k)).2 (cIdent vars 1) v).2 = (.abort m, s1)) :
    (runKeyValue vars body k v s).1 = .abort m := by
  unfold runKeyValue runBody
  simp only [h]

theorem not_caught_by_closure_iv (vars : List String) (body : Thunk) (i : Nat) (v : Value)
    (s s1 : St) (m : Option (List Nat))
    (h : body (cInsert (cInsert s (cIdent vars 0) (.int i)).2 (cIdent vars 1) v).2 = (.abort m, s1)) :
    (runIndexValue vars body i v s).1 = .abort m := by
  unfold runIndexValue runBody
  simp only [h]

/-- … and an aborting iteration stops `for_each` (no later element is visited). -/
theorem for_each_stops (vars : List String) (body : Thunk) (k : List Nat) (v : Value) (m' : VMap)
    (s s1 : St) (m : Option (List Nat)) (h : runKeyValue vars body k v s = (.abort m, s1)) :
    forEachMap vars body (.cons k v m') s = (.abort m, s1) := by
  rw [forEachMap, h]

/-- at the program boundary the run ends with the abort outcome carrying the message. -/
theorem program_outcome (prog : Exprs) (s s1 : St) (m : Option (List Nat))
    (hroot : (s.tick 0 false []).1 = false)
    (h : evalSeq prog (s.tick 0 false []).2 = (.abort m, s1)) : run prog s = (.abort m, s1) :=
  C06.program_abort prog s s1 m hroot h

/-- `x = 1; y, err = ![{ abort "m" }] ; x = 3` -/
def exProg : Exprs :=
  .cons (.asg (.internal "x" []) (.lit (.int 1)))
    (.cons (.iasg (.internal "y" []) (.internal "err" [])
        (.not (.arr (.cons (.blk (.cons (.abort true (.lit (.bytes [109]))) .nil)) .nil)))
        (.int 0))
    (.cons (.asg (.internal "x" []) (.lit (.int 3))) .nil))

/-- non-vacuity / end-to-end: the abort inside an array inside a negation inside an infallible
    assignment ends the program with message "m"; `x` keeps 1 and `y`, `err` stay unset. -/
example : (run exProg C06.exS0).1 = .abort (some [109]) ∧ (run exProg C06.exS0).2.getVar "x" = some (.int 1)
    ∧ (run exProg C06.exS0).2.getVar "y" = none := by
  decide +kernel

end C07
