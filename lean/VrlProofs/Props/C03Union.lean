/-
  C03 – the functions whose type_def is computed with `Kind::union` / `exact_length` (`values`,
  `push`, `append`), and the claim for all modelled functions at once (`sound_partial`).
-/
import VrlProofs.Props.C03
import VrlProofs.Lemmas.C03Union
import VrlProofs.Lemmas.C03KindOf

namespace C03
open Spec
open Str (R)

/-- hypotheses of `values_sound_partial` on the object collection of the argument kind: C19's union
    hypotheses, and `Unknown::from(reduced_kind)` must not turn into `json`. -/
def valuesOk (k0 : Kind) : Bool :=
  let c := objectCol k0
  c.SortedK && !c.hasNonAnyInf && ofKindOk c.reducedKind

theorem values_kind (as : ASlots) : (declaredFn .values as).kind =
    Kind.ofArray (Col.empty.withUnknown (objectCol (akind as 0)).reducedKind) := rfl

/-- **`values`: an array whose elements are in the union of all field kinds (`reduced_kind`) of the
    argument's object kind** — for object kinds satisfying `valuesOk` (`any`, every literal; in
    general every tame kind whose `reduced_kind` does not look like `json` at the top level). -/
theorem values_sound_partial (E : Env) (as : ASlots) (vs : Slots) (td : TD) (c : Call .values as vs td)
    (hk : valuesOk (akind as 0) = true) : SoundAt E .values as vs td := by
  intro r hr
  rw [decl_kind c.decl, values_kind]
  obtain ⟨v, rfl, hr⟩ := un_ok hr
  obtain ⟨m, rfl, rfl⟩ := values_ok hr
  refine ⟨memR_of_mem ?_, hasBit_of_tag (t := .array) rfl (by decide)⟩
  have hm := c.head_mem
  simp only [valuesOk, Bool.and_eq_true, Bool.not_eq_true'] at hk
  obtain ⟨⟨hs, hi⟩, hok⟩ := hk
  cases hk0 : akind as 0 with
  | mk p a o =>
    rw [hk0] at hm hs hi hok
    cases o with
    | none => simp [mem, Kind.hasObj] at hm
    | some col =>
      have hmm : memMap m col = true := by
        simp only [mem, Kind.hasObj, objectD, Kind.object, Option.getD_some, Bool.true_and,
          Bool.and_eq_true] at hm
        exact hm.1
      have hoc : objectCol (Kind.mk p a (.some col)) = col := rfl
      rw [hoc] at hs hi hok
      apply mem_arr_unknownOnly _ _ hok
      intro j x hj
      obtain ⟨q, hq⟩ := getN_valuesL m hmm j x hj
      exact mem_reducedKind hs hi hq

/-- the field kinds of a literal have no `undefined` state, so their union is not `json`-shaped
    (`is_json` asks for `undefined`) and `Unknown::from` keeps it as it is. -/
theorem valuesOk_lit (m : VMap) (hs : m.Sorted = true) : valuesOk (Value.kindOf (.obj m)) = true := by
  have ht : TameC (Col.ofKnown (VMap.kinds m)) := (kindOf_good (.obj m) hs).object rfl
  have hc : objectCol (Value.kindOf (.obj m)) = Col.ofKnown (VMap.kinds m) := rfl
  unfold valuesOk
  simp only [hc, Bool.and_eq_true, Bool.not_eq_true']
  exact ⟨ht, ofKindOk_of_noUndef (noUndef_reducedKind (all_noUndef_kinds m))⟩

/-- **`values({…literal…})`: every literal object satisfies the hypotheses.** -/
theorem values_lit_sound (E : Env) (m : VMap) (vs : Slots) (td : TD)
    (c : Call .values [some (.lit (.obj m))] vs td) : SoundAt E .values [some (.lit (.obj m))] vs td := by
  exact values_sound_partial E _ vs td c (valuesOk_lit m (litsSorted_head c.lits).1)

/-- hypotheses of `push_dyn_sound`: the array kind has no known index and no exact length, the
    kinds satisfy the C19 union hypotheses, `Unknown::from` does not turn the union into `json`. -/
def pushDynOk (k0 item : Kind) : Bool :=
  let c := arrayCol k0
  let i := item.upgradeUndefined
  c.known.isEmpty && c.exactLength.isNone && c.SortedK && !c.hasNonAnyInf && i.SortedK &&
    !i.hasNonAnyInf && ofKindOk (c.unknownKind.union i)

theorem push_kind (as : ASlots) : (declaredFn .push as).kind =
    Kind.ofArray (pushCol (arrayCol (akind as 0)) (akind as 1).upgradeUndefined) := rfl

/-- **`push(value, item)` onto an array kind without known indices (`.p`, `any`): the item kind is
    merged into the unknown element kind.** -/
theorem push_dyn_sound (E : Env) (as : ASlots) (vs : Slots) (td : TD) (c : Call .push as vs td)
    (hk : pushDynOk (akind as 0) (akind as 1) = true) : SoundAt E .push as vs td := by
  intro r hr
  rw [decl_kind c.decl, push_kind]
  obtain ⟨v, x, rfl, hr⟩ := bin_ok hr
  obtain ⟨a, rfl, rfl⟩ := pushV_ok hr
  refine ⟨memR_of_mem ?_, hasBit_of_tag (t := .array) rfl (by decide)⟩
  have hm := c.head_mem
  have hx := Spec.mem_upgradeUndefined_of_mem x _ c.tail_mem
  simp only [pushDynOk, Bool.and_eq_true, Bool.not_eq_true'] at hk
  obtain ⟨⟨⟨⟨⟨⟨hkn, hex⟩, hs⟩, hi⟩, his⟩, hii⟩, hok⟩ := hk
  obtain ⟨col, hcol, _, _⟩ := (mem_arr_iff _ _).mp hm
  have hac : arrayCol (akind as 0) = col := by rw [arrayCol, hcol]
  rw [hac] at hkn hex hs hi hok
  have hknil := known_nil_of_isEmpty hkn
  simp only [hac, pushCol, Option.isNone_iff_eq_none.mp hex, Col.setUnknown, hknil]
  refine mem_arr_widened hm hcol hknil (tame_unknownKind ⟨hs, hi⟩) ⟨his, hii⟩ hok fun j y hj => ?_
  rcases getN_append_single a x j y hj with ⟨_, hg⟩ | ⟨_, rfl⟩
  · exact .inl ⟨j, hg⟩
  · exact .inr hx

/-- **`push([…literal…], item)`: the exact length of a literal array is known, the item kind is
    recorded at that index.** -/
theorem push_lit_sound (E : Env) (a : VList) (a1 : Arg) (vs : Slots) (td : TD)
    (c : Call .push [some (.lit (.arr a)), some a1] vs td) :
    SoundAt E .push [some (.lit (.arr a)), some a1] vs td := by
  intro r hr
  rw [decl_kind c.decl, push_kind]
  obtain ⟨v, x, rfl, hr⟩ := bin_ok hr
  obtain ⟨a', rfl, rfl⟩ := pushV_ok hr
  refine ⟨memR_of_mem ?_, hasBit_of_tag (t := .array) rfl (by decide)⟩
  have hx := Spec.mem_upgradeUndefined_of_mem x _ c.tail_mem
  have hsa : a.Sorted = true := (litsSorted_head c.lits).1
  have hva : a' = a := by
    have := c.adm
    simp only [Admits, Arg.admits, Bool.and_eq_true, decide_eq_true_eq] at this
    have h0 := this.1
    cases h0; rfl
  subst hva
  have hk0 : akind [some (Arg.lit (.arr a')), some a1] 0 = Kind.ofArray (Col.ofKnown (VList.kindsFrom a' 0)) := rfl
  have hk1 : akind [some (Arg.lit (.arr a')), some a1] 1 = a1.kind := rfl
  rw [hk1] at hx
  simp only [hk0, hk1, arrayCol, Kind.array, Kind.ofArray, pushCol, exactLength_lit]
  rw [mem_arr_iff]
  refine ⟨_, rfl, ?_, ?_⟩
  · intro j y hj
    rcases getN_append_single a' x j y hj with ⟨hl, hg⟩ | ⟨hl, rfl⟩
    · have hne : Key.ofIdx a'.length ≠ Key.ofIdx j := by simp [Key.ofIdx]; omega
      have hget : (VList.kindsFrom a' 0).get (Key.ofIdx j) = some y.kindOf := by
        have := Spec.kindsFrom_get a' 0 j
        simpa [hg] using this
      simp only [slotKind, Col.known, Col.ofKnown, KList.get_insert_other _ _ _ _ hne, hget]
      exact Spec.mem_kindOf y (VList.sorted_getN a' j y hsa hg)
    · subst hl
      simp only [slotKind, Col.known, Col.ofKnown, KList.get_insert_same]
      exact hx
  · intro k K' hg hl
    rw [VList.length_append] at hl
    simp only [Col.known, Col.ofKnown, KList.get_insert] at hg
    split at hg
    · rename_i hk; subst hk; simp [Key.ofIdx, Key.idx] at hl; omega
    · have := Spec.kindsFrom_get_idx a' 0 k K' hg
      omega

/-- hypotheses of `append_dyn_sound`: `value`'s array kind has no known index and no exact length;
    both collections satisfy the C19 union hypotheses. -/
def appendDynOk (k0 k1 : Kind) : Bool :=
  let c := arrayCol k0
  let d := arrayCol k1
  c.known.isEmpty && c.exactLength.isNone && c.SortedK && !c.hasNonAnyInf && d.SortedK &&
    !d.hasNonAnyInf && ofKindOk (c.unknownKind.union d.reducedKind)

theorem append_kind (as : ASlots) : (declaredFn .append as).kind =
    Kind.ofArray (appendCol (arrayCol (akind as 0)) (arrayCol (akind as 1))) := rfl

/-- **`append(value, items)` when `value`'s array kind has no known index (`.p`, `any`): the
    union of all element kinds of `items` is merged into the unknown element kind.** (`append` onto
    an array of exactly known length shifts the known indices of `items`: not covered.) -/
theorem append_dyn_sound (E : Env) (as : ASlots) (vs : Slots) (td : TD) (c : Call .append as vs td)
    (hk : appendDynOk (akind as 0) (akind as 1) = true) : SoundAt E .append as vs td := by
  intro r hr
  rw [decl_kind c.decl, append_kind]
  obtain ⟨v, w, rfl, hr⟩ := bin_ok hr
  obtain ⟨a, b, rfl, rfl, rfl⟩ := appendV_ok hr
  refine ⟨memR_of_mem ?_, hasBit_of_tag (t := .array) rfl (by decide)⟩
  have hm := c.head_mem
  have hmb := c.tail_mem
  simp only [appendDynOk, Bool.and_eq_true, Bool.not_eq_true'] at hk
  obtain ⟨⟨⟨⟨⟨⟨hkn, hex⟩, hs⟩, hi⟩, hds⟩, hdi⟩, hok⟩ := hk
  obtain ⟨col, hcol, _, _⟩ := (mem_arr_iff _ _).mp hm
  obtain ⟨dol, hdol, hb1, _⟩ := (mem_arr_iff _ _).mp hmb
  have hac : arrayCol (akind as 0) = col := by rw [arrayCol, hcol]
  have hbc : arrayCol (akind as 1) = dol := by rw [arrayCol, hdol]
  rw [hac] at hkn hex hs hi hok
  rw [hbc] at hds hdi hok
  have hknil := known_nil_of_isEmpty hkn
  simp only [hac, hbc, appendCol, Option.isNone_iff_eq_none.mp hex, Col.setUnknown, hknil]
  refine mem_arr_widened hm hcol hknil (tame_unknownKind ⟨hs, hi⟩) (tame_reducedKind ⟨hds, hdi⟩) hok
    fun j y hj => ?_
  rw [VList.getN_append] at hj
  split at hj
  · exact .inl ⟨j, hj⟩
  · exact .inr (mem_reducedKind hds hdi (hb1 _ y hj))

/-- `push([…literal…], item)`: the call `push_lit_sound` covers -/
def isLitArray : ASlots → Bool
  | [some (.lit (.arr _)), some _] => true
  | _ => false

/-- **finding classes of clauses (a)/(k)**, decidable on the argument kinds of the call:
    * `pop`: the array kind has a known index that must be present (`type_def` = argument kind);
    * `slice`: an argument that is exactly an array with known indices (same reason);
    * `compact`, `flatten`: an argument that may be an array but is not exactly one (`.p`);
    * `values`, `push`: outside the hypotheses of C19's union theorem, or the united kind looks like
      `json` at the top level without being `any` (`valuesOk` holds for `any` and for every literal,
      `pushDynOk` for `any`); `push` onto a literal array is covered without condition;
    * `append`: `value` with known indices / exactly known length (the known indices of `items` are
      shifted: not covered), or outside the union hypotheses (`appendDynOk`);
    * `merge`: no theorem — its type_def is `Kind::merge(overwrite)`, whose soundness is C19's with
      C19's own finding classes, and it ignores `deep` (`W.witness_merge_deep`). For `merge` the claim
      rests on the sweep oracle only. -/
def soundClass (F : Fn) (as : ASlots) : Bool :=
  let k0 := akind as 0
  match F with
  | .pop => !(arrayCol k0).knownOptional
  | .slice => !(k0.isBytes || !k0.isArray || (arrayCol k0).known.isEmpty)
  | .compact | .flatten => !(k0.isArray || !k0.hasArr)
  | .values => !valuesOk k0
  | .push => !(isLitArray as || pushDynOk k0 (akind as 1))
  | .append => !appendDynOk k0 (akind as 1)
  | .merge => true
  | _ => false

/-- **C03 (a)+(k), what holds: for every modelled function, every call the compiler accepts and all
    argument values the argument expressions can evaluate to, a returned value belongs to the
    TypeDef the compiler computed for the call and to the function's documented return kinds —
    outside the classes of `soundClass`.** -/
theorem sound_partial (E : Env) (F : Fn) (as : ASlots) (vs : Slots) (td : TD) (c : Call F as vs td)
    (h : soundClass F as = false) : SoundAt E F as vs td := by
  cases F
  case pop =>
    exact pop_sound_partial E as vs td c (by simpa [soundClass] using h)
  case slice =>
    refine slice_sound_partial E as vs td c ?_
    simp only [soundClass, Bool.not_eq_false', Bool.or_eq_true, Bool.not_eq_true'] at h
    rcases h with (h | h) | h
    · exact Or.inl h
    · exact Or.inr (Or.inl h)
    · exact Or.inr (Or.inr (known_nil_of_isEmpty h))
  case mod => exact mod_sound E as vs td c
  case compact =>
    refine compact_flatten_sound_partial E .compact (Or.inl rfl) as vs td c ?_
    simp only [soundClass, Bool.not_eq_false', Bool.or_eq_true, Bool.not_eq_true'] at h
    exact h
  case flatten =>
    refine compact_flatten_sound_partial E .flatten (Or.inr rfl) as vs td c ?_
    simp only [soundClass, Bool.not_eq_false', Bool.or_eq_true, Bool.not_eq_true'] at h
    exact h
  case push =>
    simp only [soundClass, Bool.not_eq_false', Bool.or_eq_true] at h
    rcases h with h | h
    · unfold isLitArray at h
      split at h
      · exact push_lit_sound E _ _ vs td c
      · cases h
    · exact push_dyn_sound E as vs td c h
  case append => exact append_dyn_sound E as vs td c (by simpa [soundClass] using h)
  case values => exact values_sound_partial E as vs td c (by simpa [soundClass] using h)
  case merge => simp [soundClass] at h
  case array => exact array_sound E as vs td c
  case object => exact object_sound E as vs td c
  case split => exact split_sound E as vs td c
  case keys => exact keys_sound E as vs td c
  case abs => exact num_sound E .abs (.inl rfl) as vs td c
  case floor => exact num_sound E .floor (.inr (.inl rfl)) as vs td c
  case ceil => exact num_sound E .ceil (.inr (.inr (.inl rfl))) as vs td c
  case round => exact num_sound E .round (.inr (.inr (.inr rfl))) as vs td c
  all_goals exact prim_sound E _ _ rfl as vs td c

end C03
