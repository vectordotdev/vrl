/-
  C34 — unused-expression warnings only flag removable code.

  Semantic core (all programs, all states): an expression of the syntactically effect-free,
  target-free fragment `pureE` (literals, variable reads, strict operators, `!`, array/object
  literals and calls of pure functions over such expressions) leaves the WHOLE state untouched
  whatever it evaluates to (`pure_state`), so a discarded statement of that fragment can be deleted
  from a block without changing outcome, event, metadata or variables (`delete_statement`), and if
  it can fail, deleting it can only turn a failing run into the run of the rest
  (`delete_failing_statement`).  That the real checker (`unused_expression_checker.rs`, on the
  parser's AST) only flags removable code is checked on the implementation: every flagged span
  is replaced by `null`, the program recompiled and both versions run (`o.c34`).  Known finding
  `D_effect_in_flagged`: an unused object literal or call is flagged although its members /
  arguments assign or delete.
-/
import VrlProofs.Lemmas.PureRet
import VrlProofs.Props.C06
import VrlModel.C34

namespace C34
open Lang

theorem pure_state : (e : Expr) → pureE e = true → ∀ s, (eval e s).2 = s :=
  fun e h s => (pure_quiet e h s).1

theorem pureList_state : (es : Exprs) → pureS es = true → ∀ s, (evalList es s).2 = s :=
  fun es h s => (pureList_quiet es h s).1

theorem pureKVs_state : (k : KExprs) → pureK k = true → ∀ s, (evalKVs k s).2 = s :=
  fun k h s => (pureKVs_quiet k h s).1

theorem pureArgs_stable : (as : Args) → pureA as = true → ∀ k t, (k, t) ∈ thunks as → Stable t :=
  fun as h k t hm => (pureArgs_quiet as h k t hm).1

/-- a discarded effect-free statement that succeeds can be deleted: the rest of the block gives the
    same outcome, event, metadata and variables (the states are literally equal). -/
theorem delete_statement (e : Expr) (es : Exprs) (s : St) (v : Value) (hp : pureE e = true)
    (hne : es ≠ .nil) (hok : (eval e s).1 = .ok v) : evalSeq (.cons e es) s = evalSeq es s :=
  C06.seq_tail e es s s v hne (Prod.ext hok (pure_state e hp s))

/-- if it fails instead, the block ends there with that failure and the state unchanged (so deleting
    the statement can only replace that failure by the run of the rest). -/
theorem delete_failing_statement (e : Expr) (es : Exprs) (s : St) (hp : pureE e = true)
    (hne : es ≠ .nil) (hf : ∀ v, (eval e s).1 ≠ .ok v) :
    evalSeq (.cons e es) s = ((eval e s).1, s) := by
  cases es with
  | nil => exact absurd rfl hne
  | cons e2 es2 => rw [evalSeq_cons, bindOk_of_not_ok _ hf]; exact Prod.ext rfl (pure_state e hp s)

/-- non-vacuity: `[x, 1 + 2]` is in the fragment; `{ "a": (.x = 1) }` is not. -/
example : pureE (.arr (.cons (.var "x") (.cons (.op .add (.lit (.int 1)) (.lit (.int 2))) .nil))) = true := by decide
example : pureE (.obj (.cons [97] (.asg (.external false [.field [120]]) (.lit (.int 1))) .nil)) = false := by decide

/-! ### the Spec predicate of the oracle (`VrlModel/C34.lean`) holds of the model for the proved fragment -/

def obsOfRun (r : RunOutcome × St) : Obs :=
  ⟨(match r.1 with | .ok _ => true | _ => false), r.2.event, r.2.metadata⟩

theorem removable_refl (b : Bool) (o : Obs) : removable b o o = true := by
  unfold removable; cases o.ok <;> simp

theorem run_not_ok {prog : Exprs} {s : St} (h1 : ∀ v, (evalSeq prog (s.tick 0 false []).2).1 ≠ .ok v)
    (h2 : ∀ v, (evalSeq prog (s.tick 0 false []).2).1 ≠ .ret v) : (obsOfRun (run prog s)).ok = false := by
  have : ∀ v, (run prog s).1 ≠ .ok v := by
    rw [run_eq]
    split
    · nofun
    · generalize evalSeq prog _ = x at h1 h2
      obtain ⟨r, t⟩ := x
      cases r with
      | ok v => exact absurd rfl (h1 v)
      | ret v => exact absurd rfl (h2 v)
      | _ => nofun
  unfold obsOfRun
  split
  · next heq => exact absurd heq (this _)
  · rfl

theorem run_delete (e : Expr) (es : Exprs) (s : St) (v : Value) (hp : pureE e = true)
    (hne : es ≠ .nil) (hok : (eval e (s.tick 0 false []).2).1 = .ok v) : run (.cons e es) s = run es s := by
  rw [run_eq, run_eq, delete_statement e es _ v hp hne hok]

/-- deleting a discarded effect-free statement that succeeds: the two runs satisfy the Spec with
    `mayFail = false`, whatever state (event, metadata, variables, faults) it is reached in. -/
theorem head_removable (e : Expr) (es : Exprs) (s : St) (v : Value) (hp : pureE e = true)
    (hne : es ≠ .nil) (hok : (eval e (s.tick 0 false []).2).1 = .ok v) :
    removable false (obsOfRun (run (.cons e es) s)) (obsOfRun (run es s)) = true := by
  rw [run_delete e es s v hp hne hok]
  exact removable_refl _ _

/-- … and for one that may fail the Spec holds with `mayFail = true`: a successful original run is
    reproduced (a pure statement never `return`s, `pure_no_ret`, so a successful original run is a
    run in which the statement succeeded). -/
theorem head_removable_mayfail (e : Expr) (es : Exprs) (s : St) (hp : pureE e = true) (hne : es ≠ .nil) :
    removable true (obsOfRun (run (.cons e es) s)) (obsOfRun (run es s)) = true := by
  by_cases hok : ∃ v, (eval e (s.tick 0 false []).2).1 = .ok v
  · obtain ⟨v, hv⟩ := hok
    rw [run_delete e es s v hp hne hv]
    exact removable_refl _ _
  · have hf : ∀ v, (eval e (s.tick 0 false []).2).1 ≠ .ok v := fun v hv => hok ⟨v, hv⟩
    have h := delete_failing_statement e es (s.tick 0 false []).2 hp hne hf
    unfold removable
    rw [run_not_ok (by rw [h]; exact hf) (by rw [h]; exact pure_no_ret e hp _)]
    rfl

end C34
