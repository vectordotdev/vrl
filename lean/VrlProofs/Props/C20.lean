/-
  C20 — Paths round-trip through text and all path parsers agree.
  Models: VrlModel/PathText.lean (`serialize_field`, `Display`, the JIT parser, `parse_value_path`,
  `parse_target_path`), VrlModel/PathVrl.lean (VRL-source path sub-grammar); tied to the code by the
  `c20.*` correspondence ops.

  A path is quantified over as `CPath`: every segment is an arbitrary list of Unicode scalar
  values (= every Rust `String`: empty, quotes, backslashes, dots, brackets, any Unicode) or an
  index; `CPath.inRange` says the indices are `isize` values. `p.toPath` is its byte view (UTF-8).

  Clause (1), rendering then parsing gives the path back:
    roundtrip_value        every `OwnedValuePath` with ≥ 1 segment
    roundtrip_event        every event target path, the root `.` included
    roundtrip_metadata     every metadata target path with ≥ 1 segment
    roundtrip_bytes_partial   the same for every byte-view `Path` whose fields are valid UTF-8
    roundtrip_partial      the three above as one statement over `C20.Kind`, hypothesis = complement
                           of the finding classes `rtClass`; the full statement (no hypothesis) is
                           false of the code: `OwnedValuePath::root()` ↦ "" and
                           `OwnedTargetPath::metadata_root()` ↦ "%" do not parse
                           (witnesses in VrlProofs/Witness/C20.lean)
    roundtrip_segment_partial   `Display for OwnedSegment` round-trips when the field contains
                           neither `"` nor `\` (it quotes without escaping: witness)

  Clause (2), a path written in VRL source denotes the location the string parser assigns to the
  same text:
    agree_partial          for every text `t` (any characters, any length): if the VRL-source path
                           syntax (model `PathVrl.vrlPath`) accepts `t` as `tp₁` and `parse_target_path`
                           accepts it as `tp₂`, then `tp₁ = tp₂` — provided `t` contains neither `{{`
                           nor `\}}` (hypothesis = complement of the finding class `hasTemplate`).
                           Without the hypothesis the statement is false of the code: a quoted field
                           goes through the template-string machinery in VRL source (witnesses).
    Partial in a second sense (stated, DESIGN §7 C20): `vrlPath` models the path sub-grammar only;
    which texts the real lexer/parser accept as one external query is established by the `c20.vrl`
    correspondence (exhaustive over the path alphabet up to length 5/6), not by proof.
-/
import VrlProofs.Lemmas.PathText
import VrlProofs.Lemmas.PathVrl
import VrlModel.C20

namespace C20
open PathText

/-- (1a) `parse_value_path(String::from(&p)) == Ok(p)`. -/
theorem roundtrip_value (p : CPath) (hne : p ≠ []) (hr : p.inRange = true) :
    render p.toPath = some (renderC p) ∧ parseValuePath (renderC p) = .ok p.toPath := by
  constructor
  · simp [render, toC_toPath]
  · cases p with
    | nil => exact absurd rfl hne
    | cons s r =>
      exact jit_first_render .start s r hr

theorem roundtrip_event (p : CPath) (hr : p.inRange = true) :
    renderTarget ⟨.event, p.toPath⟩ = some (renderTargetC .event p) ∧
    parseTargetPath (renderTargetC .event p) = .ok ⟨.event, p.toPath⟩ := by
  constructor
  · simp [renderTarget, toC_toPath]
  · have hv : parseValuePath ('.' :: renderC p) = .ok p.toPath := by
      unfold parseValuePath
      rw [jit_go _ step_start_dot]
      cases p with
      | nil => rfl
      | cons s r =>
        exact jit_first_render .eventRoot s r hr
    have hp : getTargetPrefix ('.' :: renderC p) = (.event, '.' :: renderC p) := by
      have : ('.' == '%') = false := by decide
      simp [getTargetPrefix, this]
    simp only [parseTargetPath, renderTargetC, prefixChar, hp, hv, TResult.ofPResult]

theorem roundtrip_metadata (p : CPath) (hne : p ≠ []) (hr : p.inRange = true) :
    renderTarget ⟨.metadata, p.toPath⟩ = some (renderTargetC .metadata p) ∧
    parseTargetPath (renderTargetC .metadata p) = .ok ⟨.metadata, p.toPath⟩ := by
  constructor
  · simp [renderTarget, toC_toPath]
  · have hp : getTargetPrefix ('%' :: renderC p) = (.metadata, renderC p) := by
      simp [getTargetPrefix]
    simp only [parseTargetPath, renderTargetC, prefixChar, hp, (roundtrip_value p hne hr).2,
      TResult.ofPResult]

theorem toPath_eq_nil {p : CPath} : p.toPath = [] ↔ p = [] := by
  cases p <;> simp [CPath.toPath]

/-- (1) as one statement, on the Spec predicate `roundTripHolds` that the oracle evaluates on the
    implementation. -/
theorem roundtrip_partial (k : Kind) (p : CPath) (hr : p.inRange = true)
    (hclass : rtClass k p.toPath = .none) :
    ∃ t, renderKind k p.toPath = some t ∧ roundTripHolds k p.toPath (parseKind k t) = true := by
  cases k with
  | value =>
    have hne : p ≠ [] := by
      intro h; subst h; simp [rtClass, CPath.toPath] at hclass
    have ⟨h1, h2⟩ := roundtrip_value p hne hr
    exact ⟨_, h1, by simp [roundTripHolds, parseKind, h2, ofPResult, expected]⟩
  | target pfx =>
    cases pfx with
    | event =>
      have ⟨h1, h2⟩ := roundtrip_event p hr
      exact ⟨_, h1, by simp [roundTripHolds, parseKind, h2, ofTResult, expected]⟩
    | metadata =>
      have hne : p ≠ [] := by
        intro h; subst h; simp [rtClass, CPath.toPath] at hclass
      have ⟨h1, h2⟩ := roundtrip_metadata p hne hr
      exact ⟨_, h1, by simp [roundTripHolds, parseKind, h2, ofTResult, expected]⟩

theorem pathInRange_toPath (cp : CPath) : pathInRange cp.toPath = cp.inRange := by
  induction cp with
  | nil => rfl
  | cons s r ih =>
    show (_ && pathInRange (CPath.toPath r)) = (s.inRange && CPath.inRange r)
    rw [ih]
    cases s <;> rfl

/-- (1) on the byte view (fields as the UTF-8 bytes a `KeyString` holds); needs both directions of
    the UTF-8 correspondence. -/
theorem roundtrip_bytes_partial (k : Kind) (p : Path) (t : List Char)
    (hr : pathInRange p = true) (hclass : rtClass k p = .none)
    (hrender : renderKind k p = some t) : roundTripHolds k p (parseKind k t) = true := by
  have hc : ∃ cp, Path.toC p = some cp := by
    cases h : Path.toC p with
    | some cp => exact ⟨cp, rfl⟩
    | none => cases k <;> simp [renderKind, render, renderTarget, h] at hrender
  obtain ⟨cp, hcp⟩ := hc
  have hp := toPath_of_toC p cp hcp
  subst hp
  obtain ⟨t', h1, h2⟩ := roundtrip_partial k cp (pathInRange_toPath cp ▸ hr) hclass
  rw [hrender] at h1
  cases h1
  exact h2

theorem no_special_of_bytes {cs : List Char}
    (h : (Utf8.encode cs).any (fun b => b == 34 || b == 92) = false) :
    ∀ c ∈ cs, (c == '"' || c == '\\') = false := by
  intro c hc
  cases hq : (c == '"' || c == '\\') with
  | false => rfl
  | true =>
    exfalso
    have hall : ∀ b ∈ Utf8.encode cs, (b == 34 || b == 92) = false := by
      simpa [List.any_eq_false] using h
    rcases Bool.or_eq_true _ _ |>.mp hq with h1 | h1
    · have := eq_of_beq h1; subst this
      have := hall 34 (Utf8.mem_encode hc (by decide))
      simp at this
    · have := eq_of_beq h1; subst this
      have := hall 92 (Utf8.mem_encode hc (by decide))
      simp at this

/-- (1d, partial) hypothesis = complement of the finding class `segUnescaped`. -/
theorem roundtrip_segment_partial (s : CSeg) (hr : s.inRange = true)
    (hclass : segUnescaped s.toSeg = false) :
    renderSegment s.toSeg = some (renderSegmentC s) ∧
    segRoundTripHolds s.toSeg (ofPResult (parseValuePath (renderSegmentC s))) = true := by
  have hrender : renderSegment s.toSeg = some (renderSegmentC s) := by
    cases s with
    | field cs => simp [renderSegment, CSeg.toSeg, Seg.toC, Utf8.decode_encode]
    | index i => rfl
  refine ⟨hrender, ?_⟩
  have key : parseValuePath (renderSegmentC s) = .ok [s.toSeg] := by
    cases s with
    | index i =>
      show jit .start ('[' :: (intText i ++ [']'])) = _
      rw [jit_go _ StartSt.start.lbr, jit_indexStart_int i [] hr]
      rfl
    | field cs =>
      -- `Display` leaves a valid field bare and quotes any other without escaping; without `"`
      -- and `\` escaping changes nothing, so the quoted text is what `serialize_field` writes
      have hno := no_special_of_bytes (cs := cs) hclass
      unfold parseValuePath renderSegmentC
      by_cases hv : validField cs = true
      · simp only [hv, if_true]
        have hall : ∀ d ∈ cs, isSerChar d = true := by
          have := (Bool.and_eq_true _ _ |>.mp hv).1
          simpa [List.all_eq_true] using this
        cases cs with
        | nil => simp [validField] at hv
        | cons c cs' =>
          have := jit_field_run cs' [c] [] (fun d hd => isJitChar_of_ser (hall d (by simp [hd])))
          rw [List.append_nil] at this
          rw [jit_go _ (StartSt.start.ser (hall c (by simp))), this]
          rfl
      · simp only [hv]
        have h2 : jit (.quote []) (escapeField cs ++ ['"']) = _ := jit_str cs false [] []
        rw [escapeField_id cs hno] at h2
        rw [if_neg (by simp), jit_go _ StartSt.start.quote, h2]
        rfl
  simp [segRoundTripHolds, key, ofPResult]

open PathVrl in
theorem agreeHolds_of_agreeR (pfx : Prefix) {v : VResult} {j : PResult} (h : AgreeR v j) :
    agreeHolds (VTarget.ofVResult pfx v) (TResult.ofPResult pfx j) = true := by
  cases v with
  | path p₁ =>
    cases j with
    | ok p₂ => rw [h p₁ p₂ rfl rfl]; simp [VTarget.ofVResult, TResult.ofPResult, agreeHolds]
    | _ => rfl
  | _ => rfl

open PathVrl in
/-- (2, partial) on the Spec predicate `agreeHolds` that the oracle evaluates on the
    implementation's two answers. -/
theorem agree_partial (t : List Char) (ht : hasTemplate t = false) :
    agreeHolds (vrlPath t) (parseTargetPath t) = true := by
  cases t with
  | nil => rfl
  | cons c rest =>
    have htr : hasTemplate (pending .afterPrefix ++ rest) = false := (hasTemplate_cons ht).2
    by_cases hb : isBlank c = true
    · -- a leading blank: the string parser rejects
      have : parseTargetPath (c :: rest) = .err := by
        simp [parseTargetPath, getTargetPrefix, beq_false_of_blank hb (show isBlank '%' = false by decide),
          parseValuePath, jit_invalid rest (StartSt.start.blank hb), TResult.ofPResult]
      rw [this]
      cases vrlPath (c :: rest) <;> rfl
    · have hb' : isBlank c = false := by simpa using hb
      by_cases hd : (c == '.') = true
      · cases eq_of_beq hd
        have hv : vrlPath ('.' :: rest) = VTarget.ofVResult .event (vrun .afterPrefix rest) := by
          simp [vrlPath, hb']
        have hs : parseTargetPath ('.' :: rest) = TResult.ofPResult .event (jit .eventRoot rest) := by
          have hne : ('.' == '%') = false := by decide
          simp [parseTargetPath, getTargetPrefix, hne, parseValuePath, jit_go rest step_start_dot]
        rw [hv, hs]
        exact agreeHolds_of_agreeR .event (sim rest _ _ Rel.preEvent htr)
      · have hd' : (c == '.') = false := by simpa using hd
        by_cases hp : (c == '%') = true
        · cases eq_of_beq hp
          have hv : vrlPath ('%' :: rest) = VTarget.ofVResult .metadata (vrun .afterPrefix rest) := by
            simp [vrlPath, hb', hd']
          have hs : parseTargetPath ('%' :: rest) = TResult.ofPResult .metadata (jit .start rest) := by
            simp [parseTargetPath, getTargetPrefix, parseValuePath]
          rw [hv, hs]
          exact agreeHolds_of_agreeR .metadata (sim rest _ _ Rel.preMeta htr)
        · have hv : vrlPath (c :: rest) = .nopath := by simp [vrlPath, hb', hd', hp]
          rw [hv]
          rfl

/-- clause (2) as the file head words it: `agree_partial` read for a text that both the VRL-source path
    syntax and `parse_target_path` accept. -/
theorem agree_both_accept (t : List Char) (tp₁ tp₂ : TargetPath) (ht : hasTemplate t = false)
    (hv : PathVrl.vrlPath t = .path tp₁) (hs : parseTargetPath t = .ok tp₂) : tp₁ = tp₂ := by
  have := agree_partial t ht
  rw [hv, hs] at this
  simpa [agreeHolds] using this

end C20
