/-
  C12 – compile-time constant knowledge matches run-time values.

  `Lang.constOf` models `Expression::resolve_constant` (literals, variables with a recorded constant
  `Details.value`, paths into them, groups, array/object literals of constants, `+ - * /` on numeric
  constants); `Lang.typeInfo` models how `Details.value` flows (assignment, `Details::merge`,
  `apply_child_scope`). `Lang.Conforms s T` says every variable with a recorded constant holds it.

  (1) `constant_value` — NO side condition: in every run-time state that inhabits the type state, an
      expression with a constant evaluates to exactly that constant and leaves the state alone.
  (2) That `Conforms` (in particular "recorded constants are right") is preserved by evaluation is
      part of C01's induction (`C01.sound_partial`); it needs the side conditions: `Details::merge`
      keeps the constant `-0.0` where the value is `0.0` (`D_const_signed_zero`,
      VrlProofs/Witness/C12.lean), and a half-executed operand leaves what the code recorded ahead
      of the run (`D_err_partial_effects`, witnessed on the types in VrlProofs/Witness/C02.lean).
      A constant that survived `del(x…)` (`D_const_after_del`) is repaired (6af54e3: `DelFn::type_info`
      re-inserts the variable without a constant; `Lang.delVarUpdate`, `C12.W.fixed_const_after_del`).
  (3) The decisions taken from constants are valid: `divisor_constant_sound` (the divisor of a `/`
      typed infallible is the non-zero constant), `or_and_constant_sound` (a boolean constant lhs).
-/
import VrlProofs.Lemmas.TypeSound

namespace C12
open Lang Spec

/-- **constants are values**: `resolve_constant(e) = Some(c)` ⇒ `e` evaluates to `c` (bit for bit),
    changing nothing, in every state that inhabits the type state. -/
theorem constant_value (e : Expr) (T : TState) (c : Value) (h : constOf e T = some c) (s : St)
    (hc : Conforms s T) : ∃ s', eval e s = (.ok c, s') ∧ s'.vars = s.vars ∧ s'.event = s.event ∧
      s'.metadata = s.metadata := by
  obtain ⟨s', h1, h2⟩ := const_eval e T c h s hc
  exact ⟨s', h1, h2.1, h2.2.1, h2.2.2.1⟩

/-- the full statement for programs: after evaluating `e`, every recorded constant of the new type
    state is the value of its variable (part of `Conforms`). Proved under `safe`. -/
theorem constants_preserved_partial (e : Expr) (T : TState) (h : safe e T = true) (s s' : St) (v : Value)
    (hc : Conforms s T) (he : eval e s = (.ok v, s')) (n : String) (d : Details) (c : Value)
    (hd : (typeInfo e T).2.getVar n = some d) (hv : d.value = some c) : s'.getVar n = some c := by
  have := eval_sound e T s (allNan_of_all h) hc
  rw [he] at this
  obtain ⟨w, h1, _, _, h4⟩ := this.2.2.vars n d hd
  rw [h1, h4 c hv]

/-- the constant recorded by an assignment (taken in the state *after* the right-hand side) is the
    value assigned -/
theorem assignment_constant (e : Expr) (T : TState) (s s1 : St) (v c : Value) (hc : Conforms s T)
    (he : eval e s = (.ok v, s1)) (h : constOf e (typeInfo e T).2 = some c) : v = c :=
  Res.ok.inj (asg_const hc he h)

/-- **the constant-divisor rule**: when `/` is typed infallible the divisor evaluates to the non-zero
    constant the compiler saw, so the division cannot fail with "divide by zero". -/
theorem divisor_constant_sound (r : Expr) (T : TState) (l : TypeDef) (s s' : St) (w : Value)
    (hc : Conforms s T) (hd : divInfallible l (constOf r T) = true) (he : eval r s = (.ok w, s')) :
    (∃ i, w = .int i ∧ i ≠ 0) ∨ (∃ b, w = .float b ∧ F64.eq b 0 = false) := by
  unfold divInfallible at hd
  simp only [Bool.and_eq_true] at hd
  cases hcst : constOf r T with
  | none => rw [hcst] at hd; simp at hd
  | some c =>
    cases const_value hc he hcst
    rw [hcst] at hd
    cases w <;> simp at hd
    · exact Or.inl ⟨_, rfl, hd.2⟩
    · exact Or.inr ⟨_, rfl, F64.isNormal_ne_zero _ hd.2⟩

/-- **the constant-lhs shortcut of `||` / `&&`**: a boolean constant lhs is the run-time value -/
theorem or_and_constant_sound (l : Expr) (T : TState) (b : Bool) (s : St) (hc : Conforms s T)
    (h : optValueEq (constOf l T) (some (.bool b)) = true) : ∃ s', eval l s = (.ok (.bool b), s') := by
  obtain ⟨s', h1, _⟩ := const_eval l T _ (optValueEq_some_bool h) s hc
  exact ⟨s', h1⟩

end C12
