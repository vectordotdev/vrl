/-
  C16 — reported target queries and assignments are complete.

  `queriesE` / `assignsE` (VrlModel/Lang/Info.lean) compute from the compiled tree what `compiler.rs`
  records in `ProgramInfo.target_queries` / `target_assignments` (the oracle `o.c16` checks on every
  run that the model's lists are contained in the implementation's).  Main theorem `run_covered`: for EVERY
  program, event, metadata, fault schedule and variable state, every operation the run performs on
  the target (the model's `Target` interface logs each one) is a read/removal at a path listed
  under the queries or an insert at a path listed under the assignments — *equal* paths, which is
  stronger than the "equal, ancestor or descendant" the property asks for — the only exception
  being the root check of `Runtime::resolve`, a read of the event root (an ancestor of everything).
  "The log is covered" is an invariant in the sense of Lemmas/Inv.lean (`logInv`, Lemmas/InvLog.lean).
-/
import VrlProofs.Lemmas.InvLog

namespace C16
open Lang

variable {Q A : PL}

def CovE (Q A : PL) (e : Expr) : Prop := (∀ x ∈ queriesE e, x ∈ Q) ∧ (∀ x ∈ assignsE e, x ∈ A)
def CovS (Q A : PL) (es : Exprs) : Prop := (∀ x ∈ queriesS es, x ∈ Q) ∧ (∀ x ∈ assignsS es, x ∈ A)
def CovK (Q A : PL) (k : KExprs) : Prop := (∀ x ∈ queriesK k, x ∈ Q) ∧ (∀ x ∈ assignsK k, x ∈ A)
def CovA (Q A : PL) (a : Args) : Prop := (∀ x ∈ queriesA a, x ∈ Q) ∧ (∀ x ∈ assignsA a, x ∈ A)

theorem flagged {s t : St} (h : t.log = s.log) (hs : LogOK Q A s) : LogOK Q A t := logOK_of_log_eq h hs

/-! Coverage by `Q`, `A` is coverage for the invariant `logInv Q A`, the `del` paths being among the
    queries; the induction is `Lang.eval_inv`. -/

theorem eval_logOK : (e : Expr) → CovE Q A e → (s : St) → LogOK Q A s → LogOK Q A (eval e s).2 :=
  fun e h => eval_inv (I := logInv Q A) e ⟨h.1, h.2, fun x hx => h.1 x (delsE_sub e x hx)⟩

theorem evalSeq_logOK : (es : Exprs) → CovS Q A es → (s : St) → LogOK Q A s → LogOK Q A (evalSeq es s).2 :=
  fun es h => evalSeq_inv (I := logInv Q A) es ⟨h.1, h.2, fun x hx => h.1 x (delsS_sub es x hx)⟩

theorem evalList_logOK : (es : Exprs) → CovS Q A es → (s : St) → LogOK Q A s → LogOK Q A (evalList es s).2 :=
  fun es h => evalList_inv (I := logInv Q A) es ⟨h.1, h.2, fun x hx => h.1 x (delsS_sub es x hx)⟩

theorem evalKVs_logOK : (k : KExprs) → CovK Q A k → (s : St) → LogOK Q A s → LogOK Q A (evalKVs k s).2 :=
  fun k h => evalKVs_inv (I := logInv Q A) k ⟨h.1, h.2, fun x hx => h.1 x (delsK_sub k x hx)⟩

theorem thunks_ok : (as : Args) → CovA Q A as → ArgsOK Q A (thunks as) :=
  fun as h => thunks_inv (I := logInv Q A) as ⟨h.1, h.2, fun x hx => h.1 x (delsA_sub as x hx)⟩

/-- Main theorem: every target operation of a run is covered, for every program, state and fault
    schedule. -/
theorem run_covered (prog : Exprs) (s : St) (hlog : s.log = []) :
    LogOK ((false, []) :: queriesS prog) (assignsS prog) (run prog s).2 :=
  run_covered_inv prog s hlog

end C16
