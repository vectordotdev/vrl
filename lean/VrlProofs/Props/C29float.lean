/-
  C29 (float part) — round / ceil / floor with precision: `fun(num * 10^p) / 10^p`.

  1. Exact-arithmetic layer: with exact rationals the algorithm satisfies the statement
     (within 10^-p — round even within half of it —, ceil never below, floor never above).  These are
     facts about `Int` division alone; nothing connects them to `Round.rint`.
  2. Float layer (`VrlModel/Round.lean`, binary64 bit patterns): the decision logic on non-finite
     and vanished intermediates, for every finite input and whatever bits the parameter `pow10 p` has
     (on the implementation `powf` gives `+∞` from p = 309 and `0` up to p = −324):
       * `10^p = +∞`, x ≠ 0                ⇒ `∞/∞ = NaN` ⇒ the result is `0.0`        (`pow_overflow_zero`)
       * `10^p = 0`                        ⇒ `0/0 = NaN`  ⇒ the result is `0.0`        (`pow_underflow_zero`)
       * `x·10^p` overflows, `10^p` finite ⇒ the result is `±∞`                       (`product_overflow_inf`)
     These are the classes `D_overflow_mult` / `D_underflow_mult`; the third class
     `D_product_rounding` (the product or `10^p` is inexact and the error survives the division) has
     witnesses in `Witness/C29float.lean`.  The rounding-error analysis of the remaining case
     (exact product, exact power) is not carried out: `spec_partial` states what it would have to
     deliver as explicit hypotheses on the two float operations.
  3. The conversion clause of C29, `to_float` / `parse_float` convert consistently: the `to_float_*`
     theorems at the end (`VrlModel/Round.lean` `toFloat`, `parseFloat`; the decimal parser is a parameter).
-/
import VrlModel.Round
import VrlProofs.Lemmas.F64

namespace C29f
open F64 Round

/-! The exact-arithmetic layer.

  `x = a/b`, `10^p = s/t` (`s = 10^p, t = 1` for `p ≥ 0`; `s = 1, t = 10^-p` otherwise), all
  denominators positive.  `x·10^p = (a·s)/(b·t)`, the integer rounding `k` of it is computed with
  `Int` division, the result is `r = k / 10^p = k·t/s`.  Cleared of denominators:
      r ≤ x          ⇔  k·t·b ≤ a·s
      x − r < 10^-p  ⇔  a·s − k·t·b < t·b        (and symmetrically for ceil / round). -/

theorem floor_bounds (n : Int) (d : Nat) (hd : 0 < d) : n / d * d ≤ n ∧ n - n / d * d < d := by
  have h0 : (0 : Int) < d := by omega
  have h1 := Int.ediv_mul_le n (Int.ne_of_gt h0)
  have h2 := Int.lt_ediv_add_one_mul_self n h0
  rw [Int.add_mul, Int.one_mul] at h2
  omega

theorem tb_cast (b t : Nat) : (t : Int) * b = ((b * t : Nat) : Int) := by
  rw [Int.natCast_mul, Int.mul_comm]

theorem exact_floor (a : Int) (b s t : Nat) (hb : 0 < b) (ht : 0 < t) :
    (a * s) / ((b * t : Nat) : Int) * t * b ≤ a * s ∧
    a * s - (a * s) / ((b * t : Nat) : Int) * t * b < t * b := by
  rw [Int.mul_assoc, tb_cast]
  exact floor_bounds (a * s) (b * t) (Nat.mul_pos hb ht)

theorem exact_ceil (a : Int) (b s t : Nat) (hb : 0 < b) (ht : 0 < t) :
    a * s ≤ -((-(a * s)) / ((b * t : Nat) : Int)) * t * b ∧
    -((-(a * s)) / ((b * t : Nat) : Int)) * t * b - a * s < t * b := by
  have h := floor_bounds (-(a * s)) (b * t) (Nat.mul_pos hb ht)
  rw [Int.mul_assoc, tb_cast, Int.neg_mul]
  omega

/-- round half away from zero of `n/d`: `sign(n) · ⌊(2|n| + d) / 2d⌋`. -/
def roundDiv (n : Int) (d : Nat) : Int :=
  if 0 ≤ n then (2 * n + d) / ((2 * d : Nat) : Int) else -((2 * (-n) + d) / ((2 * d : Nat) : Int))

theorem half_bounds (n : Int) (d : Nat) (hd : 0 < d) :
    2 * ((2 * n + d) / ((2 * d : Nat) : Int) * d - n) ≤ d ∧
    2 * (n - (2 * n + d) / ((2 * d : Nat) : Int) * d) ≤ d := by
  have h := floor_bounds (2 * n + d) (2 * d) (by omega)
  generalize (2 * n + d) / ((2 * d : Nat) : Int) = q at h ⊢
  rw [Int.natCast_mul, Int.mul_left_comm] at h
  omega

/-- the rounded value is within half a unit: `|k·t/s − a/b| ≤ (t/s)/2`. -/
theorem exact_round (a : Int) (b s t : Nat) (hb : 0 < b) (ht : 0 < t) :
    2 * (roundDiv (a * s) (b * t) * t * b - a * s) ≤ t * b ∧
    2 * (a * s - roundDiv (a * s) (b * t) * t * b) ≤ t * b := by
  rw [Int.mul_assoc, tb_cast]
  unfold roundDiv
  split
  · exact half_bounds _ _ (Nat.mul_pos hb ht)
  · have := half_bounds (-(a * s)) _ (Nat.mul_pos hb ht)
    rw [Int.neg_mul]
    omega

theorem rint_inf (m : Mode) (b : Nat) (h : isInf b = true) : rint m b = b := by
  simp [rint, h]

theorem roundToPrecision_inf (mode : Mode) (x m p : Nat) (hm : isNaN m = false)
    (hp : mul x m = some p) (hinf : isInf p = true) :
    roundToPrecision m mode x =
      if isInf m then none else some (withSign (signBit p != signBit m) infBits) := by
  simp [roundToPrecision, hp, rint_inf mode p hinf, div, hinf, isInf_notNaN p hinf, hm]

/-- `round(1.5e300, 400) = 0` -/
theorem pow_overflow_zero (mode : Mode) (x : Nat) (hx : isFinite x = true) (h0 : isZero x = false) :
    roundToPrecision infBits mode x = none ∧ orZero (roundToPrecision infBits mode x) = 0 := by
  have hi : isInf infBits = true := by decide
  have hn : isNaN infBits = false := by decide
  have hz : isZero infBits = false := by decide
  have hm : mul x infBits = some (withSign (signBit x != signBit infBits) infBits) := by
    simp [mul, finite_notNaN x hx, hi, hn, hz, h0]
  have := roundToPrecision_inf mode x infBits _ hn hm (isInf_withSign _)
  rw [if_pos hi] at this
  exact ⟨this, by rw [this]; rfl⟩

/-- `ceil(123.0, -400) = 0` -/
theorem pow_underflow_zero (mode : Mode) (x : Nat) (hx : isFinite x = true) :
    roundToPrecision 0 mode x = none ∧ orZero (roundToPrecision 0 mode x) = 0 := by
  have : roundToPrecision 0 mode x = none := by
    simp only [roundToPrecision, mul_zero_right x hx]
    cases signBit x <;> cases mode <;> decide +kernel
  exact ⟨this, by rw [this]; rfl⟩

theorem orZero_some (b : Nat) (h : isNaN b = false) : orZero (some b) = b :=
  if_neg (by simp [h])

/-- `round(1e300, 10) = inf` -/
theorem product_overflow_inf (mode : Mode) (x m p : Nat) (hm : isFinite m = true)
    (hp : mul x m = some p) (hinf : isInf p = true) :
    ∃ r, roundToPrecision m mode x = some r ∧ isInf r = true ∧ orZero (some r) = r := by
  refine ⟨withSign (signBit p != signBit m) infBits, ?_, isInf_withSign _, ?_⟩
  · rw [roundToPrecision_inf mode x m p (finite_notNaN m hm) hp hinf, if_neg (by simp [finite_notInf m hm])]
  · exact orZero_some _ (isNaN_withSign _ _ (Nat.le_refl _))

/-- `classify = none`: multiplier and product normal (or input zero), `10^p` and the product exact -/
theorem classify_none_iff (x : Nat) (p : Int) (m10 : Nat) :
    classify x p m10 = .none ↔
      (isInf m10 = false ∧ (∃ r, mul x m10 = some r ∧ isInf r = false)) ∧
      (isNormal m10 = true ∧ (isZero x = true ∨ ∃ r, mul x m10 = some r ∧ isNormal r = true)) ∧
      pow10Exact p = true ∧ mulExact x m10 = true := by
  unfold classify
  cases mul x m10 with
  | none => simp
  | some r =>
    simp only [Option.some.injEq, exists_eq_left']
    split
    · exact iff_of_false nofun (fun ⟨⟨h1, h2⟩, _⟩ => by simp_all)
    · split
      · exact iff_of_false nofun (fun ⟨_, ⟨h1, h2⟩, _⟩ => by simp_all)
      · split
        · exact iff_of_false nofun (fun ⟨_, _, h1, h2⟩ => by simp_all)
        · cases hz : isZero x <;> simp_all

/-- What the missing rounding-error analysis has to deliver: that the three quotients `o` are finite,
    within the tolerance and on the right side of the input.  These are the clauses of `spec`
    themselves, each a decidable fact about bit patterns; under them the statement holds of the values
    the functions return, since `from_f64_or_zero` changes no finite value. -/
theorem spec_partial (x : Nat) (p : Int) (m10 : Nat) (o : Obs)
    (hr : roundToPrecision m10 .round x = some o.round)
    (hc : roundToPrecision m10 .ceil x = some o.ceil)
    (hf : roundToPrecision m10 .floor x = some o.floor)
    (fin : isFinite o.round = true ∧ isFinite o.ceil = true ∧ isFinite o.floor = true)
    (near : within x o.round p = true ∧ within x o.ceil p = true ∧ within x o.floor p = true)
    (side : le x o.ceil = true ∧ le o.floor x = true) :
    spec x p ⟨orZero (roundToPrecision m10 .round x), orZero (roundToPrecision m10 .ceil x),
      orZero (roundToPrecision m10 .floor x)⟩ = true := by
  have nn (b : Nat) (hb : isFinite b = true) := orZero_some b (finite_notNaN b hb)
  rw [hr, hc, hf, nn _ fin.1, nn _ fin.2.1, nn _ fin.2.2]
  simp [spec, fin, near, side]

/-- on strings `to_float` *is* `parse_float` (same `Conversion::Float`), whatever the parser does. -/
theorem to_float_parse_float_agree (parse : List Nat → Option Nat) (b : List Nat) :
    toFloat parse (.bytes b) = parseFloat parse (.bytes b) := rfl

theorem orZero_notNaN (o : Option Nat) : isNaN (orZero o) = false := by
  unfold orZero
  split
  · split
    · decide
    · exact eq_false_of_ne_true ‹_›
  · decide

theorem toFloat_ok (parse : List Nat → Option Nat) (v w : Value) (h : toFloat parse v = .ok w) :
    ∃ f, w = .float f ∧ ((∀ b, v = .float b → isNaN b = false) → isNaN f = false) := by
  cases v with
  | float b => cases h; exact ⟨_, rfl, fun hv => hv _ rfl⟩
  | int i => cases h; exact ⟨_, rfl, fun _ => orZero_notNaN _⟩
  | bool b => cases h; exact ⟨_, rfl, fun _ => by split <;> decide⟩
  | null => cases h; exact ⟨_, rfl, fun _ => by decide⟩
  | ts ns =>
    simp only [toFloat] at h
    split at h <;> cases h <;> exact ⟨_, rfl, fun _ => orZero_notNaN _⟩
  | bytes b =>
    simp only [toFloat, bytesToFloat] at h
    split at h
    · split at h
      · cases h
      · next hn => cases h; exact ⟨_, rfl, fun _ => eq_false_of_ne_true hn⟩
    · cases h
  | _ => cases h

/-- `to_float` never returns NaN (for a float argument: given it is not NaN, as `NotNan` guarantees). -/
theorem to_float_notNaN (parse : List Nat → Option Nat) (v : Value) (f : Nat)
    (hv : ∀ b, v = .float b → isNaN b = false) (h : toFloat parse v = .ok (.float f)) : isNaN f = false := by
  obtain ⟨_, hw, hn⟩ := toFloat_ok parse v _ h
  cases hw
  exact hn hv

/-- `to_float` of an integer is the correctly rounded double (`i as f64`), never replaced by `0.0`. -/
theorem to_float_int (parse : List Nat → Option Nat) (i : Int) :
    toFloat parse (.int i) = .ok (.float (ofInt i)) := by
  simp [toFloat, orZero_some _ (ofInt_notNaN i)]

/-- `to_float` is idempotent: its result is a float, and floats are returned as they are. -/
theorem to_float_idempotent (parse : List Nat → Option Nat) (v w : Value) (h : toFloat parse v = .ok w) :
    toFloat parse w = .ok w := by
  obtain ⟨f, rfl, _⟩ := toFloat_ok parse v w h
  rfl

end C29f
