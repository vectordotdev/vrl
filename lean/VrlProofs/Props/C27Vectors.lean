/-
  C27 (part i) — every Lean reference specification reproduces the test vectors of its
  publication. All proofs are evaluation inside the Lean kernel (`decide +kernel`: the kernel
  reduces the `Decidable` instance to `isTrue`; no compiler, no `native_decide`, no extra axioms).
  For SHA-1, SHA-2, SHA-3 (and HMAC over them) and CRC the specification is first rewritten to the
  evaluator of `VrlProofs/Lemmas/HashEval.lean` that is proved equal to it for all inputs, and the
  kernel evaluates that. The XXH3 vectors are unfolded, the lengths of the inputs taken from
  `sanityBuf_length` and the accumulators of the three inputs longer than 240 bytes from
  `longAcc_sanityBuf` (evaluated once for XXH3-64 and XXH3-128), and the kernel evaluates the rest.

  Messages are written as `toBE len 0x…` (the bytes of the hex number, most significant first;
  the ASCII text is in the comment above each line) and digests as `beNat digest = 0x…` (the
  digest bytes read as one big-endian number, i.e. the published hex string), because `String`
  literals evaluate very slowly in the kernel (see `C27.utf8Bytes`); the digest *lengths* are proved
  for all inputs in `VrlProofs/Props/C27.lean`. (A string of bytes is determined by its length and
  this number; that is not proved here.)

  The expected numbers are the values printed in the cited documents (RFC 1321 A.5; FIPS 180-4
  / NIST "Examples with intermediate values" for SHA-1 and the SHA-2 family; NIST SHA-3 example
  files for FIPS 202; RFC 2202 and RFC 4231 for HMAC; the `check` column of the CRC catalogue;
  the sanity-check vectors of the xxHash reference distribution; the test vectors in the SeaHash
  reference). They were cross-checked against OpenSSL (Python hashlib/hmac). The accumulators in
  `longAcc_sanityBuf` are the exception: intermediate values, printed in no reference.

  What these theorems are: evidence that the *specification* `VrlModel/Hash/*.lean` is the
  published function, on the published inputs. They say nothing about the Rust crates; that is
  the `c27.*` correspondence (sampling).
-/
import VrlProofs.Lemmas.HashEval

namespace C27
open Hash

/-- RFC 1321 appendix A.5, the complete MD5 test suite. -/
theorem md5_rfc1321_test_suite :
    -- ""
    beNat (MD5.digest ([])) = 0xd41d8cd98f00b204e9800998ecf8427e ∧
    -- "a"
    beNat (MD5.digest (toBE 1 0x61)) = 0x0cc175b9c0f1b6a831c399e269772661 ∧
    -- "abc"
    beNat (MD5.digest (toBE 3 0x616263)) = 0x900150983cd24fb0d6963f7d28e17f72 ∧
    -- "message digest"
    beNat (MD5.digest (toBE 14 0x6d65737361676520646967657374)) = 0xf96b697d7cb7938d525a2f31aaf161d0 ∧
    -- "abcdefghijklmnopqrstuvwxyz"
    beNat (MD5.digest (toBE 26 0x6162636465666768696a6b6c6d6e6f707172737475767778797a)) = 0xc3fcd3d76192e4007dfb496cca67e13b ∧
    -- "ABCDEFGHIJKLMNOPQRSTUVWXYZabcdefghijklmnopqrstuvwxyz0123456789"
    beNat (MD5.digest (toBE 62 0x4142434445464748494a4b4c4d4e4f505152535455565758595a6162636465666768696a6b6c6d6e6f707172737475767778797a30313233343536373839)) = 0xd174ab98d277d9f5a5611c2c9f419d9f ∧
    -- "12345678901234567890123456789012345678901234567890123456789012345678901234567890"
    beNat (MD5.digest (toBE 80 0x3132333435363738393031323334353637383930313233343536373839303132333435363738393031323334353637383930313233343536373839303132333435363738393031323334353637383930)) = 0x57edf4a22be3c955ac49da2e2107b67a := by
  decide +kernel

/-- FIPS 180 SHA-1 examples (one-block message "abc", two-block 448-bit message) and the empty message. -/
theorem sha1_fips180_examples :
    -- "abc"
    beNat (SHA.SHA1.digest (toBE 3 0x616263)) = 0xa9993e364706816aba3e25717850c26c9cd0d89d ∧
    -- "abcdbcdecdefdefgefghfghighijhijkijkljklmklmnlmnomnopnopq"
    beNat (SHA.SHA1.digest (toBE 56 0x6162636462636465636465666465666765666768666768696768696a68696a6b696a6b6c6a6b6c6d6b6c6d6e6c6d6e6f6d6e6f706e6f7071)) = 0x84983e441c3bd26ebaae4aa1f95129e5e54670f1 ∧
    -- ""
    beNat (SHA.SHA1.digest ([])) = 0xda39a3ee5e6b4b0d3255bfef95601890afd80709 := by
  rw [HashEval.sha1_eq]
  decide +kernel

/-- FIPS 180 SHA-224 examples ("abc", 448-bit two-block message) and the empty message. -/
theorem sha224_fips180_examples :
    -- "abc"
    beNat (SHA.sha224 (toBE 3 0x616263)) = 0x23097d223405d8228642a477bda255b32aadbce4bda0b3f7e36c9da7 ∧
    -- "abcdbcdecdefdefgefghfghighijhijkijkljklmklmnlmnomnopnopq"
    beNat (SHA.sha224 (toBE 56 0x6162636462636465636465666465666765666768666768696768696a68696a6b696a6b6c6a6b6c6d6b6c6d6e6c6d6e6f6d6e6f706e6f7071)) = 0x75388b16512776cc5dba5da1fd890150b0c6455cb4f58b1952522525 ∧
    -- ""
    beNat (SHA.sha224 ([])) = 0xd14a028c2a3a2bc9476102bb288234c415a2b01f828ea62ac5b3e42f := by
  rw [HashEval.sha224_eq]
  decide +kernel

/-- FIPS 180 SHA-256 examples ("abc", 448-bit two-block message) and the empty message. -/
theorem sha256_fips180_examples :
    -- "abc"
    beNat (SHA.sha256 (toBE 3 0x616263)) = 0xba7816bf8f01cfea414140de5dae2223b00361a396177a9cb410ff61f20015ad ∧
    -- "abcdbcdecdefdefgefghfghighijhijkijkljklmklmnlmnomnopnopq"
    beNat (SHA.sha256 (toBE 56 0x6162636462636465636465666465666765666768666768696768696a68696a6b696a6b6c6a6b6c6d6b6c6d6e6c6d6e6f6d6e6f706e6f7071)) = 0x248d6a61d20638b8e5c026930c3e6039a33ce45964ff2167f6ecedd419db06c1 ∧
    -- ""
    beNat (SHA.sha256 ([])) = 0xe3b0c44298fc1c149afbf4c8996fb92427ae41e4649b934ca495991b7852b855 := by
  rw [HashEval.sha256_eq]
  decide +kernel

/-- FIPS 180 SHA-384 examples ("abc", 896-bit two-block message) and the empty message. -/
theorem sha384_fips180_examples :
    -- "abc"
    beNat (SHA.sha384 (toBE 3 0x616263)) = 0xcb00753f45a35e8bb5a03d699ac65007272c32ab0eded1631a8b605a43ff5bed8086072ba1e7cc2358baeca134c825a7 ∧
    -- "abcdefghbcdefghicdefghijdefghijkefghijklfghijklmghijklmnhijklmnoijklmnopjklmnopqklmnopqrlmnopqrsmnopqrstnopqrstu"
    beNat (SHA.sha384 (toBE 112 0x61626364656667686263646566676869636465666768696a6465666768696a6b65666768696a6b6c666768696a6b6c6d6768696a6b6c6d6e68696a6b6c6d6e6f696a6b6c6d6e6f706a6b6c6d6e6f70716b6c6d6e6f7071726c6d6e6f707172736d6e6f70717273746e6f707172737475)) = 0x09330c33f71147e83d192fc782cd1b4753111b173b3b05d22fa08086e3b0f712fcc7c71a557e2db966c3e9fa91746039 ∧
    -- ""
    beNat (SHA.sha384 ([])) = 0x38b060a751ac96384cd9327eb1b1e36a21fdb71114be07434c0cc7bf63f6e1da274edebfe76f65fbd51ad2f14898b95b := by
  rw [HashEval.sha384_eq]
  decide +kernel

/-- FIPS 180 SHA-512 examples ("abc", 896-bit two-block message) and the empty message. -/
theorem sha512_fips180_examples :
    -- "abc"
    beNat (SHA.sha512 (toBE 3 0x616263)) = 0xddaf35a193617abacc417349ae20413112e6fa4e89a97ea20a9eeee64b55d39a2192992a274fc1a836ba3c23a3feebbd454d4423643ce80e2a9ac94fa54ca49f ∧
    -- "abcdefghbcdefghicdefghijdefghijkefghijklfghijklmghijklmnhijklmnoijklmnopjklmnopqklmnopqrlmnopqrsmnopqrstnopqrstu"
    beNat (SHA.sha512 (toBE 112 0x61626364656667686263646566676869636465666768696a6465666768696a6b65666768696a6b6c666768696a6b6c6d6768696a6b6c6d6e68696a6b6c6d6e6f696a6b6c6d6e6f706a6b6c6d6e6f70716b6c6d6e6f7071726c6d6e6f707172736d6e6f70717273746e6f707172737475)) = 0x8e959b75dae313da8cf4f72814fc143f8f7779c6eb9f7fa17299aeadb6889018501d289e4900f7e4331b99dec4b5433ac7d329eeb6dd26545e96e55b874be909 ∧
    -- ""
    beNat (SHA.sha512 ([])) = 0xcf83e1357eefb8bdf1542850d66d8007d620e4050b5715dc83f4a921d36ce9ce47d0d13c5d85f2b0ff8318d2877eec2f63b931bd47417a81a538327af927da3e := by
  rw [HashEval.sha512_eq]
  decide +kernel

/-- FIPS 180-4 SHA-512/224 examples ("abc", 896-bit two-block message) and the empty message. -/
theorem sha512_224_fips180_examples :
    -- "abc"
    beNat (SHA.sha512_224 (toBE 3 0x616263)) = 0x4634270f707b6a54daae7530460842e20e37ed265ceee9a43e8924aa ∧
    -- "abcdefghbcdefghicdefghijdefghijkefghijklfghijklmghijklmnhijklmnoijklmnopjklmnopqklmnopqrlmnopqrsmnopqrstnopqrstu"
    beNat (SHA.sha512_224 (toBE 112 0x61626364656667686263646566676869636465666768696a6465666768696a6b65666768696a6b6c666768696a6b6c6d6768696a6b6c6d6e68696a6b6c6d6e6f696a6b6c6d6e6f706a6b6c6d6e6f70716b6c6d6e6f7071726c6d6e6f707172736d6e6f70717273746e6f707172737475)) = 0x23fec5bb94d60b23308192640b0c453335d664734fe40e7268674af9 ∧
    -- ""
    beNat (SHA.sha512_224 ([])) = 0x6ed0dd02806fa89e25de060c19d3ac86cabb87d6a0ddd05c333b84f4 := by
  rw [HashEval.sha512_224_eq]
  decide +kernel

/-- FIPS 180-4 SHA-512/256 examples ("abc", 896-bit two-block message) and the empty message. -/
theorem sha512_256_fips180_examples :
    -- "abc"
    beNat (SHA.sha512_256 (toBE 3 0x616263)) = 0x53048e2681941ef99b2e29b76b4c7dabe4c2d0c634fc6d46e0e2f13107e7af23 ∧
    -- "abcdefghbcdefghicdefghijdefghijkefghijklfghijklmghijklmnhijklmnoijklmnopjklmnopqklmnopqrlmnopqrsmnopqrstnopqrstu"
    beNat (SHA.sha512_256 (toBE 112 0x61626364656667686263646566676869636465666768696a6465666768696a6b65666768696a6b6c666768696a6b6c6d6768696a6b6c6d6e68696a6b6c6d6e6f696a6b6c6d6e6f706a6b6c6d6e6f70716b6c6d6e6f7071726c6d6e6f707172736d6e6f70717273746e6f707172737475)) = 0x3928e184fb8690f840da3988121d31be65cb9d3ef83ee6146feac861e19b563a ∧
    -- ""
    beNat (SHA.sha512_256 ([])) = 0xc672b8d1ef56ed28ab87c3622c5114069bdd3ad7b8f9737498d0c01ecef0967a := by
  rw [HashEval.sha512_256_eq]
  decide +kernel

/-- NIST SHA3-224 example values: 0-bit message, 1600-bit message (200 bytes 0xa3, spans two or three blocks), and "abc". -/
theorem sha3_224_nist_examples :
    -- ""
    beNat (SHA3.sha3_224 ([])) = 0x6b4e03423667dbb73b6e15454f0eb1abd4597f9a1b078e3f5b5a6bc7 ∧
    -- List.replicate 200 0xa3
    beNat (SHA3.sha3_224 (List.replicate 200 0xa3)) = 0x9376816aba503f72f96ce7eb65ac095deee3be4bf9bbc2a1cb7e11e0 ∧
    -- "abc"
    beNat (SHA3.sha3_224 (toBE 3 0x616263)) = 0xe642824c3f8cf24ad09234ee7d3c766fc9a3a5168d0c94ad73b46fdf := by
  unfold SHA3.sha3_224
  rw [HashEval.Keccak.sha3_eq]
  decide +kernel

/-- NIST SHA3-256 example values: 0-bit message, 1600-bit message (200 bytes 0xa3, spans two or three blocks), and "abc". -/
theorem sha3_256_nist_examples :
    -- ""
    beNat (SHA3.sha3_256 ([])) = 0xa7ffc6f8bf1ed76651c14756a061d662f580ff4de43b49fa82d80a4b80f8434a ∧
    -- List.replicate 200 0xa3
    beNat (SHA3.sha3_256 (List.replicate 200 0xa3)) = 0x79f38adec5c20307a98ef76e8324afbfd46cfd81b22e3973c65fa1bd9de31787 ∧
    -- "abc"
    beNat (SHA3.sha3_256 (toBE 3 0x616263)) = 0x3a985da74fe225b2045c172d6bd390bd855f086e3e9d525b46bfe24511431532 := by
  unfold SHA3.sha3_256
  rw [HashEval.Keccak.sha3_eq]
  decide +kernel

/-- NIST SHA3-384 example values: 0-bit message, 1600-bit message (200 bytes 0xa3, spans two or three blocks), and "abc". -/
theorem sha3_384_nist_examples :
    -- ""
    beNat (SHA3.sha3_384 ([])) = 0x0c63a75b845e4f7d01107d852e4c2485c51a50aaaa94fc61995e71bbee983a2ac3713831264adb47fb6bd1e058d5f004 ∧
    -- List.replicate 200 0xa3
    beNat (SHA3.sha3_384 (List.replicate 200 0xa3)) = 0x1881de2ca7e41ef95dc4732b8f5f002b189cc1e42b74168ed1732649ce1dbcdd76197a31fd55ee989f2d7050dd473e8f ∧
    -- "abc"
    beNat (SHA3.sha3_384 (toBE 3 0x616263)) = 0xec01498288516fc926459f58e2c6ad8df9b473cb0fc08c2596da7cf0e49be4b298d88cea927ac7f539f1edf228376d25 := by
  unfold SHA3.sha3_384
  rw [HashEval.Keccak.sha3_eq]
  decide +kernel

/-- NIST SHA3-512 example values: 0-bit message, 1600-bit message (200 bytes 0xa3, spans two or three blocks), and "abc". -/
theorem sha3_512_nist_examples :
    -- ""
    beNat (SHA3.sha3_512 ([])) = 0xa69f73cca23a9ac5c8b567dc185a756e97c982164fe25859e0d1dcc1475c80a615b2123af1f5f94c11e3e9402c3ac558f500199d95b6d3e301758586281dcd26 ∧
    -- List.replicate 200 0xa3
    beNat (SHA3.sha3_512 (List.replicate 200 0xa3)) = 0xe76dfad22084a8b1467fcf2ffa58361bec7628edf5f3fdc0e4805dc48caeeca81b7c13c30adf52a3659584739a2df46be589c51ca1a4a8416df6545a1ce8ba00 ∧
    -- "abc"
    beNat (SHA3.sha3_512 (toBE 3 0x616263)) = 0xb751850b1a57168a5693cd924b6b096e08f621827444f70d884f5d0240d2712e10e116e9192af3c91a7ec57647e3934057340b4cf408d5a56592f8274eec53f0 := by
  unfold SHA3.sha3_512
  rw [HashEval.Keccak.sha3_eq]
  decide +kernel

/-- RFC 2202 §3, HMAC-SHA-1 test cases 1–7 (case 5 with the full 160-bit output). -/
theorem hmac_sha1_rfc2202 :
    -- key List.replicate 20 0x0b, data "Hi There"
    beNat (HMAC.hmac ⟨64, SHA.SHA1.digest⟩ (List.replicate 20 0x0b) (toBE 8 0x4869205468657265)) = 0xb617318655057264e28bc0b6fb378c8ef146be00 ∧
    -- key "Jefe", data "what do ya want for nothing?"
    beNat (HMAC.hmac ⟨64, SHA.SHA1.digest⟩ (toBE 4 0x4a656665) (toBE 28 0x7768617420646f2079612077616e7420666f72206e6f7468696e673f)) = 0xeffcdf6ae5eb2fa2d27416d5f184df9c259a7c79 ∧
    -- key List.replicate 20 0xaa, data List.replicate 50 0xdd
    beNat (HMAC.hmac ⟨64, SHA.SHA1.digest⟩ (List.replicate 20 0xaa) (List.replicate 50 0xdd)) = 0x125d7342b9ac11cd91a39af48aa17b4f63f175d3 ∧
    -- key (List.range 25).map (· + 1), data List.replicate 50 0xcd
    beNat (HMAC.hmac ⟨64, SHA.SHA1.digest⟩ ((List.range 25).map (· + 1)) (List.replicate 50 0xcd)) = 0x4c9007f4026250c6bc8414f9bf50c86c2d7235da ∧
    -- key List.replicate 20 0x0c, data "Test With Truncation"
    beNat (HMAC.hmac ⟨64, SHA.SHA1.digest⟩ (List.replicate 20 0x0c) (toBE 20 0x546573742057697468205472756e636174696f6e)) = 0x4c1a03424b55e07fe7f27be1d58bb9324a9a5a04 ∧
    -- key List.replicate 80 0xaa, data "Test Using Larger Than Block-Size Key - Hash Key First"
    beNat (HMAC.hmac ⟨64, SHA.SHA1.digest⟩ (List.replicate 80 0xaa) (toBE 54 0x54657374205573696e67204c6172676572205468616e20426c6f636b2d53697a65204b6579202d2048617368204b6579204669727374)) = 0xaa4ae5e15272d00e95705637ce8a3b55ed402112 ∧
    -- key List.replicate 80 0xaa, data "Test Using Larger Than Block-Size Key and Larger Than One Block-Size Data"
    beNat (HMAC.hmac ⟨64, SHA.SHA1.digest⟩ (List.replicate 80 0xaa) (toBE 73 0x54657374205573696e67204c6172676572205468616e20426c6f636b2d53697a65204b657920616e64204c6172676572205468616e204f6e6520426c6f636b2d53697a652044617461)) = 0xe8e99d0f45237d786d6bbaa7965c7808bbff1a91 := by
  rw [HashEval.sha1_eq]
  decide +kernel

/-- RFC 4231 §4, HMAC-SHA-224 test cases 1–7 (case 5 truncated to 128 bits as in the RFC). -/
theorem hmac_sha224_rfc4231 :
    -- key List.replicate 20 0x0b, data "Hi There"
    beNat (HMAC.hmac ⟨64, SHA.sha224⟩ (List.replicate 20 0x0b) (toBE 8 0x4869205468657265)) = 0x896fb1128abbdf196832107cd49df33f47b4b1169912ba4f53684b22 ∧
    -- key "Jefe", data "what do ya want for nothing?"
    beNat (HMAC.hmac ⟨64, SHA.sha224⟩ (toBE 4 0x4a656665) (toBE 28 0x7768617420646f2079612077616e7420666f72206e6f7468696e673f)) = 0xa30e01098bc6dbbf45690f3a7e9e6d0f8bbea2a39e6148008fd05e44 ∧
    -- key List.replicate 20 0xaa, data List.replicate 50 0xdd
    beNat (HMAC.hmac ⟨64, SHA.sha224⟩ (List.replicate 20 0xaa) (List.replicate 50 0xdd)) = 0x7fb3cb3588c6c1f6ffa9694d7d6ad2649365b0c1f65d69d1ec8333ea ∧
    -- key (List.range 25).map (· + 1), data List.replicate 50 0xcd
    beNat (HMAC.hmac ⟨64, SHA.sha224⟩ ((List.range 25).map (· + 1)) (List.replicate 50 0xcd)) = 0x6c11506874013cac6a2abc1bb382627cec6a90d86efc012de7afec5a ∧
    -- key List.replicate 20 0x0c, data "Test With Truncation", truncated to 128 bits
    beNat ((HMAC.hmac ⟨64, SHA.sha224⟩ (List.replicate 20 0x0c) (toBE 20 0x546573742057697468205472756e636174696f6e)).take 16) = 0x0e2aea68a90c8d37c988bcdb9fca6fa8 ∧
    -- key List.replicate 131 0xaa, data "Test Using Larger Than Block-Size Key - Hash Key First"
    beNat (HMAC.hmac ⟨64, SHA.sha224⟩ (List.replicate 131 0xaa) (toBE 54 0x54657374205573696e67204c6172676572205468616e20426c6f636b2d53697a65204b6579202d2048617368204b6579204669727374)) = 0x95e9a0db962095adaebe9b2d6f0dbce2d499f112f2d2b7273fa6870e ∧
    -- key List.replicate 131 0xaa, data "This is a test using a larger than block-size key and a larger than block-size data. The key needs to be hashed before being used by the HMAC algorithm."
    beNat (HMAC.hmac ⟨64, SHA.sha224⟩ (List.replicate 131 0xaa) (toBE 152 0x5468697320697320612074657374207573696e672061206c6172676572207468616e20626c6f636b2d73697a65206b657920616e642061206c6172676572207468616e20626c6f636b2d73697a6520646174612e20546865206b6579206e6565647320746f20626520686173686564206265666f7265206265696e6720757365642062792074686520484d414320616c676f726974686d2e)) = 0x3a854166ac5d9f023f54d517d0b39dbd946770db9c2b95c9f6f565d1 := by
  rw [HashEval.sha224_eq]
  decide +kernel

/-- RFC 4231 §4, HMAC-SHA-256 test cases 1–7 (case 5 truncated to 128 bits as in the RFC). -/
theorem hmac_sha256_rfc4231 :
    -- key List.replicate 20 0x0b, data "Hi There"
    beNat (HMAC.hmac ⟨64, SHA.sha256⟩ (List.replicate 20 0x0b) (toBE 8 0x4869205468657265)) = 0xb0344c61d8db38535ca8afceaf0bf12b881dc200c9833da726e9376c2e32cff7 ∧
    -- key "Jefe", data "what do ya want for nothing?"
    beNat (HMAC.hmac ⟨64, SHA.sha256⟩ (toBE 4 0x4a656665) (toBE 28 0x7768617420646f2079612077616e7420666f72206e6f7468696e673f)) = 0x5bdcc146bf60754e6a042426089575c75a003f089d2739839dec58b964ec3843 ∧
    -- key List.replicate 20 0xaa, data List.replicate 50 0xdd
    beNat (HMAC.hmac ⟨64, SHA.sha256⟩ (List.replicate 20 0xaa) (List.replicate 50 0xdd)) = 0x773ea91e36800e46854db8ebd09181a72959098b3ef8c122d9635514ced565fe ∧
    -- key (List.range 25).map (· + 1), data List.replicate 50 0xcd
    beNat (HMAC.hmac ⟨64, SHA.sha256⟩ ((List.range 25).map (· + 1)) (List.replicate 50 0xcd)) = 0x82558a389a443c0ea4cc819899f2083a85f0faa3e578f8077a2e3ff46729665b ∧
    -- key List.replicate 20 0x0c, data "Test With Truncation", truncated to 128 bits
    beNat ((HMAC.hmac ⟨64, SHA.sha256⟩ (List.replicate 20 0x0c) (toBE 20 0x546573742057697468205472756e636174696f6e)).take 16) = 0xa3b6167473100ee06e0c796c2955552b ∧
    -- key List.replicate 131 0xaa, data "Test Using Larger Than Block-Size Key - Hash Key First"
    beNat (HMAC.hmac ⟨64, SHA.sha256⟩ (List.replicate 131 0xaa) (toBE 54 0x54657374205573696e67204c6172676572205468616e20426c6f636b2d53697a65204b6579202d2048617368204b6579204669727374)) = 0x60e431591ee0b67f0d8a26aacbf5b77f8e0bc6213728c5140546040f0ee37f54 ∧
    -- key List.replicate 131 0xaa, data "This is a test using a larger than block-size key and a larger than block-size data. The key needs to be hashed before being used by the HMAC algorithm."
    beNat (HMAC.hmac ⟨64, SHA.sha256⟩ (List.replicate 131 0xaa) (toBE 152 0x5468697320697320612074657374207573696e672061206c6172676572207468616e20626c6f636b2d73697a65206b657920616e642061206c6172676572207468616e20626c6f636b2d73697a6520646174612e20546865206b6579206e6565647320746f20626520686173686564206265666f7265206265696e6720757365642062792074686520484d414320616c676f726974686d2e)) = 0x9b09ffa71b942fcb27635fbcd5b0e944bfdc63644f0713938a7f51535c3a35e2 := by
  rw [HashEval.sha256_eq]
  decide +kernel

/-- RFC 4231 §4, HMAC-SHA-384 test cases 1–7 (case 5 truncated to 128 bits as in the RFC). -/
theorem hmac_sha384_rfc4231 :
    -- key List.replicate 20 0x0b, data "Hi There"
    beNat (HMAC.hmac ⟨128, SHA.sha384⟩ (List.replicate 20 0x0b) (toBE 8 0x4869205468657265)) = 0xafd03944d84895626b0825f4ab46907f15f9dadbe4101ec682aa034c7cebc59cfaea9ea9076ede7f4af152e8b2fa9cb6 ∧
    -- key "Jefe", data "what do ya want for nothing?"
    beNat (HMAC.hmac ⟨128, SHA.sha384⟩ (toBE 4 0x4a656665) (toBE 28 0x7768617420646f2079612077616e7420666f72206e6f7468696e673f)) = 0xaf45d2e376484031617f78d2b58a6b1b9c7ef464f5a01b47e42ec3736322445e8e2240ca5e69e2c78b3239ecfab21649 ∧
    -- key List.replicate 20 0xaa, data List.replicate 50 0xdd
    beNat (HMAC.hmac ⟨128, SHA.sha384⟩ (List.replicate 20 0xaa) (List.replicate 50 0xdd)) = 0x88062608d3e6ad8a0aa2ace014c8a86f0aa635d947ac9febe83ef4e55966144b2a5ab39dc13814b94e3ab6e101a34f27 ∧
    -- key (List.range 25).map (· + 1), data List.replicate 50 0xcd
    beNat (HMAC.hmac ⟨128, SHA.sha384⟩ ((List.range 25).map (· + 1)) (List.replicate 50 0xcd)) = 0x3e8a69b7783c25851933ab6290af6ca77a9981480850009cc5577c6e1f573b4e6801dd23c4a7d679ccf8a386c674cffb ∧
    -- key List.replicate 20 0x0c, data "Test With Truncation", truncated to 128 bits
    beNat ((HMAC.hmac ⟨128, SHA.sha384⟩ (List.replicate 20 0x0c) (toBE 20 0x546573742057697468205472756e636174696f6e)).take 16) = 0x3abf34c3503b2a23a46efc619baef897 ∧
    -- key List.replicate 131 0xaa, data "Test Using Larger Than Block-Size Key - Hash Key First"
    beNat (HMAC.hmac ⟨128, SHA.sha384⟩ (List.replicate 131 0xaa) (toBE 54 0x54657374205573696e67204c6172676572205468616e20426c6f636b2d53697a65204b6579202d2048617368204b6579204669727374)) = 0x4ece084485813e9088d2c63a041bc5b44f9ef1012a2b588f3cd11f05033ac4c60c2ef6ab4030fe8296248df163f44952 ∧
    -- key List.replicate 131 0xaa, data "This is a test using a larger than block-size key and a larger than block-size data. The key needs to be hashed before being used by the HMAC algorithm."
    beNat (HMAC.hmac ⟨128, SHA.sha384⟩ (List.replicate 131 0xaa) (toBE 152 0x5468697320697320612074657374207573696e672061206c6172676572207468616e20626c6f636b2d73697a65206b657920616e642061206c6172676572207468616e20626c6f636b2d73697a6520646174612e20546865206b6579206e6565647320746f20626520686173686564206265666f7265206265696e6720757365642062792074686520484d414320616c676f726974686d2e)) = 0x6617178e941f020d351e2f254e8fd32c602420feb0b8fb9adccebb82461e99c5a678cc31e799176d3860e6110c46523e := by
  rw [HashEval.sha384_eq]
  decide +kernel

/-- RFC 4231 §4, HMAC-SHA-512 test cases 1–7 (case 5 truncated to 128 bits as in the RFC). -/
theorem hmac_sha512_rfc4231 :
    -- key List.replicate 20 0x0b, data "Hi There"
    beNat (HMAC.hmac ⟨128, SHA.sha512⟩ (List.replicate 20 0x0b) (toBE 8 0x4869205468657265)) = 0x87aa7cdea5ef619d4ff0b4241a1d6cb02379f4e2ce4ec2787ad0b30545e17cdedaa833b7d6b8a702038b274eaea3f4e4be9d914eeb61f1702e696c203a126854 ∧
    -- key "Jefe", data "what do ya want for nothing?"
    beNat (HMAC.hmac ⟨128, SHA.sha512⟩ (toBE 4 0x4a656665) (toBE 28 0x7768617420646f2079612077616e7420666f72206e6f7468696e673f)) = 0x164b7a7bfcf819e2e395fbe73b56e0a387bd64222e831fd610270cd7ea2505549758bf75c05a994a6d034f65f8f0e6fdcaeab1a34d4a6b4b636e070a38bce737 ∧
    -- key List.replicate 20 0xaa, data List.replicate 50 0xdd
    beNat (HMAC.hmac ⟨128, SHA.sha512⟩ (List.replicate 20 0xaa) (List.replicate 50 0xdd)) = 0xfa73b0089d56a284efb0f0756c890be9b1b5dbdd8ee81a3655f83e33b2279d39bf3e848279a722c806b485a47e67c807b946a337bee8942674278859e13292fb ∧
    -- key (List.range 25).map (· + 1), data List.replicate 50 0xcd
    beNat (HMAC.hmac ⟨128, SHA.sha512⟩ ((List.range 25).map (· + 1)) (List.replicate 50 0xcd)) = 0xb0ba465637458c6990e5a8c5f61d4af7e576d97ff94b872de76f8050361ee3dba91ca5c11aa25eb4d679275cc5788063a5f19741120c4f2de2adebeb10a298dd ∧
    -- key List.replicate 20 0x0c, data "Test With Truncation", truncated to 128 bits
    beNat ((HMAC.hmac ⟨128, SHA.sha512⟩ (List.replicate 20 0x0c) (toBE 20 0x546573742057697468205472756e636174696f6e)).take 16) = 0x415fad6271580a531d4179bc891d87a6 ∧
    -- key List.replicate 131 0xaa, data "Test Using Larger Than Block-Size Key - Hash Key First"
    beNat (HMAC.hmac ⟨128, SHA.sha512⟩ (List.replicate 131 0xaa) (toBE 54 0x54657374205573696e67204c6172676572205468616e20426c6f636b2d53697a65204b6579202d2048617368204b6579204669727374)) = 0x80b24263c7c1a3ebb71493c1dd7be8b49b46d1f41b4aeec1121b013783f8f3526b56d037e05f2598bd0fd2215d6a1e5295e64f73f63f0aec8b915a985d786598 ∧
    -- key List.replicate 131 0xaa, data "This is a test using a larger than block-size key and a larger than block-size data. The key needs to be hashed before being used by the HMAC algorithm."
    beNat (HMAC.hmac ⟨128, SHA.sha512⟩ (List.replicate 131 0xaa) (toBE 152 0x5468697320697320612074657374207573696e672061206c6172676572207468616e20626c6f636b2d73697a65206b657920616e642061206c6172676572207468616e20626c6f636b2d73697a6520646174612e20546865206b6579206e6565647320746f20626520686173686564206265666f7265206265696e6720757365642062792074686520484d414320616c676f726974686d2e)) = 0xe37b6a775dc87dbaa4dfa9f96e5e3ffddebd71f8867289865df5a32d20cdc944b6022cac3c4982b10d5eeb55c3e4de15134676fb6de0446065c97440fa8c6a58 := by
  rw [HashEval.sha512_eq]
  decide +kernel

/-- FIPS 202 Algorithm 5/6: the 24 round constants used by the executable are the ones the LFSR
    `rc(t)` generates. -/
theorem keccak_rc_generated : SHA3.RC = (List.range 24).map SHA3.rcGen := by
  decide +kernel

/-- FIPS 202 Algorithm 2: the ρ offsets used by the executable are the ones generated by the walk
    `(x,y) ← (y, 2x+3y)` with offsets `(t+1)(t+2)/2 mod 64`. -/
theorem keccak_rho_generated : SHA3.RHO = SHA3.rhoGen 24 0 1 0 (List.replicate 25 0) := by
  decide +kernel

/-- FIPS 180-4 §5.3.6.1: the SHA-512/224 initial hash value is what the "SHA-512/t IV generation
    function" yields for the string "SHA-512/224". -/
theorem iv512_224_generated : SHA.ivGen (toBE 11 0x5348412d3531322f323234) = SHA.iv512_224 := by
  rw [SHA.ivGen, HashEval.hashWords_eq HashEval.fits64]
  decide +kernel

/-- FIPS 180-4 §5.3.6.2: likewise for SHA-512/256. -/
theorem iv512_256_generated : SHA.ivGen (toBE 11 0x5348412d3531322f323536) = SHA.iv512_256 := by
  rw [SHA.ivGen, HashEval.hashWords_eq HashEval.fits64]
  decide +kernel

/-- SHA-224 and SHA-384 initial values are the second 32 bits / the 64 bits of the fractional
    parts of the square roots of the 9th–16th primes: the low halves of the SHA-384 words are the
    SHA-224 words (FIPS 180-4 §5.3.2, §5.3.4). -/
theorem iv224_low_half_of_iv384 : SHA.iv384.map (· % M32) = SHA.iv224 := by
  decide +kernel

/-- the SHA-256 constants are the high halves of the first 64 SHA-512 constants (both are the
    fractional parts of the cube roots of the first primes, FIPS 180-4 §4.2.2/4.2.3); same for the
    initial values (square roots, §5.3.3/5.3.5). -/
theorem k256_high_half_of_k512 :
    (SHA.K512.take 64).map (· / M32) = SHA.K256 ∧ SHA.iv512.map (· / M32) = SHA.iv256 := by
  decide +kernel

/-- for EVERY parameter row (all 112 algorithms accepted by vrl's `crc`), the Rocksoft model
    gives the catalogue's `check` value on the ASCII string "123456789". -/
theorem crc_catalogue_check :
    ∀ p ∈ CRC.table, CRC.crc p (toBE 9 0x313233343536373839) = p.check := by
  rw [HashEval.crc_eq]
  decide +kernel

/-- well-formedness of every row: the width is between 1 and 82, `poly`, `init`, `xorout` and
    `check` fit the width, and `poly` is odd.  (The catalogue's `residue` column is carried by the
    table but no theorem speaks of it.) -/
theorem crc_rows_wellformed :
    ∀ p ∈ CRC.table, 0 < p.width ∧ p.width ≤ 82 ∧ p.poly < 2 ^ p.width ∧ p.init < 2 ^ p.width ∧
      p.xorout < 2 ^ p.width ∧ p.check < 2 ^ p.width ∧ p.poly % 2 = 1 := by
  decide +kernel

/-- the test buffer of the xxHash reference sanity check: `byteGen = PRIME32`, then repeatedly
    `buffer[i] = byteGen >> 56; byteGen *= PRIME64` (PRIME32 = 2654435761,
    PRIME64 = 11400714785074694797). -/
def sanityBuf (n : Nat) : Bytes :=
  ((List.range n).foldl
    (fun (acc : List Nat × Nat) _ => ((acc.2 >>> 56) :: acc.1, acc.2 * 11400714785074694797 % M64))
    ([], 2654435761)).1.reverse

theorem sanityBuf_length (n : Nat) : (sanityBuf n).length = n := by
  rw [sanityBuf, List.length_reverse]
  induction n with
  | zero => rfl
  | succ n ih => rw [List.range_succ, List.foldl_append]; exact congrArg (· + 1) ih

/-- XXH32 with seed 0: empty input and the sanity-check lengths 1, 14, 222 of the reference
    distribution; plus the examples of vrl's documentation. -/
theorem xxh32_vectors :
    XXH.xxh32 0 [] = 0x02CC5D05 ∧
    XXH.xxh32 0 (sanityBuf 1) = 0xCF65B03E ∧
    XXH.xxh32 0 (sanityBuf 14) = 0x1208E7E2 ∧
    XXH.xxh32 0 (sanityBuf 222) = 0x5BD11DBD ∧
    XXH.xxh32 0 (toBE 3 0x666f6f) = 3792637401 := by
  decide +kernel

theorem xxh64_vectors :
    XXH.xxh64 0 [] = 0xEF46DB3751D8E999 ∧
    XXH.xxh64 0 (sanityBuf 1) = 0xE934A84ADB052768 ∧
    XXH.xxh64 0 (sanityBuf 14) = 0x8282DCC4994E35C8 ∧
    XXH.xxh64 0 (sanityBuf 222) = 0xB641AE8CB691C174 ∧
    XXH.xxh64 0 (toBE 3 0x666f6f) = 3728699739546630719 := by
  decide +kernel

/-- the accumulators of the three inputs longer than 240 bytes: computed by the model, printed in no
    reference; shared so that `xxh3_64_vectors` and `xxh3_128_vectors` evaluate `XXH3.longAcc` once. -/
theorem longAcc_sanityBuf :
    XXH3.longAcc (sanityBuf 403) =
      [10981796983310821835, 17851351743925995951, 10237595739214651485, 2973469735851814670,
       8560224196498131996, 12402573286794757274, 6604186612842802417, 7756708318571376410] ∧
    XXH3.longAcc (sanityBuf 512) =
      [6785429108684832380, 14143405028901081416, 1894157818645307323, 9657512286519625186,
       2044987173614562391, 10591483199984115132, 18083271154150066551, 15558027082775351557] ∧
    XXH3.longAcc (sanityBuf 2367) =
      [4965282003800744275, 1985108032062633788, 3558801455042682485, 18233889800299391682,
       14653588645360983355, 567605346063950467, 2641709603518016972, 595431085857992945] := by
  decide +kernel

/-- XXH3-64 (seed 0, default secret): one vector in every length class of the algorithm
    (0, 1–3, 4–8, 9–16, 17–128, 129–240, > 240: less than one block, and two full blocks plus a partial one). -/
theorem xxh3_64_vectors :
    XXH3.xxh3_64 [] = 0x2D06800538D394C2 ∧
    XXH3.xxh3_64 (sanityBuf 1) = 0xC44BDFF4074EECDB ∧
    XXH3.xxh3_64 (sanityBuf 6) = 0x27B56A84CD2D7325 ∧
    XXH3.xxh3_64 (sanityBuf 12) = 0xA713DAF0DFBB77E7 ∧
    XXH3.xxh3_64 (sanityBuf 24) = 0xA3FE70BF9D3510EB ∧
    XXH3.xxh3_64 (sanityBuf 48) = 0x397DA259ECBA1F11 ∧
    XXH3.xxh3_64 (sanityBuf 80) = 0xBCDEFBBB2C47C90A ∧
    XXH3.xxh3_64 (sanityBuf 195) = 0xCD94217EE362EC3A ∧
    XXH3.xxh3_64 (sanityBuf 403) = 0xCDEB804D65C6DEA4 ∧
    XXH3.xxh3_64 (sanityBuf 512) = 0x617E49599013CB6B ∧
    XXH3.xxh3_64 (sanityBuf 2367) = 0xCB37AEB9E5D361ED := by
  unfold XXH3.xxh3_64
  simp only [sanityBuf_length]
  rw [longAcc_sanityBuf.1, longAcc_sanityBuf.2.1, longAcc_sanityBuf.2.2]
  decide +kernel

/-- XXH3-128 (seed 0): the same length classes; values written `high64 * 2^64 + low64`. -/
theorem xxh3_128_vectors :
    XXH3.xxh3_128 [] = 0x99AA06D3014798D8 * M64 + 0x6001C324468D497F ∧
    XXH3.xxh3_128 (sanityBuf 1) = 0xA6CD5E9392000F6A * M64 + 0xC44BDFF4074EECDB ∧
    XXH3.xxh3_128 (sanityBuf 6) = 0x082AFE0B8162D12A * M64 + 0x3E7039BDDA43CFC6 ∧
    XXH3.xxh3_128 (sanityBuf 12) = 0x6E3EFD8FC7802B18 * M64 + 0x061A192713F69AD9 ∧
    XXH3.xxh3_128 (sanityBuf 24) = 0x0CE966E4678D3761 * M64 + 0x1E7044D28B1B901D ∧
    XXH3.xxh3_128 (sanityBuf 48) = 0xA002AC4E5478227E * M64 + 0xF942219AED80F67B ∧
    XXH3.xxh3_128 (sanityBuf 81) = 0x4952F58181AB0042 * M64 + 0x5E8BAFB9F95FB803 ∧
    XXH3.xxh3_128 (sanityBuf 222) = 0x337E09641B948717 * M64 + 0xF1AEBD597CEC6B3A ∧
    XXH3.xxh3_128 (sanityBuf 403) = 0x1B6DE21E332DD73D * M64 + 0xCDEB804D65C6DEA4 ∧
    XXH3.xxh3_128 (sanityBuf 512) = 0x18D2D110DCC9BCA1 * M64 + 0x617E49599013CB6B ∧
    XXH3.xxh3_128 (sanityBuf 2367) = 0xE89C0F6FF369B427 * M64 + 0xCB37AEB9E5D361ED := by
  unfold XXH3.xxh3_128
  simp only [sanityBuf_length]
  rw [longAcc_sanityBuf.1, longAcc_sanityBuf.2.1, longAcc_sanityBuf.2.2]
  decide +kernel

/-- the test vectors of the SeaHash reference (`reference::tests::shakespear`,
    `helper::tests::diffuse_test_vectors`). -/
theorem seahash_vectors :
    SeaHash.hash (toBE 18 0x746f206265206f72206e6f7420746f206265) = 1988685042348123509 ∧
    SeaHash.diffuse 94203824938 = 17289265692384716055 ∧
    SeaHash.diffuse 0xDEADBEEF = 12110756357096144265 ∧
    SeaHash.diffuse 0 = 0 ∧
    SeaHash.diffuse 1 = 15197155197312260123 ∧
    SeaHash.diffuse 2 = 1571904453004118546 ∧
    SeaHash.diffuse 3 = 16467633989910088880 := by
  decide +kernel

end C27
