/-
  C19 – the type abstraction (`Kind`) is sound for path operations and merging.

  Spec: `Spec.mem v K` (`v ∈ₖ K`, VrlModel/KindSpec.lean), defined by recursion on the value and
  independently of the operations; laws as decidable predicates in VrlModel/C19.lean (`atLawM`, …),
  the same predicates the oracle evaluates on the implementation's observations.
  Model: VrlModel/{Kind,KindOps,KindCrud}.lean. Helper lemmas: VrlProofs/Lemmas/Kind*.lean.
-/
import VrlProofs.Lemmas.KindGet
import VrlProofs.Lemmas.KindUnion
import VrlProofs.Lemmas.KindSuperset
import VrlProofs.Lemmas.KindInsert
import VrlProofs.Lemmas.KindGetNeg
import VrlProofs.Lemmas.KindRemove
import VrlProofs.Lemmas.KindSupConv
import VrlProofs.Lemmas.KindMerge
import VrlProofs.Lemmas.KindCanon

namespace C19
open Spec

/-- a class function answers `none` only when the test of each earlier class fails. -/
theorem cls_if {b : Bool} {x y : Cls} (hx : x ≠ .none) (h : (if b = true then x else y) = .none) :
    b = false ∧ y = .none := by
  cases b
  · exact ⟨rfl, h⟩
  · exact absurd h hx

/-- `Kind::from(&v)` contains `v` (for every value whose objects have strictly increasing keys,
    which is what a `BTreeMap` holds; `C18.insert_sorted`/`remove_sorted` preserve it). -/
theorem mem_kindOf (v : Value) (h : v.Sorted = true) : mem v v.kindOf = true :=
  Spec.mem_kindOf v h

/-- both reading laws follow from the soundness of `at_path` (`get` is its `upgrade_undefined`). -/
theorem atLawM_of_atPath (v : Value) (K : Kind) (p : Path)
    (h : mem v K = true → memOpt (Value.getOpt (some v) p) (K.atPath p) = true) : atLawM v K p = true := by
  unfold atLawM atLaw getLaw
  cases hm : mem v K with
  | false => rfl
  | true =>
    simp only [Value.get, Kind.get, Bool.not_true, Bool.false_or, Bool.and_eq_true]
    exact ⟨h hm, Spec.mem_upgradeUndefined _ _ (h hm)⟩

/-- **Reading is sound** (`at_path` and `get`), for every value, kind and path such that the path
    does not meet an array kind with a known index that may be absent (class
    `D_minlen_counts_optional`, witnessed) nor, at a negative index, an array kind of unknown length
    (that case unions known kinds with `merge_keep`; see `at_sound_class`).
    Field segments, non-negative indices and negative indices into arrays of exactly known length are
    covered without further condition, through any mixture of kinds (unions, unknown fields, json/any). -/
theorem at_sound_partial (v : Value) (K : Kind) (p : Path) (hs : v.Sorted = true)
    (h1 : anyOnPath optionalIdx K p = false) (h2 : anyOnPath negUnknown K p = false) :
    atLawM v K p = true :=
  atLawM_of_atPath v K p fun hm => Spec.atPath_sound_gen p (some v) K hs hm h1 (.inl h2)

theorem negUnknown_false_of_nonNeg : (p : Path) → (K : Kind) → Spec.nonNegPath p = true →
    anyOnPath negUnknown K p = false
  | [], _, _ => rfl
  | s :: rest, K, h => by
    simp only [Spec.nonNegPath, List.all_cons, Bool.and_eq_true] at h
    simp only [anyOnPath, Bool.or_eq_false_iff]
    refine ⟨?_, negUnknown_false_of_nonNeg rest _ h.2⟩
    cases s with
    | field f => simp [negUnknown]
    | index i =>
      have hi : ¬ i < 0 := by
        have := h.1; simp [Spec.nonNegSeg] at this; omega
      simp only [negUnknown]
      cases K.array with
      | none => rfl
      | some c => simp [hi]

/-- **A union contains every member of its operands**, for kinds whose known maps are key-sorted
    (`BTreeMap`) and whose `Infinite` unknowns are all `any` (`unionClass = none`). Outside that class
    `Unknown::merge` lets an `Infinite` (json) unknown overwrite an `Exact` one and the law is false
    (`W.witness_union_inf_over_exact`). -/
theorem union_sound_partial (v : Value) (A B : Kind) (sA : A.SortedK = true) (sB : B.SortedK = true)
    (hc : unionClass A B = .none) : unionLawM v A B = true := by
  have hi : A.hasNonAnyInf = false ∧ B.hasNonAnyInf = false := by
    simpa using (cls_if (by decide) hc).1
  unfold unionLawM unionLaw
  cases hA : mem v A with
  | true => simp [(Spec.union_locSub_left ⟨sA, hi.1⟩ ⟨sB, hi.2⟩).elem hA]
  | false =>
    cases hB : mem v B with
    | true => simp [(Spec.union_locSub_right ⟨sA, hi.1⟩ ⟨sB, hi.2⟩).elem hB]
    | false => rfl

theorem mem_union_left (v : Value) (A B : Kind) (sA : A.SortedK = true) (sB : B.SortedK = true)
    (iA : A.hasNonAnyInf = false) (iB : B.hasNonAnyInf = false) (h : mem v A = true) :
    mem v (A.union B) = true :=
  (Spec.union_locSub_left ⟨sA, iA⟩ ⟨sB, iB⟩).elem h

theorem mem_union_right (v : Value) (A B : Kind) (sA : A.SortedK = true) (sB : B.SortedK = true)
    (iA : A.hasNonAnyInf = false) (iB : B.hasNonAnyInf = false) (h : mem v B = true) :
    mem v (A.union B) = true :=
  (Spec.union_locSub_right ⟨sA, iA⟩ ⟨sB, iB⟩).elem h

/-- **The subtype test is sound**: if `A.is_superset(B)` answers `Ok` then every member of `B` is a
    member of `A` – for every `A` without an `Exact(k)` unknown whose `k.is_any()` holds
    (`Unknown::from` never builds one; see `W.witness_superset_exact_isAny` for why it is excluded). -/
theorem superset_sound_partial (v : Value) (A B : Kind)
    (hA : A.anyUnknown Unknown.exactIsAny = false) : supersetLawM v A B = true := by
  unfold supersetLawM supersetLaw
  cases hr : A.isSuperset B with
  | false => rfl
  | true =>
    cases hB : mem v B with
    | false => rfl
    | true =>
      have := ((Spec.isSupersetF_sound _).sub A B hA hr).elem hB
      simp [this]

/-- `mem_iff_superset`, the direction that holds for every kind in the fragment above:
    the maintainers' oracle `K.is_superset(Kind::from(v))` never accepts a non-member. -/
theorem mem_of_superset_kindOf (v : Value) (K : Kind) (hs : v.Sorted = true)
    (hK : K.anyUnknown Unknown.exactIsAny = false) (h : K.isSuperset v.kindOf = true) :
    mem v K = true :=
  ((Spec.isSupersetF_sound _).sub K v.kindOf hK h).elem (Spec.mem_kindOf v hs)

/-- **Insertion is sound** for every path of field segments and non-negative indices, outside the
    finding classes: on the walk `insert_recursive` makes, no array kind has a known index that may
    be absent (`D_minlen_counts_optional`) and no kind is a union whose collection state for the
    segment has a known entry that must be present (`D_insert_union_alt`); both classes are witnessed,
    and `insertClass … = none` implies both hypotheses. This covers `any`, `json`, unions without
    required fields and exact object/array kinds. Negative indices are not covered:
    `D_neg_insert_exact_noshift` is a witnessed defect, the unknown-length branch goes through
    `Collection::merge`. -/
theorem insert_sound_partial (v : Value) (K : Kind) (p : Path) (x : Value) (X : Kind)
    (hs : v.Sorted = true) (hp : Spec.nonNegPath p = true)
    (h1 : anyOnInsertPath optionalIdx K p = false) (h2 : anyOnInsertPath unionAltReq K p = false) :
    insertLawM v K p x X = true := by
  unfold insertLawM Value.insert
  split
  · rfl
  · rename_i v' prev heq
    split at heq
    · cases heq
    · cases heq
      unfold insertLaw
      cases hm : mem v K with
      | false => rfl
      | true =>
        cases hx : mem x X with
        | false => rfl
        | true =>
          have := Spec.insertRec_sound p (some v) K x X.upgradeUndefined hs hm
            (Spec.mem_upgradeUndefined_of_mem x X hx) hp h1 h2
          simpa [Kind.insert] using this

theorem insertClass_none (K : Kind) (p : Path) (X : Kind) (h : insertClass K p X = .none) :
    anyOnInsertPath optionalIdx K p = false ∧ anyOnInsertPath unionAltReq K p = false := by
  obtain ⟨h1, h⟩ := cls_if (by decide) h
  obtain ⟨_, h⟩ := cls_if (by decide) h
  exact ⟨h1, (cls_if (by decide) h).1⟩

/-- what `atClass K p = none` says, in the form `Spec.atPath_sound_gen` takes. -/
theorem atClass_none {K : Kind} {p : Path} (sK : K.SortedK = true) (h : atClass K p = .none) :
    anyOnPath optionalIdx K p = false ∧ (anyOnPath negUnknown K p = false ∨ Tame K) := by
  obtain ⟨h1, h⟩ := cls_if (by decide) h
  have h2 := (cls_if (by decide) h).1
  refine ⟨h1, ?_⟩
  cases hn : anyOnPath negUnknown K p with
  | false => exact .inl rfl
  | true => exact .inr ⟨sK, by simpa [hn] using h2⟩

/-- **Reading is sound outside the finding classes**: for every value with key-sorted objects, every
    key-sorted kind (`BTreeMap`s) and every path (fields, indices of either sign, any depth) with
    `atClass K p = none`, i.e. the path meets no array kind with a known index that may be absent
    (`D_minlen_counts_optional`) and, if it meets an array kind of unknown length at a negative index,
    every `Infinite` unknown of `K` is `any` (`D_inf_over_exact`). -/
theorem at_sound_class (v : Value) (K : Kind) (p : Path) (hs : v.Sorted = true)
    (sK : K.SortedK = true) (hc : atClass K p = .none) : atLawM v K p = true := by
  obtain ⟨h1, h2⟩ := atClass_none sK hc
  exact atLawM_of_atPath v K p fun hm => Spec.atPath_sound_gen p (some v) K hs hm h1 h2

/-- **Removal at the root is sound** (every value, kind and compaction flag): the emptied value
    belongs to the kind left behind, the removed value to the returned kind. Removal at non-root
    paths is unsound in the witnessed classes `D_remove_neg_gap`, `D_remove_through_unknown`,
    `D_compact_union_alt`, `D_compact_optional_known`, `D_minlen_counts_optional`; no general theorem
    is claimed there (one field, for every kind with a tame object state and every member object:
    `Spec.remove_field_obj_sound`).
    `D_remove_shift` (ff94317) and `D_remove_neg_underflow` (e3023e2, a panic) are repaired in the
    implementation: `C19.W.fixed_remove_shift`, `C19.W.fixed_remove_neg_underflow`. -/
theorem remove_root_sound (v : Value) (K : Kind) (c : Bool) : removeLawM v K [] c = true := by
  unfold removeLawM
  rw [Spec.remove_root_eq]
  simp only [Value.remove, Value.removeOpt, removeLaw, removedLaw, Option.getD_some]
  cases hm : mem v K with
  | false => rfl
  | true =>
    have h1 := Spec.mem_emptied v K hm
    have h2 := Spec.mem_upgradeUndefined_of_mem v K hm
    simp only [Bool.not_true, Bool.false_or, Bool.and_eq_true]
    exact ⟨h1, h2⟩

/-- the converse direction: a member passes the subtype test, for well-formed kinds (array slots hold
    index keys, keys strictly increasing) whose `Infinite` unknowns are all `any`. With a non-`any`
    `Infinite` (json) unknown it is false of the code (`W.witness_memsup_inf_vs_exact`). -/
theorem superset_kindOf_of_mem (v : Value) (K : Kind) (hi : K.hasNonAnyInf = false)
    (hw : K.WF = true) (h : mem v K = true) : K.isSuperset v.kindOf = true := by
  unfold Kind.isSuperset
  apply Spec.superset_of_mem v _ K _ h ⟨hi, hw⟩
  unfold Kind.fuel; omega

/-- **`mem_iff_superset`** (the maintainers' fuzz oracle `K.is_superset(Kind::from(v))` coincides with
    membership) on the fragment where it holds. -/
theorem mem_iff_superset_partial (v : Value) (K : Kind) (hs : v.Sorted = true)
    (hi : K.hasNonAnyInf = false) (hw : K.WF = true)
    (he : K.anyUnknown Unknown.exactIsAny = false) :
    mem v K = true ↔ K.isSuperset v.kindOf = true :=
  ⟨superset_kindOf_of_mem v K hi hw, mem_of_superset_kindOf v K hs he⟩

/-- under the hypotheses of `mem_iff_superset_partial` the oracle clause `memsup` holds. -/
theorem memsup_partial (v : Value) (K : Kind) (hs : v.Sorted = true)
    (hi : K.hasNonAnyInf = false) (hw : K.WF = true)
    (he : K.anyUnknown Unknown.exactIsAny = false) : memsupLawM v K = true := by
  unfold memsupLawM memsupLaw
  have := mem_iff_superset_partial v K hs hi hw he
  cases h1 : mem v K <;> cases h2 : K.isSuperset v.kindOf <;> simp_all

/-- **`merge(Strategy::Overwrite)` describes the run-time `a | b`** for every pair of objects
    `a ∈ₖ A`, `b ∈ₖ B` with `mergeClass A B = none`: no known field of `B` may be absent
    (`D_merge_overwrite_maybe_absent`), not both object unknowns are `Exact` with defined states
    (`D_merge_unknown_overwrite`), every `Infinite` unknown is `any` (`D_inf_over_exact`); all three
    classes are witnessed. Kinds key-sorted (`BTreeMap`). -/
theorem merge_sound_partial (a b : Value) (A B : Kind) (sa : a.Sorted = true) (sb : b.Sorted = true)
    (sA : A.SortedK = true) (sB : B.SortedK = true) (hc : mergeClass A B = .none) :
    mergeLawM a A b B = true := by
  unfold mergeLawM
  split
  · rename_i ma mb
    unfold mergeLaw
    cases hA : mem (.obj ma) A with
    | false => rfl
    | true =>
    cases hB : mem (.obj mb) B with
    | false => rfl
    | true =>
    have hsa := VMap.sortedKeys_of_sorted ma sa
    have hsb := VMap.sortedKeys_of_sorted mb sb
    obtain ⟨c1, hc1, ha⟩ := (Spec.mem_obj_fits ma A hsa).mp hA
    obtain ⟨c2, hc2, hb⟩ := (Spec.mem_obj_fits mb B hsb).mp hB
    obtain ⟨h1, hc⟩ := cls_if (by decide) hc
    obtain ⟨h2, hc⟩ := cls_if (by decide) hc
    have hi : A.hasNonAnyInf = false ∧ B.hasNonAnyInf = false := by
      simpa using (cls_if (by decide) hc).1
    obtain ⟨pA, aA, rfl⟩ := Kind.eq_of_object hc1
    obtain ⟨pB, aB, rfl⟩ := Kind.eq_of_object hc2
    simp only [overwriteMaybeAbsent, unknownOverwrite, Kind.object] at h1 h2
    simp only [Kind.merge, Kind.mergeKeep_mk, Kind.Strategy.isShallow, OCol.mergeWith,
      Bool.and_self, Bool.not_true, Bool.false_or]
    exact (Spec.mem_obj_fits _ _ (VMap.mergeInto_sortedKeys mb ma hsa)).mpr ⟨_, rfl,
      Spec.col_merge_overwrite_sound _ c1 c2 ma mb hsb (Spec.tame_mk.mp ⟨sA, hi.1⟩).2
        (Spec.tame_mk.mp ⟨sB, hi.2⟩).2 h1 h2 ha hb⟩
  · rfl

/-- **`canonicalize` preserves membership** (exactly: same members before and after) for key-sorted
    kinds with `canonClass K = none`, i.e. without an `Exact` unknown that `Unknown::canonicalize`
    turns into an `Infinite` one. Outside that class it provably loses members
    (`W.witness_canon_loses_member`) and `k.canonicalize() == k` fails
    (`W.witness_canon_exact_to_infinite`). -/
theorem canonicalize_mem (v : Value) (K : Kind) (sK : K.SortedK = true)
    (hc : canonClass K = .none) : mem v K.canonicalize = mem v K := by
  exact Spec.kind_canon_memOpt _ (Spec.eqF_sound _) K ⟨(cls_if (by decide) hc).1, sK⟩ (some v)

theorem canon_sound_partial (v : Value) (K : Kind) (sK : K.SortedK = true)
    (hc : canonClass K = .none) : canonLawM v K = true := by
  unfold canonLawM canonLaw
  rw [canonicalize_mem v K sK hc]
  cases mem v K <;> rfl

/-- **`PartialEq for Kind` only identifies kinds with the same members** (same fragment). -/
theorem eq_sound_partial (A B : Kind) (sA : A.SortedK = true) (sB : B.SortedK = true)
    (hA : canonClass A = .none) (hB : canonClass B = .none) (h : A.eq B = true) (v : Value) :
    mem v A = mem v B := by
  exact (Spec.eqF_sound _).same A B ⟨(cls_if (by decide) hA).1, sA⟩ ⟨(cls_if (by decide) hB).1, sB⟩ h (some v)

end C19
