/-
  C04 — compiling and running never panics the host.

  Every operation of the models returns an explicit `panic` outcome wherever the Rust can panic
  (DESIGN §3). For each modelled component a theorem characterises exactly when that outcome occurs
  (so "no panic" is a theorem, not an artefact of totalisation). These theorems stay in the files of
  their components, under their own names; lean/obligations/C04.txt is the complete list, and this
  file imports the modules of most of them:
    value paths     `C18.insert_panics_iff`: `insert` panics exactly on the index `isize::MIN`;
                    `get`/`remove` are total
    arithmetic      `C11.panic_only_repeat`: the only panic of the operators is the string repeat
                    whose result exceeds `isize::MAX` bytes (memory exhaustion is out of scope)
    target faults   `C17.read_rejected`, `C17.write_rejected`, `C17.remove_rejected`: a rejected
                    read / write / removal is never a panic
    decrypt         `C23.decrypt_panic_iff`, `C23.decrypt_no_panic_cfb_cbc`: never panics for
                    CFB/CBC/AEAD input (repaired), only on keystream exhaustion
    format_int, abs `C25.format_int_never_panics`, `C29.abs_never_panics`: no panic for any
                    argument (repaired: `i64::MIN`)
    encode_charset  `C22.charset_encode_never_panics`: no panic for any bytes (repaired: non-UTF-8
                    input)
  What is NOT modelled (most of the ~200 stdlib functions, lexer/parser, third-party crates) is
  covered by search only: the stdlib sweep of the check (`o.c04.fn`, every registered function x
  edge-valued arguments in a killable worker) and the malformed-source stream; a panic there is
  identified by clause + function name.
-/
import VrlProofs.Props.C11
import VrlProofs.Props.C17
import VrlProofs.Props.C18
import VrlProofs.Props.C22
import VrlProofs.Props.C23
import VrlProofs.Props.C25
import VrlProofs.Props.C29int

namespace C04

#check @C22.charset_encode_never_panics

end C04
