/-
  C03 clause (b): a call the compiler types infallible never returns an error — for the modelled
  functions, outside the finding classes `errClass` (witnessed in VrlProofs/Witness/C03.lean).
-/
import VrlProofs.Props.C03
import VrlProofs.Lemmas.C03Err

namespace C03
open Spec
open Str (R)

/-- **finding classes of clause (b)**, decidable on the run-time argument values:
    * `from_entries`: an entry that is not an object with a usable string key;
    * `unflatten`: the empty separator;
    * `encode_base64`: a charset other than `standard` / `url_safe`;
    * `mod`: an infinite float dividend (NaN patterns do not occur in a `NotNan`); mixed
      integer/float operands are not covered by the theorem (they go through `i64 as f64`);
    * `flatten`: an `except` argument that is not a literal array of strings is rejected by the
      function's own `compile` (not a finding: such a call does not exist). -/
def errClass (F : Fn) (vs : Slots) : Bool :=
  match F, vs with
  | .fromEntries, [some (.arr xs)] => !allEntriesOk xs
  | .unflatten, [_, some (.bytes s), _] => (Conv.Utf8.lossy s).isEmpty
  | .encodeBase64, [_, _, some (.bytes c)] => (Codec.Base64.Charset.ofName c).isNone
  | .mod, [some (.int _), some (.int _)] => false
  | .mod, [some (.float a), some (.float b)] => F64.isNaN a || F64.isInf a || F64.isNaN b
  | .mod, _ => true
  | .flatten, [_, _, some e] => (exceptKeys (some e)).isNone
  | _, _ => false

theorem decl_infallible {F : Fn} {as : ASlots} {td : TD} (h : declared F as = some td)
    (hf : td.fallible = false) :
    checkArgs F.params as = some false ∧ (declaredFn F as).fallible = false := by
  unfold declared at h
  split at h
  · cases h
  · rename_i unk hc
    cases h
    simp only [Bool.or_eq_false_iff] at hf
    rw [hf.2] at hc
    exact ⟨hc, hf.1⟩

theorem fallible_ite {c : Prop} [Decidable c] {a b : TD} (ha : a.fallible = true)
    (hb : b.fallible = true) : (if c then a else b).fallible = true := by
  split <;> assumption

theorem mod_infallible_const {as : ASlots} (h : (declaredFn .mod as).fallible = false) :
    (∃ b, aconst as 1 = some (.float b) ∧ F64.isNormal b = true) ∨
    (∃ i, aconst as 1 = some (.int i) ∧ i ≠ 0) := by
  replace h : (if modValueInf (aconst as 0) = true then (⟨_, true⟩ : TD)
      else modTD (akind as 0) (aconst as 1)).fallible = false := h
  split at h
  · cases h
  · cases hc : aconst as 1 with
    | none => simp [hc, modTD] at h
    | some w =>
      cases w <;> simp [hc, modTD] at h
      · rename_i i
        by_cases hi : i = 0
        · simp [hi] at h
        · exact Or.inr ⟨_, rfl, hi⟩
      · exact Or.inl ⟨_, rfl, h⟩

/-- **Total correctness of `model` on typed slots**: argument values of the parameters' kinds do
    not make the function return an error when its type_def is infallible at some description `as`
    of the arguments that admits them — outside the classes of `errClass`. The description need not
    have passed the compiler's argument checks without unknown validity; `TypesOk` is what those
    checks establish (`typesOk_of_checkArgs`). -/
theorem model_ne_err (E : Env) {F : Fn} {as : ASlots} {vs : Slots} (hl : LitsSorted as = true)
    (ha : Admits as vs = true) (ht : TypesOk F.params vs = true)
    (hfn : (declaredFn F as).fallible = false) (hc : errClass F vs = false) :
    model E F vs ≠ .err := by
  cases F
  -- the type assertions are typed infallible when the argument kind is exactly the asserted state
  case string =>
    obtain ⟨v, rfl, -⟩ := typesOk_un ht
    exact assertV_ne_err (tag_of_isBytes ((Bool.not_eq_false' _).mp hfn) (head_mem hl ha))
  case int =>
    obtain ⟨v, rfl, -⟩ := typesOk_un ht
    exact assertV_ne_err (tag_of_isInteger ((Bool.not_eq_false' _).mp hfn) (head_mem hl ha))
  case float =>
    obtain ⟨v, rfl, -⟩ := typesOk_un ht
    exact assertV_ne_err (tag_of_isFloat ((Bool.not_eq_false' _).mp hfn) (head_mem hl ha))
  case bool =>
    obtain ⟨v, rfl, -⟩ := typesOk_un ht
    exact assertV_ne_err (tag_of_isBoolean ((Bool.not_eq_false' _).mp hfn) (head_mem hl ha))
  case timestamp =>
    obtain ⟨v, rfl, -⟩ := typesOk_un ht
    exact assertV_ne_err (tag_of_isTimestamp ((Bool.not_eq_false' _).mp hfn) (head_mem hl ha))
  case array =>
    obtain ⟨v, rfl, -⟩ := typesOk_un ht
    exact assertV_ne_err (tag_array_of_superset ((Bool.not_eq_false' _).mp hfn) (head_mem hl ha))
  case object =>
    obtain ⟨v, rfl, -⟩ := typesOk_un ht
    exact assertV_ne_err (tag_object_of_superset ((Bool.not_eq_false' _).mp hfn) (head_mem hl ha))
  case pop =>
    obtain ⟨v, rfl, -⟩ := typesOk_un ht
    obtain ⟨xs, rfl⟩ :=
      tag_array (tag_array_of_superset ((Bool.not_eq_false' _).mp hfn) (head_mem hl ha))
    nofun
  -- total on every value
  case isString | isInteger | isFloat | isBoolean | isNull | isArray | isObject | isTimestamp | isRegex
      | isNullish =>
    obtain ⟨v, rfl, -⟩ := typesOk_un ht
    nofun
  -- total on the states of the parameter mask
  case isEmpty | length =>
    obtain ⟨v, rfl, hv⟩ := typesOk_un ht
    rcases sized_of_bit hv with ⟨b, rfl⟩ | ⟨m, rfl⟩ | ⟨xs, rfl⟩ <;> nofun
  case strlen | upcase | downcase | stripWhitespace | encodeBase16 =>
    obtain ⟨v, rfl, hv⟩ := typesOk_un ht
    obtain ⟨b, rfl⟩ := bytes_of_bit hv
    nofun
  case keys | values =>
    obtain ⟨v, rfl, hv⟩ := typesOk_un ht
    obtain ⟨m, rfl⟩ := obj_of_bit hv
    nofun
  case unique =>
    obtain ⟨v, rfl, hv⟩ := typesOk_un ht
    obtain ⟨xs, rfl⟩ := arr_of_bit hv
    nofun
  case toEntries =>
    obtain ⟨v, rfl, hv⟩ := typesOk_un ht
    rcases coll_of_bit hv with ⟨m, rfl⟩ | ⟨xs, rfl⟩ <;> nofun
  case abs =>
    obtain ⟨v, rfl, hv⟩ := typesOk_un ht
    exact abs_ne_err hv
  case push =>
    obtain ⟨v, _, rfl, hv, hr⟩ := typesOk_req ht
    obtain ⟨x, _, rfl, -, hr⟩ := typesOk_req hr; cases typesOk_nil hr
    obtain ⟨a, rfl⟩ := arr_of_bit hv
    nofun
  case append =>
    obtain ⟨v, _, rfl, hv, hr⟩ := typesOk_req ht
    obtain ⟨x, _, rfl, hx, hr⟩ := typesOk_req hr; cases typesOk_nil hr
    obtain ⟨a, rfl⟩ := arr_of_bit hv
    obtain ⟨b, rfl⟩ := arr_of_bit hx
    nofun
  -- the conversions are typed infallible when the argument kind excludes the states they reject
  case toInt =>
    obtain ⟨v, rfl, -⟩ := typesOk_un ht
    exact toInt_ne_err (head_mem hl ha) hfn
  case toFloat =>
    obtain ⟨v, rfl, -⟩ := typesOk_un ht
    exact toFloat_ne_err (head_mem hl ha) hfn
  case toBool =>
    obtain ⟨v, rfl, -⟩ := typesOk_un ht
    exact toBool_ne_err (head_mem hl ha) hfn
  case toString =>
    obtain ⟨v, rfl, -⟩ := typesOk_un ht
    exact toStringV_ne_err (head_mem hl ha) hfn
  -- optional arguments: absent (the default applies) or of the parameter's state
  case startsWith | endsWith | contains =>
    obtain ⟨v, s, o, rfl, hv, hs, ho⟩ := typesOk_bin1 ht
    obtain ⟨v, rfl⟩ := bytes_of_bit hv
    obtain ⟨s, rfl⟩ := bytes_of_bit hs
    rcases opt_cases bool_of_bit ho with rfl | ⟨_, rfl, b, rfl⟩ <;> nofun
  case truncate =>
    obtain ⟨v, l, o, rfl, hv, hl, ho⟩ := typesOk_bin1 ht
    obtain ⟨v, rfl⟩ := bytes_of_bit hv
    obtain ⟨l, rfl⟩ := int_of_bit hl
    rcases opt_cases bytes_of_bit ho with rfl | ⟨_, rfl, b, rfl⟩ <;> nofun
  case split =>
    obtain ⟨v, p, o, rfl, hv, hp, ho⟩ := typesOk_bin1 ht
    obtain ⟨v, rfl⟩ := bytes_of_bit hv
    rcases pattern_of_bit hp with ⟨p, rfl⟩ | ⟨p, rfl⟩ <;>
      rcases opt_cases int_of_bit ho with rfl | ⟨_, rfl, l, rfl⟩ <;> nofun
  case floor | ceil | round =>
    obtain ⟨v, _, rfl, hv, hr⟩ := typesOk_req ht
    obtain ⟨o, _, rfl, ho, hr⟩ := typesOk_opt hr; cases typesOk_nil hr
    rcases num_of_bit hv with ⟨i, rfl⟩ | ⟨f, rfl⟩ <;>
      rcases opt_cases int_of_bit ho with rfl | ⟨_, rfl, p, rfl⟩ <;> nofun
  case encodeJson =>
    obtain ⟨v, _, rfl, -, hr⟩ := typesOk_req ht
    obtain ⟨o, _, rfl, ho, hr⟩ := typesOk_opt hr; cases typesOk_nil hr
    rcases opt_cases bool_of_bit ho with rfl | ⟨_, rfl, p, rfl⟩ <;> nofun
  case merge =>
    obtain ⟨a, b, o, rfl, ha, hb, ho⟩ := typesOk_bin1 ht
    obtain ⟨a, rfl⟩ := obj_of_bit ha
    obtain ⟨b, rfl⟩ := obj_of_bit hb
    rcases opt_cases bool_of_bit ho with rfl | ⟨_, rfl, d, rfl⟩ <;> nofun
  case compact =>
    obtain ⟨v, _, rfl, hv, hr⟩ := typesOk_req ht
    obtain ⟨o1, _, rfl, ho1, hr⟩ := typesOk_opt hr
    obtain ⟨o2, _, rfl, ho2, hr⟩ := typesOk_opt hr
    obtain ⟨o3, _, rfl, ho3, hr⟩ := typesOk_opt hr
    obtain ⟨o4, _, rfl, ho4, hr⟩ := typesOk_opt hr
    obtain ⟨o5, _, rfl, ho5, hr⟩ := typesOk_opt hr
    obtain ⟨o6, _, rfl, ho6, hr⟩ := typesOk_opt hr; cases typesOk_nil hr
    obtain ⟨b1, h1⟩ := optBool_some (d := true) ho1
    obtain ⟨b2, h2⟩ := optBool_some (d := true) ho2
    obtain ⟨b3, h3⟩ := optBool_some (d := true) ho3
    obtain ⟨b4, h4⟩ := optBool_some (d := true) ho4
    obtain ⟨b5, h5⟩ := optBool_some (d := true) ho5
    obtain ⟨b6, h6⟩ := optBool_some (d := false) ho6
    dsimp only [model]
    rcases coll_of_bit hv with ⟨m, rfl⟩ | ⟨xs, rfl⟩ <;>
      simp only [un6, Coll.compact, h1, h2, h3, h4, h5, h6] <;> nofun
  -- typed fallible whatever the arguments
  case slice =>
    have : (declaredFn .slice as).fallible = true := fallible_ite rfl (fallible_ite rfl rfl)
    rw [hfn] at this
    cases this
  case join | formatInt | parseInt | parseFloat | decodeBase64 | decodeBase16 => cases hfn
  -- the functions with a finding class
  case mod =>
    obtain ⟨v, _, rfl, hv, hr⟩ := typesOk_req ht
    obtain ⟨m, _, rfl, hm, hr⟩ := typesOk_req hr; cases typesOk_nil hr
    obtain ⟨a0, as', rfl, _, hadm⟩ := admits_cons ha
    obtain ⟨a1, as'', rfl, ha1, _⟩ := admits_cons hadm
    have hconst := mod_infallible_const hfn
    simp only [aconst, List.getElem?_cons_succ, List.getElem?_cons_zero] at hconst
    cases a1 with
    | dyn k => simp [Arg.const] at hconst
    | lit w =>
      cases of_decide_eq_true ha1
      simp only [Arg.const, Option.some.injEq] at hconst
      rcases hconst with ⟨b, rfl, hn⟩ | ⟨i, rfl, hi⟩
      · -- float literal modulus
        rcases num_of_bit hv with ⟨a, rfl⟩ | ⟨a, rfl⟩
        · cases hc
        · simp only [errClass, Bool.or_eq_false_iff] at hc
          exact tryRem_float_ne_err hc.1.1 hc.1.2 hc.2 hn
      · -- integer literal modulus
        rcases num_of_bit hv with ⟨a, rfl⟩ | ⟨a, rfl⟩
        · dsimp only [model]
          simp only [bin, Arith.tryRem, hi, if_false]; nofun
        · cases hc
  case encodeBase64 =>
    obtain ⟨v, _, rfl, hv, hr⟩ := typesOk_req ht
    obtain ⟨o1, _, rfl, ho1, hr⟩ := typesOk_opt hr
    obtain ⟨o2, _, rfl, ho2, hr⟩ := typesOk_opt hr; cases typesOk_nil hr
    obtain ⟨v, rfl⟩ := bytes_of_bit hv
    obtain ⟨p, hp⟩ := tag_bool (getD_tag (d := .bool true) rfl ho1)
    cases o2 with
    | none =>
      have : Codec.Base64.Charset.ofName [115, 116, 97, 110, 100, 97, 114, 100] = some .standard := by decide
      dsimp only [model]
      simp only [un2, encodeBase64V, hp, Option.getD_none, stdCharset, Codec.Base64.encode, this]
      nofun
    | some w =>
      obtain ⟨cs, rfl⟩ := bytes_of_bit (ho2 w rfl)
      simp only [errClass] at hc
      cases hn : Codec.Base64.Charset.ofName cs with
      | none => simp [hn] at hc
      | some ch =>
        dsimp only [model]
        simp only [un2, encodeBase64V, hp, Option.getD_some, Codec.Base64.encode, hn]
        nofun
  case flatten =>
    obtain ⟨v, _, rfl, hv, hr⟩ := typesOk_req ht
    obtain ⟨o1, _, rfl, ho1, hr⟩ := typesOk_opt hr
    obtain ⟨o2, _, rfl, ho2, hr⟩ := typesOk_opt hr; cases typesOk_nil hr
    obtain ⟨sb, hsb⟩ := tag_bytes (getD_tag (d := .bytes [46]) rfl ho1)
    have hex : ∃ ks, exceptKeys o2 = some ks := by
      cases o2 with
      | none => exact ⟨[], rfl⟩
      | some e =>
        simp only [errClass] at hc
        cases hk : exceptKeys (some e) with
        | none => simp [hk] at hc
        | some ks => exact ⟨ks, rfl⟩
    obtain ⟨ks, hks⟩ := hex
    dsimp only [model]
    rcases coll_of_bit hv with ⟨m, rfl⟩ | ⟨xs, rfl⟩ <;>
      simp only [un2, flattenV, hks, hsb, Conv.Flat.flatten, Conv.bytesLossy] <;> nofun
  case fromEntries =>
    obtain ⟨v, rfl, hv⟩ := typesOk_un ht
    obtain ⟨xs, rfl⟩ := arr_of_bit hv
    simp only [errClass, Bool.not_eq_false'] at hc
    have := fromEntriesLoop_ne_err xs .nil hc
    dsimp only [model]
    simp only [un, Conv.fromEntries]
    cases hx : Conv.fromEntriesLoop xs .nil
    case err => exact absurd hx this
    all_goals nofun
  case unflatten =>
    obtain ⟨v, _, rfl, hv, hr⟩ := typesOk_req ht
    obtain ⟨o1, _, rfl, ho1, hr⟩ := typesOk_opt hr
    obtain ⟨o2, _, rfl, ho2, hr⟩ := typesOk_opt hr; cases typesOk_nil hr
    obtain ⟨m, rfl⟩ := obj_of_bit hv
    obtain ⟨rb, hrb⟩ := tag_bool (getD_tag (d := .bool true) rfl ho2)
    have hsep : ∃ s, o1.getD (.bytes [46]) = .bytes s ∧ Conv.Utf8.lossy s ≠ [] := by
      cases o1 with
      | none => exact ⟨[46], rfl, by decide⟩
      | some w =>
        obtain ⟨s, rfl⟩ := bytes_of_bit (ho1 w rfl)
        simp only [errClass] at hc
        exact ⟨s, rfl, by intro h; simp [h] at hc⟩
    obtain ⟨s, hs, hne⟩ := hsep
    dsimp only [model]
    simp only [un2, unflattenV, hs, hrb, Conv.Flat.unflatten, Conv.bytesLossy, hne, if_false]
    split <;> nofun

/-- **C03 (b), what holds: for every modelled function and every call the compiler types infallible,
    no argument values the argument expressions can evaluate to make the call return an error —
    outside the classes of `errClass`.** -/
theorem infallible_partial (E : Env) (F : Fn) (as : ASlots) (vs : Slots) (td : TD)
    (c : Call F as vs td) (hc : errClass F vs = false) : InfallibleAt E F vs td := by
  intro hf
  obtain ⟨hchk, hfn⟩ := decl_infallible c.decl hf
  exact model_ne_err E c.lits c.adm (typesOk_of_checkArgs _ _ _ c.lits hchk c.adm) hfn hc

end C03
