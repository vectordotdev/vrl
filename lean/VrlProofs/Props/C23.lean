/-
  C23 — encryption round-trips for every algorithm.

  The theorems are about `VrlModel.Crypt` (vrl's glue in encrypt.rs / decrypt.rs / encrypt_ip.rs /
  decrypt_ip.rs); the ciphers themselves are parameters (`Prims`, `IpPrims`) and their round-trip
  laws are the explicit hypotheses `Prims.Lawful` / `IpPrims.Lawful` (sampled on the real crates by
  the `o.c23*` ops); that encryption itself succeeds is the further hypothesis `Prims.EncTotal` of
  `roundtrip` and `roundTripObs_model`. What vrl owns is proved for all inputs: the three name
  tables agree, the key/IV size checks are the same on both sides and come before any cipher runs,
  the four block paddings are reversible for every message length and every ISO 10126 filler; hence
  `decrypt (encrypt p) = p` for every algorithm, with the predicted ciphertext length. `decrypt`
  panics only when a keystream is exhausted; an input an AEAD rejects is the error "Invalid input".
  `decrypt_ip (encrypt_ip a) = a` outside three decidable finding classes, each of which is a real
  counterexample (VrlProofs/Witness/C23.lean).
-/
import VrlProofs.Lemmas.Crypt

namespace Crypt

/-- Round-trip and length laws of the third-party ciphers, for keys and IVs of the required sizes. -/
structure Prims.Lawful (P : Prims) : Prop where
  cfb_rt : ∀ ks k iv p, k.length = ks.bytes → iv.length = 16 →
    P.cfbDec ks k iv (P.cfbEnc ks k iv p) = p
  cfb_len : ∀ ks k iv p, k.length = ks.bytes → iv.length = 16 →
    (P.cfbEnc ks k iv p).length = p.length
  /-- applying the same keystream twice is the identity -/
  keystream_rt : ∀ a k iv p c, a.isKeystream = true → k.length = keyLen a → iv.length = ivLen a →
    P.keystream a k iv p = some c → P.keystream a k iv c = some p
  keystream_len : ∀ a k iv p c, a.isKeystream = true → k.length = keyLen a → iv.length = ivLen a →
    P.keystream a k iv p = some c → c.length = p.length
  /-- raw CBC over whole blocks -/
  cbc_rt : ∀ ks k iv b, k.length = ks.bytes → iv.length = 16 → b.length % 16 = 0 →
    P.cbcDec ks k iv (P.cbcEnc ks k iv b) = b
  cbc_len : ∀ ks k iv b, k.length = ks.bytes → iv.length = 16 → b.length % 16 = 0 →
    (P.cbcEnc ks k iv b).length = b.length
  aead_rt : ∀ a k iv p c, a.isAead = true → k.length = keyLen a → iv.length = ivLen a →
    P.aeadEnc a k iv p = some c → P.aeadDec a k iv c = some p
  /-- every AEAD here appends a 16-byte tag -/
  aead_len : ∀ a k iv p c, a.isAead = true → k.length = keyLen a → iv.length = ivLen a →
    P.aeadEnc a k iv p = some c → c.length = p.length + 16

/-- The ciphers do not fail on *encryption* (true of the real crates below their message-length
    limits of 2^36 bytes and more; the failure is an `expect`/`unwrap` panic in vrl). -/
structure Prims.EncTotal (P : Prims) : Prop where
  keystream_some : ∀ a k iv p, a.isKeystream = true → k.length = keyLen a → iv.length = ivLen a →
    P.keystream a k iv p ≠ none
  aead_some : ∀ a k iv p, a.isAead = true → k.length = keyLen a → iv.length = ivLen a →
    P.aeadEnc a k iv p ≠ none

/-- Laws of the std address parser/printer and of the two ipcrypt ciphers (16-byte key for the AES
    block, 32-byte key for the prefix-preserving cipher). -/
structure IpPrims.Lawful (P : IpPrims) : Prop where
  parse_show : ∀ ip, ip.WF → P.parseIp (P.showIp ip) = some ip
  aes_rt : ∀ k b, k.length = 16 → b.length = 16 → P.aesDec k (P.aesEnc k b) = b
  aes_len : ∀ k b, k.length = 16 → b.length = 16 → (P.aesEnc k b).length = 16
  /-- the prefix-preserving cipher inverts itself when told the same address family;
      in IPv4 mode it is only ever applied to IPv4-mapped blocks -/
  pfx_rt : ∀ k v b, k.length = 32 → b.length = 16 → (v = true → isV4Form b = true) →
    P.pfxDec k v (P.pfxEnc k v b) = b
  pfx_len : ∀ k v b, k.length = 32 → b.length = 16 → (P.pfxEnc k v b).length = 16
  /-- in IPv4 mode the first 96 bits are copied -/
  pfx_keep4 : ∀ k b, k.length = 32 → b.length = 16 → isV4Form b = true →
    isV4Form (P.pfxEnc k true b) = true

end Crypt

namespace C23
open Crypt

theorem tables_agree (name : Bytes) : algOfEncrypt name = algOfDecrypt name := by
  unfold algOfEncrypt algOfDecrypt
  rw [encryptArms_eq_decryptArms]

/-- the compile-time check `is_valid_algorithm` accepts exactly the names the run-time `match`es know. -/
theorem valid_iff_listed (name : Bytes) : isValidAlgorithm name = (algOfEncrypt name).isSome := by
  rw [Bool.eq_iff_iff]
  unfold isValidAlgorithm algOfEncrypt
  rw [lookupArms_isSome, List.contains_iff_mem]
  exact names_perm.mem_iff.symm

/-- no name is listed twice, so no arm is shadowed. -/
theorem names_nodup : (encryptArms.flatMap (·.1)).Nodup ∧ (encryptArms.flatMap (·.1)).length = 32 := by
  -- the names differ already as base-256 numerals, and the kernel compares numbers much faster than lists
  have : ((encryptArms.flatMap (·.1)).map (List.foldl (· * 256 + ·) 0)).Nodup := by decide +kernel
  exact ⟨this.of_map _ fun _ _ h e => h (congrArg _ e), rfl⟩

/-- the names are ASCII upper case / digits / `-`: the upper-casing of `resolve` is idempotent on them. -/
theorem names_upper_ascii :
    ∀ n ∈ encryptArms.flatMap (·.1), ∀ b ∈ n, (65 ≤ b ∧ b ≤ 90) ∨ (48 ≤ b ∧ b ≤ 57) ∨ b = 45 := by
  decide +kernel

/-! ## The shared pre-check, then one cipher

  Both functions look the name up, check the sizes, and only then run the arm's cipher: every
  statement below about `encrypt`/`decrypt` is one about `precheck` or one about
  `encryptWith`/`decryptWith`. -/

theorem precheck_cases (P : Prims) (name key iv : Bytes) :
    (∃ e, precheck name key iv = some e ∧
      ∀ x, encrypt P name key iv x = .err e ∧ decrypt P name key iv x = .err e) ∨
    (∃ a, precheck name key iv = none ∧ algOfEncrypt name = some a ∧ checkSizes a key iv = none) := by
  unfold precheck encrypt decrypt
  rw [← tables_agree]
  cases algOfEncrypt name with
  | none => exact .inl ⟨_, rfl, fun _ => ⟨rfl, rfl⟩⟩
  | some a =>
    dsimp only
    cases hs : checkSizes a key iv with
    | some e => exact .inl ⟨e, rfl, fun _ => ⟨rfl, rfl⟩⟩
    | none => exact .inr ⟨a, rfl, rfl, hs⟩

section
variable (P : Prims) {a : Alg} {name key iv : Bytes}

theorem encrypt_eq_with (ha : algOfEncrypt name = some a) (hs : checkSizes a key iv = none) (x : Bytes) :
    encrypt P name key iv x = encryptWith P a key iv x := by
  simp only [encrypt, ha, hs]

theorem decrypt_eq_with (ha : algOfEncrypt name = some a) (hs : checkSizes a key iv = none) (x : Bytes) :
    decrypt P name key iv x = decryptWith P a key iv x := by
  simp only [decrypt, ← tables_agree, ha, hs]

variable {x c : Bytes} (hs : checkSizes a key iv = none)
include hs

theorem encryptWith_spec (hL : P.Lawful) (h : encryptWith P a key iv x = .ok c) :
    decryptWith P a key iv c = .ok x ∧ c.length = ctLen a x.length := by
  have ⟨hk, hi⟩ := (checkSizes_none_iff a key iv).mp hs
  rcases a.family P key iv with ⟨k, rfl⟩ | ⟨hks, henc, hdec, hlen⟩ | ⟨k, s, rfl⟩ | ⟨ha, henc, hdec, hlen⟩
  · cases h
    exact ⟨congrArg Res.ok (hL.cfb_rt k key iv x hk hi), hL.cfb_len k key iv x hk hi⟩
  · rw [henc, orPanic_eq_ok] at h
    rw [hdec, orPanic_eq_ok, hlen]
    exact ⟨hL.keystream_rt a key iv x c hks hk hi h, hL.keystream_len a key iv x c hks hk hi h⟩
  · cases h
    have hp := pad_length_mod s P.fill x
    have hl := hL.cbc_len k key iv _ hk hi hp
    rw [decryptWith_cbc, hl, if_neg (Decidable.not_not.mpr hp), hL.cbc_rt k key iv _ hk hi hp,
      unpadBlocks_pad, Crypt.pad_length]
    exact ⟨rfl, rfl⟩
  · rw [henc, orPanic_eq_ok] at h
    rw [hdec, orInvalid_eq_ok, hlen]
    exact ⟨hL.aead_rt a key iv x c ha hk hi h, hL.aead_len a key iv x c ha hk hi h⟩

end

theorem encrypt_err_iff (P : Prims) (name key iv pt : Bytes) (e : Err) :
    encrypt P name key iv pt = .err e ↔ precheck name key iv = some e := by
  rcases precheck_cases P name key iv with ⟨e', hp, h⟩ | ⟨a, hp, ha, hs⟩
  · rw [hp, (h pt).1, Res.err.injEq, Option.some.injEq]
  · rw [hp, encrypt_eq_with P ha hs pt]
    exact ⟨fun h => absurd h (encryptWith_ne_err P a key iv pt e), nofun⟩

theorem decrypt_err_of_precheck (P : Prims) (name key iv ct : Bytes) (e : Err)
    (h : precheck name key iv = some e) : decrypt P name key iv ct = .err e := by
  rcases precheck_cases P name key iv with ⟨e', hp, h'⟩ | ⟨a, hp, -⟩
  · rw [(h' ct).2, ← Option.some.inj (hp.symm.trans h)]
  · cases hp.symm.trans h

/-- any error of `decrypt` past the pre-check is "Invalid input": a CBC input that is not a padded
    multiple of the block size, or an AEAD input that does not authenticate. -/
theorem decrypt_err_cases (P : Prims) (name key iv ct : Bytes) (e : Err)
    (h : decrypt P name key iv ct = .err e) :
    precheck name key iv = some e ∨
      (precheck name key iv = none ∧ e = .invalidInput ∧
        ∃ a, algOfDecrypt name = some a ∧ (a.isAead = true ∨ ∃ ks s, a = .cbc ks s)) := by
  rcases precheck_cases P name key iv with ⟨e', hp, h'⟩ | ⟨a, hp, ha, hs⟩
  · rw [(h' ct).2] at h
    cases h
    exact .inl hp
  · rw [decrypt_eq_with P ha hs ct] at h
    exact .inr ⟨hp, (decryptWith_err P h).1, a, tables_agree name ▸ ha, (decryptWith_err P h).2⟩

/-- **Padding round trip**, the clause "plaintexts of all lengths (padding boundaries)": every
    scheme, every filler, every message length (all residues modulo 16; no enumeration). -/
theorem unpad_pad (s : Pad) (fill : Filler) (msg : Bytes) :
    unpadBlocks s (pad s fill msg) = some msg :=
  unpadBlocks_pad s fill msg

theorem pad_length (s : Pad) (fill : Filler) (msg : Bytes) :
    (pad s fill msg).length = (msg.length / 16 + 1) * 16 :=
  Crypt.pad_length s fill msg

/-- with the filler block-padding 0.4.2 writes (`implFill`), ISO 10126 padding is byte-for-byte
    PKCS#7 padding. -/
theorem iso10126_impl_is_pkcs7 (fill : Filler) (msg : Bytes) :
    pad .iso10126 implFill msg = pad .pkcs7 fill msg := by
  obtain ⟨k, hk⟩ : ∃ k, 16 - msg.length % 16 = k + 1 := ⟨15 - msg.length % 16, by omega⟩
  rw [pad_eq, pad_eq, padBytes_succ _ _ hk, padBytes_succ _ _ hk]
  show msg ++ ((List.range k).map (fun _ => k + 1) ++ _) = _
  rw [List.map_const', List.length_range]

/-- **C23 (symmetric ciphers)**. No assumption on the name, the sizes or the plaintext; the only
    hypotheses are the primitives' own round-trip laws. -/
theorem decrypt_encrypt (P : Prims) (hL : P.Lawful) (name key iv pt c : Bytes)
    (h : encrypt P name key iv pt = .ok c) : decrypt P name key iv c = .ok pt := by
  rcases precheck_cases P name key iv with ⟨e, -, h'⟩ | ⟨a, -, ha, hs⟩
  · rw [(h' pt).1] at h; cases h
  · rw [encrypt_eq_with P ha hs pt] at h
    rw [decrypt_eq_with P ha hs c]
    exact (encryptWith_spec P hs hL h).1

/-- the same through `resolve` (algorithm name as written by the user, upper-cased on both sides). -/
theorem decryptFn_encryptFn (P : Prims) (hL : P.Lawful) (algorithm key iv pt c : Bytes)
    (h : encryptFn P algorithm key iv pt = .ok c) : decryptFn P algorithm key iv c = .ok pt :=
  decrypt_encrypt P hL _ key iv pt c h

theorem encrypt_length (P : Prims) (hL : P.Lawful) (name key iv pt c : Bytes) (a : Alg)
    (ha : algOfEncrypt name = some a) (h : encrypt P name key iv pt = .ok c) :
    c.length = ctLen a pt.length := by
  cases hs : checkSizes a key iv with
  | some e => simp only [encrypt, ha, hs] at h; cases h
  | none =>
    rw [encrypt_eq_with P ha hs pt] at h
    exact (encryptWith_spec P hs hL h).2

theorem encrypt_ok_of_sizes (P : Prims) (hT : P.EncTotal) (name key iv pt : Bytes) (a : Alg)
    (ha : algOfEncrypt name = some a) (hk : key.length = keyLen a) (hi : iv.length = ivLen a) :
    ∃ c, encrypt P name key iv pt = .ok c := by
  rw [encrypt_eq_with P ha ((checkSizes_none_iff a key iv).mpr ⟨hk, hi⟩) pt]
  rcases a.family P key iv with ⟨k, rfl⟩ | ⟨hks, henc, -⟩ | ⟨k, s, rfl⟩ | ⟨haead, henc, -⟩
  · exact ⟨_, rfl⟩
  · rw [henc]
    cases h : P.keystream a key iv pt with
    | none => exact absurd h (hT.keystream_some a key iv pt hks hk hi)
    | some c => exact ⟨c, rfl⟩
  · exact ⟨_, rfl⟩
  · rw [henc]
    cases h : P.aeadEnc a key iv pt with
    | none => exact absurd h (hT.aead_some a key iv pt haead hk hi)
    | some c => exact ⟨c, rfl⟩

/-- **C23 as stated**: every supported algorithm, any plaintext, any key and IV of the sizes the
    algorithm requires. -/
theorem roundtrip (P : Prims) (hL : P.Lawful) (hT : P.EncTotal) (name key iv pt : Bytes) (a : Alg)
    (ha : algOfEncrypt name = some a) (hk : key.length = keyLen a) (hi : iv.length = ivLen a) :
    ∃ c, encrypt P name key iv pt = .ok c ∧ c.length = ctLen a pt.length ∧
      decrypt P name key iv c = .ok pt := by
  obtain ⟨c, hc⟩ := encrypt_ok_of_sizes P hT name key iv pt a ha hk hi
  exact ⟨c, hc, encrypt_length P hL name key iv pt c a ha hc, decrypt_encrypt P hL name key iv pt c hc⟩

/-- The Spec predicate the `o.c23` oracle evaluates on the implementation holds of the model for
    every input: `RoundTripObs` branches as `precheck` does, so unknown names and wrong sizes are
    rejected alike by both functions, and everything else round-trips with the predicted length. -/
theorem roundTripObs_model (P : Prims) (hL : P.Lawful) (hT : P.EncTotal) (alg key iv pt : Bytes) :
    RoundTripObs P.upper alg key iv pt (encryptFn P alg key iv pt)
      (match encryptFn P alg key iv pt with
       | .ok c => decryptFn P alg key iv c
       | _ => decryptFn P alg key iv pt) = true := by
  unfold RoundTripObs encryptFn decryptFn
  rcases precheck_cases P (P.upper alg) key iv with ⟨e, hp, h⟩ | ⟨a, -, ha, hs⟩
  · rw [(h pt).1, (h pt).2]
    unfold precheck at hp
    split at hp <;> simp_all
  · obtain ⟨hk, hi⟩ := (checkSizes_none_iff a key iv).mp hs
    obtain ⟨c, hc, hlen, hdec⟩ := roundtrip P hL hT (P.upper alg) key iv pt a ha hk hi
    simp [ha, hs, hc, hdec, hlen]

/-- the one panic of `decrypt`: an exhausted keystream (not reachable with in-memory inputs). -/
theorem decrypt_panic_iff (P : Prims) (name key iv ct : Bytes) :
    decrypt P name key iv ct = .panic ↔
      ∃ a, algOfDecrypt name = some a ∧ checkSizes a key iv = none ∧
         (a.isKeystream = true ∧ P.keystream a key iv ct = none) := by
  constructor
  · intro h
    rcases precheck_cases P name key iv with ⟨e, -, h'⟩ | ⟨a, -, ha, hs⟩
    · rw [(h' ct).2] at h; cases h
    · rw [decrypt_eq_with P ha hs ct] at h
      exact ⟨a, tables_agree name ▸ ha, hs, decryptWith_panic P h⟩
  · rintro ⟨a, ha, hs, hk, h⟩
    rw [decrypt_eq_with P ((tables_agree name).trans ha) hs ct]
    cases a <;> first | exact congrArg orPanic h | cases hk

/-- CFB, CBC and AEAD decryption of arbitrary bytes never panics. -/
theorem decrypt_no_panic_cfb_cbc (P : Prims) (name key iv ct : Bytes) (a : Alg)
    (ha : algOfDecrypt name = some a) (hnk : a.isKeystream = false) :
    decrypt P name key iv ct ≠ .panic := by
  intro h
  obtain ⟨a', ha', _, h'⟩ := (decrypt_panic_iff P name key iv ct).mp h
  rw [ha] at ha'; cases ha'; simp [hnk] at h'

theorem aead_reject_is_error (P : Prims) (name key iv ct : Bytes) (a : Alg)
    (ha : algOfDecrypt name = some a) (haead : a.isAead = true)
    (hs : checkSizes a key iv = none) (hrej : P.aeadDec a key iv ct = none) :
    decrypt P name key iv ct = .err .invalidInput := by
  rw [decrypt_eq_with P ((tables_agree name).trans ha) hs ct]
  cases a <;> first | exact congrArg orInvalid hrej | cases haead

/-- "decrypting never panics" (with keystreams that are not exhausted). The AEAD class
    `D_aead_reject` needs no excluding: a rejected input is an error (`aead_reject_is_error`). -/
theorem noPanic_partial (P : Prims) (alg key iv ct : Bytes)
    (hks : ∀ a, a.isKeystream = true → P.keystream a key iv ct ≠ none) :
    NoPanicObs (decryptFn P alg key iv ct) = true := by
  unfold NoPanicObs decryptFn
  simp only [bne_iff_ne, ne_eq]
  intro h
  obtain ⟨a, ha, hs, h'⟩ := (decrypt_panic_iff P _ key iv ct).mp h
  exact hks a h'.1 h'.2

/-- `decrypt_ip` written without the duplicated IPv4/IPv6 arms. -/
def decryptIpFlat (P : IpPrims) (ipText key mode : Bytes) : Res IpErr :=
  match P.parseIp ipText with
  | none => .err .parse
  | some ip =>
    match modeOf mode with
    | none => .err .mode
    | some .aes128 =>
      if key.length ≠ 16 then .err (.key .aes128 ip.isV4)
      else .ok (P.showIp (ipcryptDec P key ip))
    | some .pfx =>
      if key.length ≠ 32 then .err (.key .pfx ip.isV4)
      else if pfxKeyPanics key then .err .pfxHalves
      else .ok (P.showIp (pfxIpDec P key ip))

theorem decryptIp_flat (P : IpPrims) (t k m : Bytes) : decryptIp P t k m = decryptIpFlat P t k m := by
  unfold decryptIp decryptIpFlat
  cases P.parseIp t with
  | none => rfl
  | some ip =>
    cases modeOf m with
    | none => rfl
    | some md => cases md <;> cases ip <;> rfl

/-- mode dispatch, address parsing and key checks are the same in both directions. Neither function
    panics (a pfx key with equal halves is the error `pfxHalves`), so both sides of the second
    clause are false. -/
theorem ip_checks_agree (P : IpPrims) (t k m : Bytes) :
    (∀ e, encryptIp P t k m = .err e ↔ decryptIp P t k m = .err e) ∧
    (encryptIp P t k m = .panic ↔ decryptIp P t k m = .panic) := by
  rw [decryptIp_flat]
  unfold encryptIp decryptIpFlat
  cases P.parseIp t with
  | none => simp
  | some ip =>
    cases modeOf m with
    | none => simp
    | some md =>
      cases md
      · by_cases hk : k.length = 16 <;> simp [hk]
      · by_cases hk : k.length = 32 <;> by_cases hp : pfxKeyPanics k = true <;> simp [hk, hp]

/-- the cipher a mode applies to the parsed address -/
def encIp (P : IpPrims) : Mode → Bytes → Ip → Ip
  | .aes128 => ipcryptEnc P
  | .pfx => pfxIpEnc P

def decIp (P : IpPrims) : Mode → Bytes → Ip → Ip
  | .aes128 => ipcryptDec P
  | .pfx => pfxIpDec P

theorem ipcrypt_roundtrip (P : IpPrims) (hL : P.Lawful) (k : Bytes) (ip : Ip) (hw : ip.WF)
    (hk : k.length = 16) (h1 : D_v4mapped ip = false) :
    ipcryptDec P k (ipcryptEnc P k ip) = ip := by
  unfold ipcryptDec ipcryptEnc
  rw [ipToBytes_bytesToIp, hL.aes_rt k _ hk (ipToBytes_length ip hw), bytesToIp_ipToBytes ip h1]

theorem pfx_roundtrip (P : IpPrims) (hL : P.Lawful) (k : Bytes) (ip : Ip) (hw : ip.WF)
    (hk : k.length = 32) (h1 : D_v4mapped ip = false)
    (h3 : D_pfx_v4form .pfx ip (pfxIpEnc P k ip) = false) :
    pfxIpDec P k (pfxIpEnc P k ip) = ip := by
  have hb := ipToBytes_length ip hw
  -- the ciphertext is printed in the family of the plaintext
  have hfam : (pfxIpEnc P k ip).isV4 = ip.isV4 := by
    cases ip with
    | v4 o =>
      unfold pfxIpEnc
      rw [bytesToIp_isV4]
      exact hL.pfx_keep4 k _ hk hb (isV4Form_v4 o)
    | v6 o =>
      simpa [D_pfx_v4form, Ip.isV4] using h3
  have hv : ip.isV4 = true → isV4Form (ipToBytes ip) = true := by
    cases ip with
    | v4 o => intro _; exact isV4Form_v4 o
    | v6 o => intro h; simp [Ip.isV4] at h
  unfold pfxIpDec
  rw [hfam]
  unfold pfxIpEnc
  rw [ipToBytes_bytesToIp, hL.pfx_rt k _ _ hk hb hv, bytesToIp_ipToBytes ip h1]

section
variable {P : IpPrims} {t k m : Bytes} {ip : Ip} {md : Mode} (hp : P.parseIp t = some ip)
  (hm : modeOf m = some md) (hk : k.length = md.keyLen) (h2 : D_pfx_equal_halves md k = false)
include hp hm hk h2

theorem encryptIp_ok : encryptIp P t k m = .ok (P.showIp (encIp P md k ip)) := by
  cases md <;> simp_all [encryptIp, Mode.keyLen, D_pfx_equal_halves, encIp]

theorem decryptIp_ok : decryptIp P t k m = .ok (P.showIp (decIp P md k ip)) := by
  rw [decryptIp_flat]
  cases md <;> simp_all [decryptIpFlat, Mode.keyLen, D_pfx_equal_halves, decIp]

end

theorem encIp_WF {P : IpPrims} (hL : P.Lawful) {k : Bytes} {ip : Ip} {md : Mode} (hw : ip.WF)
    (hk : k.length = md.keyLen) : (encIp P md k ip).WF := by
  cases md
  · exact bytesToIp_WF _ (hL.aes_len k _ hk (ipToBytes_length ip hw))
  · exact bytesToIp_WF _ (hL.pfx_len k _ _ hk (ipToBytes_length ip hw))

/-- **C23 (IP addresses), partial**: `decrypt_ip (encrypt_ip a) = a` for every parsable address
    text, either mode and every key of the mode's size — outside the three decidable finding classes
    `D_v4mapped` (IPv4-mapped IPv6 input), `D_pfx_equal_halves` (pfx key with equal halves:
    rejected) and `D_pfx_v4form` (pfx ciphertext of an IPv6 address falls into `::ffff:0:0/96`).
    Each class is a real counterexample: `VrlProofs/Witness/C23.lean`. -/
theorem ip_roundtrip_partial (P : IpPrims) (hL : P.Lawful) (t k m : Bytes) (ip : Ip) (md : Mode)
    (hp : P.parseIp t = some ip) (hw : ip.WF) (hm : modeOf m = some md) (hk : k.length = md.keyLen)
    (h1 : D_v4mapped ip = false)
    (h2 : D_pfx_equal_halves md k = false)
    (h3 : D_pfx_v4form md ip (pfxIpEnc P k ip) = false) :
    ∃ c, encryptIp P t k m = .ok c ∧ decryptIp P c k m = .ok (P.showIp ip) := by
  refine ⟨_, encryptIp_ok hp hm hk h2, ?_⟩
  rw [decryptIp_ok (hL.parse_show _ (encIp_WF hL hw hk)) hm hk h2]
  congr 2
  cases md
  · exact ipcrypt_roundtrip P hL k ip hw hk h1
  · exact pfx_roundtrip P hL k ip hw hk h1 h3

/-- IPv4 addresses always round-trip (both modes): none of the address-dependent classes applies. -/
theorem ip_roundtrip_v4 (P : IpPrims) (hL : P.Lawful) (t k m o : Bytes) (md : Mode)
    (hp : P.parseIp t = some (.v4 o)) (hw : o.length = 4) (hm : modeOf m = some md)
    (hk : k.length = md.keyLen) (h2 : D_pfx_equal_halves md k = false) :
    ∃ c, encryptIp P t k m = .ok c ∧ decryptIp P c k m = .ok (P.showIp (.v4 o)) :=
  ip_roundtrip_partial P hL t k m (.v4 o) md hp hw hm hk rfl h2 (by simp [D_pfx_v4form, Ip.isV4])

end C23
