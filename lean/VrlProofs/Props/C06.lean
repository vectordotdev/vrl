/-
  C06 / C07 (shared core) — `return` and `abort` are never intercepted.

  `Res.isEscape x` : `x` is `ret v` or `abort m`.  For each position below in which an expression
  form evaluates a sub-expression: if that sub-expression ends with an escape `x` in state `s1`
  then the whole expression ends with the same `x` in the same state `s1` — nothing else runs
  (the right-hand sides do not mention the remaining sub-expressions, and the state is the one the
  escape left).  Stated: blocks, `??` (both sides), both assignments, `||` (both sides), the left of
  `&&`, `!`, `return`, the message of `abort`, the predicate of `if`, array and object literals, the
  target of a query, argument slots.  Not stated, though the same one-line proof from the equations
  of Lemmas/EvalBind gives each: the right of `&&`, the operands of the strict operators, the
  targets of `exists(..)` / `del(..)` and the `compact:` argument.  The two boundaries are: a closure
  body (`return` becomes the value of the iteration, `abort` still propagates) and the program
  (`return v` is success with `v`).
-/
import VrlProofs.Lemmas.EvalBind

namespace Lang

def Res.isEscape : Res → Bool
  | .ret _ => true
  | .abort _ => true
  | _ => false

/-- an escape is a `return` or an `abort`: in every `match` on the outcome of a sub-expression in the
    equations of Lemmas/EvalBind it meets no pattern before the catch-all arm that hands the outcome
    on (in the model `ok, err = e` has arms of its own for the two, which hand them on as well) -/
theorem Res.escape_cases {x : Res} (hx : x.isEscape = true) : (∃ v, x = .ret v) ∨ ∃ m, x = .abort m := by
  cases x with
  | ret v => exact .inl ⟨v, rfl⟩
  | abort m => exact .inr ⟨m, rfl⟩
  | _ => cases hx

theorem bindOk_escape {x : Res} (hx : x.isEscape = true) (s : St) (k : Value → St → Res × St) :
    bindOk (x, s) k = (x, s) :=
  bindOk_of_not_ok k fun v (e : x = .ok v) => by subst e; cases hx

end Lang

namespace C06
open Lang

abbrev catchS (s : St) : St := { s with evCatch := true }
abbrev shortS (s : St) : St := { s with evShort := true }

/-- blocks, programs, predicates: nothing after the escaping expression runs. -/
theorem seq_head (e : Expr) (es : Exprs) (s s1 : St) (x : Res) (hx : x.isEscape = true)
    (h : eval e s = (x, s1)) : evalSeq (.cons e es) s = (x, s1) := by
  cases es with
  | nil => exact h
  | cons e' es' => rw [evalSeq_cons, h, bindOk_escape hx]

theorem seq_tail (e : Expr) (es : Exprs) (s s1 : St) (v : Value) (hne : es ≠ .nil)
    (h : eval e s = (.ok v, s1)) : evalSeq (.cons e es) s = evalSeq es s1 := by
  cases es with
  | nil => exact absurd rfl hne
  | cons e' es' => rw [evalSeq_cons, h]; rfl

theorem group (e : Expr) (s : St) : eval (.grp e) s = eval e s := rfl
theorem block (es : Exprs) (s : St) : eval (.blk es) s = evalSeq es s := rfl

/-- error coalescing does not catch it (lhs) … -/
theorem coalesce_lhs (l r : Expr) (s s1 : St) (x : Res) (hx : x.isEscape = true)
    (h : eval l (catchS s) = (x, s1)) : eval (.op .err l r) s = (x, s1) := by
  obtain ⟨v, rfl⟩ | ⟨m, rfl⟩ := Res.escape_cases hx <;> rw [eval_err, h]

/-- … nor when it comes from the rhs. -/
theorem coalesce_rhs (l r : Expr) (s s1 : St) (h : eval l (catchS s) = (.err, s1)) :
    eval (.op .err l r) s = eval r s1 := by
  rw [eval_err, h]

/-- infallible assignment does not catch it, and assigns nothing. -/
theorem ok_err_assign (okT errT : Tgt) (e : Expr) (d : Value) (s s1 : St) (x : Res)
    (hx : x.isEscape = true) (h : eval e (catchS s) = (x, s1)) :
    eval (.iasg okT errT e d) s = (x, s1) := by
  obtain ⟨v, rfl⟩ | ⟨m, rfl⟩ := Res.escape_cases hx <;> rw [eval_iasg, h]

theorem assign (t : Tgt) (e : Expr) (s s1 : St) (x : Res) (hx : x.isEscape = true)
    (h : eval e s = (x, s1)) : eval (.asg t e) s = (x, s1) := by
  rw [eval_asg, h, bindOk_escape hx]

theorem or_lhs (l r : Expr) (s s1 : St) (x : Res) (hx : x.isEscape = true)
    (h : eval l (shortS s) = (x, s1)) : eval (.op .or l r) s = (x, s1) := by
  rw [eval_or, h, bindOk_escape hx]

/-- the rhs of `||` (evaluated because the lhs was null/false) is not rewritten into an error. -/
theorem or_rhs (l r : Expr) (s s1 s2 : St) (v : Value) (x : Res) (hx : x.isEscape = true)
    (hv : v = .null ∨ v = .bool false) (h : eval l (shortS s) = (.ok v, s1))
    (hr : eval r s1 = (x, s2)) : eval (.op .or l r) s = (x, s2) := by
  rcases hv with rfl | rfl <;> (rw [eval_or, h]; exact hr)

theorem and_lhs (l r : Expr) (s s1 : St) (x : Res) (hx : x.isEscape = true)
    (h : eval l (shortS s) = (x, s1)) : eval (.op .and l r) s = (x, s1) := by
  rw [eval_and, h, bindOk_escape hx]

theorem not_arg (e : Expr) (s s1 : St) (x : Res) (hx : x.isEscape = true)
    (h : eval e s = (x, s1)) : eval (.not e) s = (x, s1) := by
  rw [eval_not, h, bindOk_escape hx]

theorem return_arg (e : Expr) (s s1 : St) (x : Res) (hx : x.isEscape = true)
    (h : eval e s = (x, s1)) : eval (.ret e) s = (x, s1) := by
  rw [eval_ret, h, bindOk_escape hx]

theorem abort_arg (e : Expr) (s s1 : St) (x : Res) (hx : x.isEscape = true)
    (h : eval e s = (x, s1)) : eval (.abort true e) s = (x, s1) := by
  rw [eval_abort_msg, h, bindOk_escape hx]

/-- conditions: an escape in the predicate runs neither branch. -/
theorem predicate (pred thn els : Exprs) (b : Bool) (s s1 : St) (x : Res) (hx : x.isEscape = true)
    (h : evalSeq pred (shortS s) = (x, s1)) : eval (.ifte pred thn b els) s = (x, s1) := by
  rw [eval_ifte, h, bindOk_escape hx]

/-- arrays: the remaining elements are not evaluated. -/
theorem array_elem (e : Expr) (es : Exprs) (s s1 : St) (x : Res) (hx : x.isEscape = true)
    (h : eval e s = (x, s1)) : evalList (.cons e es) s = (.error x, s1) := by
  obtain ⟨v, rfl⟩ | ⟨m, rfl⟩ := Res.escape_cases hx <;> rw [evalList_cons, h]

theorem array_lit (es : Exprs) (s s1 : St) (x : Res) (h : evalList es s = (.error x, s1)) :
    eval (.arr es) s = (x, s1) := by
  rw [eval_arr, h]

theorem array_rest (e : Expr) (es : Exprs) (s s1 s2 : St) (v : Value) (x : Res)
    (h : eval e s = (.ok v, s1)) (hr : evalList es s1 = (.error x, s2)) :
    evalList (.cons e es) s = (.error x, s2) := by
  rw [evalList_cons, h]; simp only [hr]

/-- objects: the remaining members are not evaluated. -/
theorem object_member (k : List Nat) (e : Expr) (kes : KExprs) (s s1 : St) (x : Res)
    (hx : x.isEscape = true) (h : eval e s = (x, s1)) :
    evalKVs (.cons k e kes) s = (.error x, s1) := by
  obtain ⟨v, rfl⟩ | ⟨m, rfl⟩ := Res.escape_cases hx <;> rw [evalKVs_cons, h]

theorem object_lit (kvs : KExprs) (s s1 : St) (x : Res) (h : evalKVs kvs s = (.error x, s1)) :
    eval (.obj kvs) s = (x, s1) := by
  rw [eval_obj, h]

theorem object_rest (k : List Nat) (e : Expr) (kes : KExprs) (s s1 s2 : St) (v : Value) (x : Res)
    (h : eval e s = (.ok v, s1)) (hr : evalKVs kes s1 = (.error x, s2)) :
    evalKVs (.cons k e kes) s = (.error x, s2) := by
  rw [evalKVs_cons, h]; simp only [hr]

theorem query_target (e : Expr) (p : Path) (s s1 : St) (x : Res) (hx : x.isEscape = true)
    (h : eval e s = (x, s1)) : eval (.qexpr e p) s = (x, s1) := by
  rw [eval_qexpr, h, bindOk_escape hx]

/-- function arguments: the first argument that escapes ends the call; the function is not run
    and later arguments are not evaluated. -/
theorem slots_escape (t : Thunk) (rest : List (Option Thunk)) (s s1 : St) (x : Res)
    (hx : x.isEscape = true) (h : t s = (x, s1)) :
    evalSlots (some t :: rest) s = (.error x, s1) := by
  obtain ⟨v, rfl⟩ | ⟨m, rfl⟩ := Res.escape_cases hx <;> (unfold evalSlots; rw [h])

theorem slots_later (t : Thunk) (rest : List (Option Thunk)) (s s1 s2 : St) (v : Value) (x : Res)
    (h : t s = (.ok v, s1)) (hr : evalSlots rest s1 = (.error x, s2)) :
    evalSlots (some t :: rest) s = (.error x, s2) := by
  unfold evalSlots; rw [h]; simp only [hr]

/-- the program boundary: a `return v` that reaches it ends the run as success with `v`; an
    `abort m` stays an abort with `m` (`program_abort`). -/
theorem program_return (prog : Exprs) (s : St) (s1 : St) (v : Value)
    (hroot : (s.tick 0 false []).1 = false) (h : evalSeq prog (s.tick 0 false []).2 = (.ret v, s1)) :
    run prog s = (.ok v, s1) := by
  rw [run_eq, hroot, h]; rfl

theorem program_abort (prog : Exprs) (s : St) (s1 : St) (m : Option (List Nat))
    (hroot : (s.tick 0 false []).1 = false)
    (h : evalSeq prog (s.tick 0 false []).2 = (.abort m, s1)) :
    run prog s = (.abort m, s1) := by
  rw [run_eq, hroot, h]; rfl

/-- the closure boundary: every runner (`runKeyValue`, `runIndexValue`, `mapKey`, `mapValue`) runs
    the body through `runBody`; a `return` is the value of the iteration, `abort` passes. -/
theorem closure_return (body : Thunk) (s s1 : St) (v : Value) (h : body s = (.ret v, s1)) :
    runBody body s = (.ok v, s1) := by
  unfold runBody; rw [h]

theorem closure_abort (body : Thunk) (s s1 : St) (m : Option (List Nat)) (h : body s = (.abort m, s1)) :
    runBody body s = (.abort m, s1) := by
  unfold runBody; rw [h]

def exS0 : St :=
  { vars := [], event := .obj .nil, metadata := .null, faults := [], ops := 0, log := [], errs := [] }

/-- `x = 1; ({ return 7 } ?? 2); x = 3` -/
def exProg : Exprs :=
  .cons (.asg (.internal "x" []) (.lit (.int 1)))
    (.cons (.op .err (.blk (.cons (.ret (.lit (.int 7))) .nil)) (.lit (.int 2)))
    (.cons (.asg (.internal "x" []) (.lit (.int 3))) .nil))

/-- non-vacuity / end-to-end: the program above ends with 7 and `x = 1`. -/
example : (run exProg exS0).1 = .ok (.int 7) ∧ (run exProg exS0).2.getVar "x" = some (.int 1) := by
  decide +kernel

end C06
