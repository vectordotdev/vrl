/-
  C30 — Datadog search queries round-trip through their text form.
  Model: VrlModel/Search/{Node,Num,Lucene,Grammar,Visitor,NF}.lean — `QueryNode::to_lucene`,
  `lucene_escape`, `quoted_escape`, `unescape`, `ComparisonValue::{from, to_lucene}`, the pest grammar
  (as a recursive-descent parser with pest's semantics) and the `QueryVisitor`; tied to the code by
  the `c30.parse` / `c30.lucene` / `c30.f64` correspondence ops.

  The unrestricted round trip is false of the code (witnesses in VrlProofs/Witness/C30.lean).  What is
  proved: the round trip on the normal form ((1), (2)); the normal form is exactly "no listed defect",
  so the finding classes are its complement ((3)); `unescape` inverts both escapes ((4)); the parser
  never panics ((5)).

  `F` (float parsing/printing of Rust `core`) is a parameter; no law about it is assumed: the normal
  form asks, per numeric leaf, that the printed number is a `NUMERIC_TERM` / `RANGE_VALUE` converting
  back to the same value (`numTextOK`, `rangeBoundOK` are decidable checks that run `F`).
-/
import VrlProofs.Lemmas.SearchWildcard

namespace C30
open Search

/-- (1) For every tree in normal form (any shape, any depth, any strings) and every `F`, parsing the
    printed text gives the tree back.  By structural recursion on the tree (Boolean skeleton:
    Lemmas/SearchSkeleton.lean; leaves: SearchLeaves / SearchWildcard). -/
theorem parse_toLucene_of_NF (F : FloatLib) (t : QNode) (h : NFRoot F t = true) :
    parse F (t.toLucene F) = .ok t :=
  roundtrip_of_leaves F (leafGood_of_NF F) t h

/-- (2) The property on the normal-form fragment: if the parser accepts `q` and the tree it builds is
    in normal form, printing and re-parsing yields the same tree. -/
theorem roundtrip_partial (F : FloatLib) (q : Str) (t : QNode) (hq : parse F q = .ok t)
    (hnf : NFRoot F t = true) : parse F (t.toLucene F) = parse F q := by
  rw [hq]; exact parse_toLucene_of_NF F t hnf

/-- (4) `unescape` inverts `lucene_escape` … -/
theorem unescape_luceneEscape (s : Str) : unescape (luceneEscape s) = s := Search.unescape_luceneEscape s

/-- … and `quoted_escape`, for all strings. -/
theorem unescape_quotedEscape (s : Str) : unescape (quotedEscape s) = s := Search.unescape_quotedEscape s

theorem visitValue_ok (F : FloatLib) (f : Str) (v : Grammar.PValue) : ∃ n, visitValue F f v = .ok n := by
  fun_cases visitValue F f v <;> exact ⟨_, rfl⟩

mutual
  theorem visitClause_ok (F : FloatLib) : (c : Grammar.PClause) → (df : Str) → ∃ n, visitClause F c df = .ok n
    | .matchall, _ => ⟨_, rfl⟩
    | .value fld v, df => by rw [visitClause]; exact visitValue_ok F _ v
    | .group fld q, df => by rw [visitClause]; exact visitItems_ok F q _ _ _
  theorem visitItems_ok (F : FloatLib) : (q : Grammar.PItems) → (df : Str) → (st : VState) → (b : Bool) →
      ∃ n, visitItems F q df st b = .ok n
    | .nil, _, _, _ => ⟨_, rfl⟩
    | .multiterm ts rest, df, st, b => by rw [visitItems]; exact visitItems_ok F rest _ _ _
    | .clause cj md c rest, df, st, b => by
      rw [visitItems]
      obtain ⟨n, hn⟩ := visitClause_ok F c df
      simp only [hn]
      exact visitItems_ok F rest _ _ _
end

/-- (5) No query text makes the parser or the visitor panic (as of /repo 21ebbb7, which accepts a range
    with brackets of two kinds). -/
theorem parse_never_panics (F : FloatLib) (q : Str) : parse F q ≠ .panic := by
  unfold parse
  split
  · simp
  · split
    · simp
    · simp
    · rename_i items _ _
      obtain ⟨n, hn⟩ := visitItems_ok F items defaultField ⟨[], []⟩ false
      simp [visitQuery, hn]

/-- no entry of a defect list fires.  Each `…OK` predicate of the normal form (NF.lean) is `clear` of the
    defect list of the same name (for `rawTermOK`: the list the `exists_` / `missing` arms of
    `leafDefects` write out), conjunct by conjunct (`clear_raw` … `clear_leaf`). -/
def clear (l : List (Bool × Defect)) : Bool := l.all (fun p => !p.1)

theorem firstDefect_none_iff (l : List (Bool × Defect)) : firstDefect l = none ↔ clear l = true := by
  fun_induction firstDefect l <;> simp_all [clear]

theorem clear_nil : clear [] = true := rfl
theorem clear_cons (b : Bool) (d : Defect) (l : List (Bool × Defect)) : clear ((b, d) :: l) = (!b && clear l) := rfl
theorem clear_append (l1 l2 : List (Bool × Defect)) : clear (l1 ++ l2) = (clear l1 && clear l2) := by
  simp [clear, List.all_append]

theorem clear_raw (a : Str) :
    clear [(a.isEmpty, Defect.emptyString), (!rawTermChars a || kwStart a, .attrUnescaped)] =
      rawTermOK a := by
  simp only [clear_cons, clear_nil, rawTermOK, Bool.not_or, Bool.not_not, Bool.and_true, Bool.and_assoc]

theorem clear_attr (a : Str) : clear (attrDefects a) = attrOK a := by
  by_cases h : a = defaultField
  · simp [attrDefects, attrOK, h, clear_nil]
  · simp only [attrDefects, h, if_false, attrOK, clear_raw, decide_false, Bool.false_or]

theorem clear_esc (v : Str) : clear (escTermDefects v) = escTermOK v := by
  simp only [escTermDefects, clear_cons, clear_nil, escTermOK, Bool.and_true]

theorem clear_cmp (F : FloatLib) (cv : CV) : clear (cvDefectsCmp F cv) = cmpValueOK F cv := by
  cases cv <;>
    simp only [cvDefectsCmp, cmpValueOK, clear_append, clear_esc, clear_cons, clear_nil, Bool.not_not,
      Bool.and_true, Bool.not_true, Bool.and_assoc]

theorem clear_range (F : FloatLib) (cv : CV) : clear (cvDefectsRange F cv) = rangeValueOK F cv := by
  cases cv <;>
    simp only [cvDefectsRange, rangeValueOK, clear_cons, clear_nil, Bool.not_not, Bool.and_true, Bool.and_assoc]

theorem clear_leaf (F : FloatLib) (l : Leaf) : clear (leafDefects F l) = NFLeaf F l := by
  cases l with
  | exists_ a | missing a => exact clear_raw a
  | _ =>
    simp only [leafDefects, NFLeaf, wildcardOK, notReserved, clear_append, clear_cons, clear_nil,
      clear_attr, clear_esc, clear_cmp, clear_range, Bool.and_true, Bool.not_or, Bool.not_and, Bool.not_not, Bool.not_true,
      Bool.and_assoc]

theorem leafDefect_none_iff (F : FloatLib) (l : Leaf) : leafDefect F l = none ↔ NFLeaf F l = true := by
  rw [leafDefect, firstDefect_none_iff, clear_leaf]

theorem orElse_none (a b : Option Defect) : orElse a b = none ↔ a = none ∧ b = none := by
  cases a <;> simp [orElse]

theorem smallBoolean_none_iff (ns : QList) :
    (if ns.length < 2 then some Defect.smallBoolean else none) = none ↔ 2 ≤ ns.length := by
  split <;> simp <;> omega

mutual
  theorem defectOf_none_iff (F : FloatLib) : (t : QNode) → (defectOf F t = none ↔ NF F t = true)
    | .leaf l => by simpa [defectOf, NF] using leafDefect_none_iff F l
    | .neg n => by
      have ih := defectOf_none_iff F n
      simp only [defectOf, NF, orElse_none, Bool.and_eq_true, Bool.not_eq_true', ih]
      cases isMatchAll n <;> simp
    | .bool op ns => by
      have ih := defectOfList_none_iff F op ns
      simp only [defectOf, NF, orElse_none, Bool.and_eq_true, decide_eq_true_eq, ih, smallBoolean_none_iff]
  theorem defectOfList_none_iff (F : FloatLib) (op : BoolOp) :
      (ns : QList) → (defectOfList F op ns = none ↔ NFList F op ns = true)
    | .nil => by simp [defectOfList, NFList]
    | .cons n ns => by
      have ih1 := defectOfItem_none_iff F op n
      have ih2 := defectOfList_none_iff F op ns
      simp only [defectOfList, NFList, orElse_none, Bool.and_eq_true, ih1, ih2]
  theorem defectOfItem_none_iff (F : FloatLib) (op : BoolOp) :
      (n : QNode) → (defectOfItem F op n = none ↔ NFItem F op n = true)
    | .leaf l => by simpa [defectOfItem, NFItem] using leafDefect_none_iff F l
    | .neg n => by
      have ih := defectOf_none_iff F n
      simp only [defectOfItem, NFItem, orElse_none, Bool.and_eq_true, Bool.not_eq_true', ih]
      cases op <;> cases n.isNeg <;> simp
    | .bool op' ns => by
      have ih := defectOfList_none_iff F op' ns
      simp only [defectOfItem, NFItem, orElse_none, Bool.and_eq_true, decide_eq_true_eq, ih, smallBoolean_none_iff]
end

/-- (3) A query tree is in normal form exactly when it has none of the listed defects: the finding
    classes of C30 are the complement of the fragment `parse_toLucene_of_NF` covers. -/
theorem nf_iff_noDefect (F : FloatLib) (t : QNode) : NFRoot F t = true ↔ rootDefect F t = none := by
  unfold NFRoot rootDefect
  by_cases h : t = .leaf .matchNone
  · simp [h]
  · simp only [h, decide_false, Bool.false_or, if_false, orElse_none, Bool.and_eq_true, Bool.not_eq_true',
      defectOf_none_iff]
    cases ((t.toLucene F).all isUnicodeWs) <;> simp

end C30
