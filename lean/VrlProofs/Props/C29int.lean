/-
  C29 (integer / conversion part) — `abs` returns the magnitude (and wraps only at the minimum
  integer, never panics), `mod` follows truncated-remainder sign rules, `to_string`/`parse_int`/`to_int` agree
  on integers. Model: VrlModel/Conv/Num.lean (+ Conv/Int.lean), tied to src/stdlib/{abs,mod_func,
  to_int,to_string,parse_int}.rs by the `c29.*` correspondence ops. Spec predicates:
  VrlModel/C29int.lean. The float part of C29: VrlProofs/Props/C29float.lean.
-/
import VrlModel.C29int
import VrlProofs.Lemmas.C25Int
import VrlProofs.Lemmas.C25Lossy
import VrlProofs.Lemmas.Arith

namespace C29
open Conv Conv.Num

/-- `abs(n)` is the magnitude of `n` for every `i64` except `i64::MIN`. -/
theorem abs_magnitude (n : Int) (hmin : n ≠ i64Min) :
    Num.abs (.int n) = .ok (.int (n.natAbs : Int)) := by
  simp only [Num.abs, hmin, ↓reduceIte]
  congr 2
  split <;> omega

/-- … and that magnitude is again an `i64` (no wrap). -/
theorem abs_in_range (n : Int) (hn : inI64 n = true) (hmin : n ≠ i64Min) :
    inI64 (n.natAbs : Int) = true ∧ 0 ≤ (n.natAbs : Int) := by
  rw [inI64_iff] at hn ⊢
  have : n ≠ -9223372036854775808 := hmin
  omega

/-- integers wrap only at the minimum integer: `abs(i64::MIN) = i64::MIN` (`wrapping_abs`; fixed
    finding, /repo 6983af4). -/
theorem abs_min_wraps : Num.abs (.int i64Min) = .ok (.int i64Min) := by
  simp [Num.abs]

/-- the result is negative only at the minimum integer -/
theorem abs_nonneg_iff (n r : Int) (h : Num.abs (.int n) = .ok (.int r)) : r < 0 ↔ n = i64Min := by
  by_cases hn : n = i64Min
  · subst hn
    rw [abs_min_wraps] at h
    cases h
    simp [i64Min]
  · rw [abs_magnitude n hn] at h
    cases h
    simp only [hn, iff_false]
    omega

/-- `abs` never panics, whatever its argument is: a value of any kind, `i64::MIN` included
    (`abs_min_wraps`). -/
theorem abs_never_panics (v : Value) : Num.abs v ≠ .panic := by
  cases v <;> simp only [Num.abs] <;> try (intro h; cases h)
  split <;> (intro h; cases h)

/-- the full statement through the Spec predicate the oracle evaluates: every `i64`. -/
theorem specAbs_model (n : Int) : specAbs n (Num.abs (.int n)) = true := by
  by_cases hmin : n = i64Min
  · subst hmin; simp [specAbs, abs_min_wraps]
  · simp [specAbs, abs_magnitude n hmin, hmin]

/-- `abs` of a float clears the sign bit and nothing else. -/
theorem abs_float (bits : Nat) (h : bits < 2 ^ 64) :
    ∃ r, Num.abs (.float bits) = .ok (.float r) ∧ r < 2 ^ 63 ∧ (r = bits ∨ r + 2 ^ 63 = bits) := by
  refine ⟨bits % 9223372036854775808, rfl, ?_, ?_⟩ <;> omega

/-- `mod(a, b)` on integers is the truncated remainder: `|r| < |b|`, `r` is zero or has the sign
    of the dividend `a`, and `b` divides `a - r` — for all `i64` `a` and `b ≠ 0`, including
    `i64::MIN % -1 = 0` (`wrapping_rem`). -/
theorem mod_truncated (a b : Int) (hb : b ≠ 0) :
    ∃ r, Num.mod (.int a) (.int b) = some (.ok (.int r)) ∧
      r.natAbs < b.natAbs ∧ (0 ≤ a → 0 ≤ r) ∧ (a ≤ 0 → r ≤ 0) ∧ b ∣ a - r := by
  obtain ⟨h1, h2, h3⟩ := Arith.tmod_bounds a b hb
  refine ⟨a.tmod b, ?_, h1, h2, h3, Int.dvd_self_sub_tmod⟩
  -- the model tests the modulus against the literal `0`: the match reduces once `b` is a constructor
  cases b with
  | ofNat k =>
    cases k with
    | zero => exact absurd rfl hb
    | succ k => rfl
  | negSucc k => rfl

/-- the remainder fits an `i64`, so the `wrapping_` of `wrapping_rem` never wraps a value -/
theorem mod_in_range (a b : Int) (hb : b ≠ 0) (hbr : inI64 b = true) :
    inI64 (a.tmod b) = true := by
  rw [inI64_iff] at hbr ⊢
  have := (Arith.tmod_bounds a b hb).1
  omega

theorem mod_zero_errors (v : Value) : Num.mod v (.int 0) = some .err := rfl

theorem specMod_model (a b : Int) :
    ∀ r, Num.mod (.int a) (.int b) = some r → specMod a b r = true := by
  intro r hr
  unfold specMod
  by_cases hb : b = 0
  · simp [hb]
  · obtain ⟨x, hx, h1, h2, h3, h4⟩ := mod_truncated a b hb
    rw [hx] at hr
    cases hr
    have h5 : (a - x) % b = 0 := Int.emod_eq_zero_of_dvd h4
    have hsign : (decide (0 ≤ a) && decide (0 ≤ x) || decide (a ≤ 0) && decide (x ≤ 0)) = true := by
      by_cases ha : 0 ≤ a
      · simp [ha, h2 ha]
      · have : a ≤ 0 := by omega
        simp [this, h3 this]
    simp [h1, hsign, h5]

theorem intText_eq (n : Int) : intText n = signedText 10 n := rfl

theorem intText_ascii (n : Int) : ∀ c ∈ intText n, c < 128 := by
  intro c hc
  unfold intText at hc
  split at hc
  · rcases List.mem_cons.mp hc with h | h
    · omega
    · exact magText_ascii 10 _ (by omega) (by omega) c h
  · exact magText_ascii 10 _ (by omega) (by omega) c hc

/-- `parse_int(to_string(i), 10) = i` for every `i64` (also `i64::MIN`). -/
theorem parse_to_string_base10 (i : Int) (hi : inI64 i = true) :
    Num.toString (.int i) = some (.ok (.bytes (intText i))) ∧
    parseInt (.bytes (intText i)) (some (.int 10)) = .ok (.int i) := by
  refine ⟨rfl, ?_⟩
  have h := fromStrRadix_signedText i 10 (by omega) (by omega) hi
  simp [parseInt, intText_eq, h, optToRes, Res.map]

/-- `parse_int(to_string(i)) = i` without a base argument: the prefix detection of `parse_int`
    never misreads a decimal integer (`"0"` is read as octal zero; no other text starts with `0`). -/
theorem parse_to_string_auto (i : Int) (hi : inI64 i = true) :
    parseInt (.bytes (intText i)) none = .ok (.int i) := by
  rw [intText_eq]; exact parseInt_auto_signedText i hi

/-- `to_int(to_string(i)) = i` for every `i64`. -/
theorem to_int_to_string (i : Int) (hi : inI64 i = true) :
    toInt (.bytes (intText i)) = .ok (.int i) := by
  have h := fromStrRadix_signedText i 10 (by omega) (by omega) hi
  rw [← intText_eq] at h
  simp [toInt, lossy_ascii _ (intText_ascii i), h, optToRes, Res.map]

theorem specText_model (i : Int) :
    specText i (parseInt (.bytes (intText i)) none) (parseInt (.bytes (intText i)) (some (.int 10)))
      (toInt (.bytes (intText i))) = true := by
  unfold specText
  by_cases hi : inI64 i = true
  · simp [parse_to_string_auto i hi, (parse_to_string_base10 i hi).2, to_int_to_string i hi]
  · simp [hi]

/-- `to_int` on the kinds that need no parsing: the identity on integers, `1`/`0` on booleans, `0` on
    null, the Unix seconds (rounded down) of a timestamp. -/
theorem to_int_simple (i : Int) (t : Int) :
    toInt (.int i) = .ok (.int i) ∧ toInt (.bool true) = .ok (.int 1) ∧
    toInt (.bool false) = .ok (.int 0) ∧ toInt .null = .ok (.int 0) ∧
    toInt (.ts t) = .ok (.int (t / 1000000000)) := ⟨rfl, rfl, rfl, rfl, rfl⟩

/-- the `as i64` cast of `to_int` on floats: exact on small integers, truncating toward zero,
    saturating at the ends (examples by bit pattern: 2.5, -2.5, 2^68, -inf, 2^63, -0.0). -/
theorem witness_float_cast :
    f64ToI64 0x4004000000000000 = 2 ∧ f64ToI64 0xC004000000000000 = -2 ∧
    f64ToI64 0x4430000000000000 = i64Max ∧ f64ToI64 0xFFF0000000000000 = i64Min ∧
    f64ToI64 0x43E0000000000000 = i64Max ∧ f64ToI64 0x8000000000000000 = 0 := by decide +kernel

end C29
