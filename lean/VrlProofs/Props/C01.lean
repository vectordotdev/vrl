/-
  C01 – compiled programs are type-sound (result, `return`, event, metadata, variables).

  Model: `Lang.typeInfo` / `Lang.constOf` (VrlModel/Lang/Type.lean: `Expression::type_info`,
  `resolve_constant`, `TypeState`, `LocalEnv`, `ExternalEnv` of the real compiler, tied to it by the
  `c01.typeinfo` correspondence) and `Lang.eval` (VrlModel/Lang/Eval.lean, `lang.run`).
  Spec: `Spec.mem` / `Spec.memR` (VrlModel/KindSpec.lean) and `Lang.Conforms` (VrlModel/Lang/TypeSpec.lean).

  The statement at full strength (`TypeSound e T` for every call-free expression) is FALSE of the
  unchanged code: VrlProofs/Witness/C01.lean has one witness per finding class. What is proved is
  `sound_partial`: `TypeSound e T` whenever `Lang.safe e T` — a decidable predicate over the compiled
  tree and the type state (no function calls; the constructor checks hold in the state `type_info`
  uses; every `Kind` operation met is inside the fragment of its C19 theorem; none of the typing
  quirks `D_…` is met). The proof is by structural recursion over the mutual `Expr`/`Exprs`/`KExprs`
  (VrlProofs/Lemmas/TypeSound.lean) on top of the C19 membership theorems.
-/
import VrlProofs.Lemmas.TypeSound

namespace C01
open Lang Spec

/-- **C01 for one expression** typed in `T`: in every run-time state that inhabits `T`,
    a value it evaluates to is a result (`memR`) of the reported kind and the new run-time state
    inhabits the reported type state (event ∈ target kind, metadata ∈ metadata kind, every variable
    ∈ its kind); a value it `return`s is a result of the reported `returns` kind. -/
def TypeSound (e : Expr) (T : TState) : Prop :=
  ∀ s, Conforms s T →
    match eval e s with
    | (.ok v, s') => memR v (typeInfo e T).1.kind = true ∧ Conforms s' (typeInfo e T).2
    | (.ret v, _) => memR v (typeInfo e T).1.returns = true
    | _ => True

/-- the property at full strength for the modelled (call-free) fragment. Not a theorem: see
    `C01.W.not_full`. -/
def Full : Prop := ∀ e T, (checks e T).all (· != .outOfModel) = true → TypeSound e T

/-- the clauses of `Sound` that C01 states -/
theorem of_sound {td : TypeDef} {T' : TState} {cs : List Chk} {x : Res × St} : Sound td T' cs x →
    match x with
    | (.ok v, s') => memR v td.kind = true ∧ Conforms s' T'
    | (.ret v, _) => memR v td.returns = true
    | _ => True := by
  obtain ⟨r, s⟩ := x
  cases r with
  | ok v => exact fun h => ⟨h.1, h.2.2⟩
  | ret v => exact fun h => h
  | _ => exact fun _ => trivial

/-- **Type soundness** of every expression that passes the side conditions. -/
theorem sound_partial (e : Expr) (T : TState) (h : safe e T = true) : TypeSound e T :=
  fun s hc => of_sound (eval_sound e T s (allNan_of_all h) hc)

/-- a value produced under the side conditions has strictly sorted object keys (the invariant the
    C19 theorems need; `BTreeMap` in the implementation) -/
theorem result_sorted (e : Expr) (T : TState) (h : safe e T = true) (s s' : St) (v : Value)
    (hc : Conforms s T) (he : eval e s = (.ok v, s')) : v.Sorted = true := by
  have := eval_sound e T s (allNan_of_all h) hc
  rw [he] at this
  exact this.2.1

/-- **Every variable read** in a state that inhabits the type state yields a value of the kind the
    compiler assigned to the variable at that point (no side condition beyond the variable being in
    scope: it is the `vars` clause of `Conforms`, which `sound_partial` preserves). -/
theorem var_read_sound (n : String) (T : TState) (d : Details) (hd : T.getVar n = some d) (s : St)
    (hc : Conforms s T) : ∃ v, eval (.var n) s = (.ok v, s) ∧ mem v d.td.kind = true ∧
      (typeInfo (.var n) T).1.kind = d.td.kind := by
  obtain ⟨v, h1, h2, _, _⟩ := hc.vars n d hd
  refine ⟨v, ?_, h2, ?_⟩
  · rw [eval_var, h1]; rfl
  · rw [typeInfo_var, varDef_of_get hd]

/-- **C01 for a program** (`Program::final_type_info` = `Block::type_info` of the root block against
    `Block::resolve`): result ∈ result kind and final state ∈ final type state when the last expression
    is reached; `return`ed value ∈ `returns`. (When the run ends by `return` nothing is claimed about
    the final event: `D_return_skips_effects`.) -/
def ProgramSound (prog : Exprs) (T : TState) : Prop :=
  ∀ s, Conforms s T →
    match evalSeq prog s with
    | (.ok v, s') =>
      memR v (typeSeq prog T {}).1.finish.kind = true ∧ Conforms s' (typeSeq prog T {}).2
    | (.ret v, _) => memR v (typeSeq prog T {}).1.finish.returns = true
    | _ => True

theorem program_sound_partial (prog : Exprs) (T : TState) (h : safeSeq prog T = true) :
    ProgramSound prog T :=
  fun s hc => of_sound (evalSeq_sound prog T s {} rfl (allNan_of_all h) hc)

/-- `Runtime::resolve`: the value a run ends with belongs to the reported result kind or to the
    reported `returns` kind. -/
theorem run_sound_partial (prog : Exprs) (T : TState) (h : safeSeq prog T = true) (s s' : St) (v : Value)
    (hc : Conforms s T) (hr : run prog s = (.ok v, s')) :
    memR v (typeSeq prog T {}).1.finish.kind = true ∨ memR v (typeSeq prog T {}).1.finish.returns = true := by
  obtain ⟨hc0, hrun⟩ := run_of_conforms prog hc
  have := program_sound_partial prog T h _ hc0
  rw [hrun] at hr
  cases hq : evalSeq prog (s.tick 0 false []).2 with
  | mk r s1 =>
    rw [hq] at this hr
    cases r <;> cases hr
    · exact Or.inl this.1
    · exact Or.inr this

end C01
