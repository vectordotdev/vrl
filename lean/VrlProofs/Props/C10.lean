/-
  C10 — Comparisons are consistent; integer equality is exact.
  Model: VrlModel/Arith.lean (`try_gt/ge/lt/le`, `eq_lossy`, `Op::resolve` dispatch) over the
  soft-float VrlModel/F64.lean; Spec predicates: VrlModel/C10.lean (`consistent`, `structEq`, …).
  The model holds `eq_lossy` twice.  `eqLossy` is the function before commit dfcd6fd: an integer is
  converted with `as f64` before comparing, also against another integer.  `eqFixed` is the function
  since dfcd6fd (Integer/Integer compared exactly, nothing else changed); it is `Arith.eqImpl`, the
  equality every other part of the model uses.  `observe a b` are the six answers with `eqLossy`,
  `observeFixed a b` those with `eqFixed`.

  What the property demands of the six answers `o` for an operand pair of one comparable kind:
      consistent o          — exactly one of < == >, != = ¬ ==, <= = (< ∨ ==), >= = (> ∨ ==)
      o.eq = some (a = b)   — for two integers a, b
  With `eqFixed` (`observeFixed`) all of it holds: `comparable_consistent_fixed`, `int_eq_exact_fixed`.
  With `eqLossy` (`observe`) it holds for floats, byte strings, timestamps and mixed pairs, on which
  the two functions agree (`fixed_agrees_elsewhere`), and for two integers outside the finding class
  `D_eq_lossy` (FALSE inside: Witness/C10.lean `int_eq_lossy_witness`), which only contains pairs with
  a magnitude above 2^53 (`D_eq_lossy_large`).  The four order operators on integers are the exact
  `Int` order; `!=` negates `==` on every pair of values; `==` on arrays / objects is structural
  equality up to -0.0 = +0.0.
-/
import VrlProofs.Lemmas.Arith
import VrlProofs.Lemmas.Value

namespace C10
open Arith

/-- well-formed operands: floats are non-NaN patterns (`NotNan<f64>`). -/
abbrev floatOK (x : Nat) : Prop := F64.isNaN x = false

theorem cmpF_key (c : Cmp) (x y : Nat) (hx : floatOK x) (hy : floatOK y) :
    cmpF c x y = cmpInt c (F64.key x) (F64.key y) := by
  cases c <;> simp [cmpF, cmpInt, F64.gt, F64.ge, F64.lt_iff_key, F64.le_iff_key, hx, hy]

/-- the six answers of a trichotomous order: exactly one of `l` (`<`), `e` (`==`), `g` (`>`) holds,
    `<=` is "not `>`" and `>=` is "not `<`" -/
theorem consistent_of_trichotomy (l e g : Bool)
    (h : (l = true ∧ e = false ∧ g = false) ∨ (l = false ∧ e = true ∧ g = false) ∨
      (l = false ∧ e = false ∧ g = true)) :
    consistent { lt := some l, le := some (!g), eq := some e, ne := some (!e), gt := some g, ge := some (!l) }
      = true := by
  obtain ⟨rfl, rfl, rfl⟩ | ⟨rfl, rfl, rfl⟩ | ⟨rfl, rfl, rfl⟩ := h <;> rfl

theorem consistent_of_cmpInt (eqf : Value → Value → Bool) (a b : Value) (x y : Int)
    (hc : ∀ c, tryCmp c a b = .ok (.bool (cmpInt c x y))) (he : eqf a b = decide (x = y)) :
    consistent (observeWith eqf a b) = true := by
  have := consistent_of_trichotomy (decide (x < y)) (decide (x = y)) (decide (y < x)) (by
    simp only [decide_eq_true_eq, decide_eq_false_iff_not]; omega)
  simpa only [observeWith, evalOpWith, hc, he, resBool, cmpInt, ← Int.not_lt, decide_not] using this

theorem consistent_of_cmpF (eqf : Value → Value → Bool) (a b : Value) (x y : Nat)
    (hx : floatOK x) (hy : floatOK y)
    (hc : ∀ c, tryCmp c a b = .ok (.bool (cmpF c x y))) (he : eqf a b = F64.eq x y) :
    consistent (observeWith eqf a b) = true :=
  consistent_of_cmpInt eqf a b _ _ (fun c => by rw [hc, cmpF_key c x y hx hy])
    (he.trans (F64.eq_iff_key x y hx hy))

theorem float_consistent (x y : Nat) (hx : floatOK x) (hy : floatOK y) :
    consistent (observe (.float x) (.float y)) = true :=
  consistent_of_cmpF _ _ _ x y hx hy (fun _ => rfl) rfl

theorem bytes_consistent (a b : List Nat) : consistent (observe (.bytes a) (.bytes b)) = true := by
  refine consistent_of_trichotomy (Key.lt a b) (a == b) (Key.lt b a) ?_
  rcases Key.lt_total a b with h | rfl | h
  · exact .inl ⟨h, beq_false_of_ne (Key.lt_ne a b h), Key.lt_asymm a b h⟩
  · exact .inr (.inl ⟨Key.lt_irrefl a, beq_self_eq_true a, Key.lt_irrefl a⟩)
  · exact .inr (.inr ⟨Key.lt_asymm b a h, beq_false_of_ne (Key.lt_ne b a h).symm, h⟩)

theorem ts_consistent (a b : Int) : consistent (observe (.ts a) (.ts b)) = true :=
  consistent_of_cmpInt _ _ _ a b (fun _ => rfl) (Bool.beq_eq_decide_eq a b)

/-- mixed pairs: all six operators compare the converted integer -/
theorem mixed_consistent (a : Int) (y : Nat) (hy : floatOK y) :
    consistent (observe (.int a) (.float y)) = true ∧ consistent (observe (.float y) (.int a)) = true := by
  have hx := F64.ofInt_notNaN a
  exact ⟨consistent_of_cmpF _ _ _ _ y hx hy (fun _ => rfl) rfl,
    consistent_of_cmpF _ _ _ y _ hy hx (fun _ => rfl) rfl⟩

/-- what the property asks of `==` on mixed pairs -/
theorem mixed_eq (a : Int) (y : Nat) :
    eqLossy (.int a) (.float y) = F64.eq (F64.ofInt a) y ∧
    eqLossy (.float y) (.int a) = F64.eq y (F64.ofInt a) :=
  ⟨rfl, rfl⟩

/-- `<`, `<=`, `>`, `>=` on two integers are the exact integer order: `try_lt`, `try_le`, `try_gt`,
    `try_ge` compare the two `i64` without conversion (unlike `eqLossy`). -/
theorem int_order_consistent (a b : Int) :
    (observe (.int a) (.int b)).lt = some (decide (a < b)) ∧
    (observe (.int a) (.int b)).le = some (decide (a ≤ b)) ∧
    (observe (.int a) (.int b)).gt = some (decide (b < a)) ∧
    (observe (.int a) (.int b)).ge = some (decide (b ≤ a)) :=
  ⟨rfl, rfl, rfl, rfl⟩

/-- `==` on two integers as `eqLossy` (the source before dfcd6fd) computes it. -/
theorem int_eq_is_float_eq (a b : Int) :
    (observe (.int a) (.int b)).eq = some (F64.eq (F64.ofInt a) (F64.ofInt b)) :=
  rfl

theorem eqLossy_int_partial (a b : Int) (h : D_eq_lossy a b = false) :
    eqLossy (.int a) (.int b) = decide (a = b) := by
  simp only [eqLossy, tryIntoF64]
  by_cases hab : a = b
  · subst hab; simp [F64.eq_self _ (F64.ofInt_notNaN a)]
  · simp [D_eq_lossy, hab] at h
    simp [hab, h]

theorem int_eq_exact_partial (a b : Int) (h : D_eq_lossy a b = false) :
    (observe (.int a) (.int b)).eq = some (decide (a = b)) :=
  congrArg some (eqLossy_int_partial a b h)

theorem int_consistent_partial (a b : Int) (h : D_eq_lossy a b = false) :
    consistent (observe (.int a) (.int b)) = true :=
  consistent_of_cmpInt _ _ _ a b (fun _ => rfl) (eqLossy_int_partial a b h)

/-- 9007199254740992 = 2^53 -/
theorem D_eq_lossy_large (a b : Int) (h : D_eq_lossy a b = true) :
    9007199254740992 < a.natAbs ∨ 9007199254740992 < b.natAbs := by
  false_or_by_contra
  rename_i hn
  have ha : a.natAbs ≤ F64.p53 := by unfold F64.p53; omega
  have hb : b.natAbs ≤ F64.p53 := by unfold F64.p53; omega
  simp only [D_eq_lossy, Bool.and_eq_true, decide_eq_true_eq] at h
  exact h.1 ((F64.ofInt_eq_iff a b ha hb).1 h.2)

theorem int_eq_exact_small (a b : Int) (ha : a.natAbs ≤ 9007199254740992) (hb : b.natAbs ≤ 9007199254740992) :
    (observe (.int a) (.int b)).eq = some (decide (a = b)) ∧
    consistent (observe (.int a) (.int b)) = true := by
  have h : D_eq_lossy a b = false := by
    cases hd : D_eq_lossy a b
    · rfl
    · have := D_eq_lossy_large a b hd; omega
  exact ⟨int_eq_exact_partial a b h, int_consistent_partial a b h⟩

theorem int_eq_exact_fixed (a b : Int) :
    (observeFixed (.int a) (.int b)).eq = some (decide (a = b)) :=
  congrArg some (Bool.beq_eq_decide_eq a b)

/-- two integers, with `eq_lossy` as it is since /repo dfcd6fd: the six answers are consistent for
    every pair, those of the class `D_eq_lossy` included. -/
theorem int_consistent_fixed (a b : Int) : consistent (observeFixed (.int a) (.int b)) = true :=
  consistent_of_cmpInt _ _ _ a b (fun _ => rfl) (Bool.beq_eq_decide_eq a b)

theorem fixed_agrees_elsewhere (a b : Value) (h : ¬ ∃ x y, a = .int x ∧ b = .int y) :
    observeFixed a b = observe a b := by
  have : eqFixed a b = eqLossy a b := by
    unfold eqFixed
    split
    · exact absurd ⟨_, _, rfl, rfl⟩ h
    · rfl
  simp [observeFixed, observe, observeWith, evalOpWith, this]

/-- `!=` is the negation of `==` for every pair of values whatsoever, and both always answer (no
    operand makes either fail), with `eqLossy` and with `eqFixed`. -/
theorem ne_negates_eq (a b : Value) :
    eqNeConsistent (observe a b) = true ∧ eqNeConsistent (observeFixed a b) = true :=
  ⟨beq_self_eq_true _, beq_self_eq_true _⟩

theorem veq_structural (a b : Value) (fa : floatsOK a = true) (fb : floatsOK b = true) :
    veq a b = structEq a b := by
  rw [structEq, Bool.eq_iff_iff, decide_eq_true_eq]
  exact veq_iff a b fa fb

/-- `==` on two arrays / objects is structural equality up to `-0.0 = +0.0`; integers inside containers
    are compared exactly. -/
theorem container_eq_structural (a b : Value) (ha : isContainer a = true) (hb : isContainer b = true)
    (fa : floatsOK a = true) (fb : floatsOK b = true) :
    (observe a b).eq = some (structEq a b) ∧ (observeFixed a b).eq = some (structEq a b) := by
  have hv := congrArg some (veq_structural a b fa fb)
  unfold isContainer at ha hb
  split at ha <;> split at hb <;> first | exact ⟨hv, hv⟩ | cases ha | cases hb

/-- the property for `eqLossy`: every comparable pair outside the finding class. -/
theorem comparable_consistent_partial (a b : Value) (hc : comparable a b = true)
    (ha : floatsOK a = true) (hb : floatsOK b = true)
    (hD : ∀ x y, a = .int x → b = .int y → D_eq_lossy x y = false) :
    consistent (observe a b) = true := by
  unfold comparable at hc
  split at hc
  · exact int_consistent_partial _ _ (hD _ _ rfl rfl)
  · exact float_consistent _ _ (notNaN_of_floatsOK ha) (notNaN_of_floatsOK hb)
  · exact bytes_consistent _ _
  · exact ts_consistent _ _
  · exact (mixed_consistent _ _ (notNaN_of_floatsOK hb)).1
  · exact (mixed_consistent _ _ (notNaN_of_floatsOK ha)).2
  · cases hc

/-- the property for `eqFixed`: every comparable pair. -/
theorem comparable_consistent_fixed (a b : Value) (hc : comparable a b = true)
    (ha : floatsOK a = true) (hb : floatsOK b = true) :
    consistent (observeFixed a b) = true := by
  by_cases h : ∃ x y, a = .int x ∧ b = .int y
  · obtain ⟨x, y, rfl, rfl⟩ := h
    exact int_consistent_fixed x y
  · rw [fixed_agrees_elsewhere a b h]
    exact comparable_consistent_partial a b hc ha hb fun x y ea eb => absurd ⟨x, y, ea, eb⟩ h

end C10
