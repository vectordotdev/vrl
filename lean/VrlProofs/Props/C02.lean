/-
  C02 – expressions typed infallible never raise a run-time error (float arithmetic whose result
  would be NaN excepted); programs that are typed infallible and contain no `abort` never fail.

  Same model and proof as C01 (`Lang.eval_sound`, VrlProofs/Lemmas/TypeSound.lean): the induction
  carries "a run-time error only if typed fallible, or float arithmetic is involved". `Chk.nan` marks
  every `+ - * /` whose reported kind contains `float` (`Lang.nanFree`: there is none).
  The exception is exactly NaN: `nan_only` (value level, `Op::type_info` vs `Op::resolve`).
  Full strength (every call-free expression, no side condition) is false of the unchanged code:
  VrlProofs/Witness/C02.lean.
-/
import VrlProofs.Lemmas.TypeSound
import VrlProofs.Lemmas.TypeAbort

namespace C02
open Lang Spec

/-- **C02 for one expression** typed in `T`: if it is typed infallible, evaluating it in a state that
    inhabits `T` does not raise a run-time error, unless it contains float arithmetic. -/
def Infallible (e : Expr) (T : TState) : Prop :=
  ∀ s, Conforms s T → (typeInfo e T).1.fallible = false → (eval e s).1 = .err → Chk.nan ∈ checks e T

/-- the property at full strength for the modelled fragment. Not a theorem: `C02.W.not_full`. -/
def Full : Prop := ∀ e T, (checks e T).all (· != .outOfModel) = true → Infallible e T

theorem infallible_partial (e : Expr) (T : TState) (h : safe e T = true) : Infallible e T := by
  intro s hc hf he
  have := eval_sound e T s (allNan_of_all h) hc
  generalize eval e s = x at this he
  obtain ⟨r, s'⟩ := x
  cases (he : r = .err)
  exact this.resolve_left fun h1 => nomatch hf.symm.trans h1

/-- without float arithmetic: never an error -/
theorem infallible_no_float (e : Expr) (T : TState) (h : safe e T = true) (hn : nanFree e T = true)
    (s : St) (hc : Conforms s T) (hf : (typeInfo e T).1.fallible = false) : (eval e s).1 ≠ .err := by
  intro he
  have := infallible_partial e T h s hc hf he
  simp only [nanFree, Bool.not_eq_true', List.contains_eq_mem, decide_eq_false_iff_not] at hn
  exact hn this

/-- **the exception is exactly NaN**: when `+`, `-`, `*` on operands inside their reported kinds is typed
    infallible and fails, the error is `ValueError::NanFloat` (and the reported kind has `float`). -/
theorem nan_only (o : Opcode) (ho : o = .add ∨ o = .sub ∨ o = .mul) (v w : Value) (l r : TypeDef)
    (nf : Bool) (hv : memR v l.kind = true) (hw : memR w r.kind = true) (e : Arith.Err)
    (he : arithFn o v w = .err e) (hinf : (arithDef o l r nf).fallible = false) :
    e = .nanFloat ∧ (arithDef o l r nf).kind.prim.float = true := by
  rcases (arith_sound o ho v w l r nf hv hw).2 e he with h | h
  · rw [hinf] at h; cases h
  · exact h

/-- … and `/` typed infallible (constant non-zero divisor, numeric dividend) fails only with NaN -/
theorem nan_only_div (v w : Value) (l : TypeDef) (rv : Option Value) (hv : memR v l.kind = true)
    (hrv : ∀ c, rv = some c → w = c) (e : Arith.Err) (he : Arith.tryDiv v w = .err e)
    (hinf : divInfallible l rv = true) : e = .nanFloat :=
  (div_sound v w l rv hv hrv).2 e he hinf

/-- **C02 for a program**: typed infallible, no float arithmetic, no `abort` ⇒ the run ends neither
    with an error nor with an abort (a value, possibly through `return`; a panic and an outcome outside
    the model are not excluded). -/
theorem program_never_fails (prog : Exprs) (T : TState) (hne : prog ≠ .nil) (h : safeSeq prog T = true)
    (hn : nanFreeSeq prog T = true) (ha : noAbortS prog = true)
    (hf : (typeSeq prog T {}).1.finish.fallible = false) (s : St) (hc : Conforms s T) :
    (run prog s).1 ≠ .error ∧ ∀ m, (run prog s).1 ≠ .abort m := by
  obtain ⟨hc0, hrun⟩ := run_of_conforms prog hc
  have hs := evalSeq_sound prog T _ {} rfl (allNan_of_all h) hc0
  have hab := evalSeq_noAbort prog ha (s.tick 0 false []).2
  simp only [nanFreeSeq, Bool.not_eq_true', List.contains_eq_mem, decide_eq_false_iff_not] at hn
  rw [hrun]
  cases hq : evalSeq prog (s.tick 0 false []).2 with
  | mk r s1 =>
    rw [hq] at hs hab
    cases r with
    | err => exact (hs.elim (fun h1 => nomatch hf.symm.trans h1) hn).elim
    | abort m => cases hab
    | _ => exact ⟨nofun, fun _ => nofun⟩

end C02
