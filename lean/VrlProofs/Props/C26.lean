/-
  C26 — protobuf encoding round-trips.

  Model: `VrlModel.Proto` (`fromValue` = `encode_message`, the case table of `convert_value` /
  `convert_value_raw`; `toValue` = `proto_to_value`; the wire format of prost-reflect is the
  parameter `WireCodec` with the law `decode (encode m) = some (normalize m)`).
  Spec: `VrlModel.ProtoSpec` (`Shaped` = no defect, `dropDefaults`, `Pool.Ok`).

  The full-strength reading of the property ("a float in a `float` field, bytes in a `string`
  field, `-0.0` in a double field are message-shaped") is false of the code: see the witnesses in
  `VrlProofs.Witness.C26`.  The theorems below therefore assume `Shaped pool r v` (the two named
  for the property are `_partial`): exactly "no finding class applies" (`defectMsg pool r v = none`,
  decidable).
-/
import VrlProofs.Lemmas.C26
import VrlProofs.Lemmas.C26Spec

namespace C26
open Proto

/-- Field by field: for a value `x` without defect for the field `f`, `convert_value` succeeds,
    `try_set_field` accepts the result, the field is visible afterwards (`has_field`) exactly when
    `x` is not the field's default, and `proto_to_value` gives back `dropDefaults x` — before the
    wire (`mode = none`) as well as after either normalisation (`mode = some w`). -/
theorem field_inverse (P : Prims) (lossy : Bool) (pool : Pool) (hok : pool.Ok = true) (f : Field)
    (x : Value) (hs : x.Sorted = true) (hd : defect pool f x = none) :
    ∃ pv, convField P lossy pool f x = some pv ∧ validFor f pv = true ∧
      hasValue pool f pv = !isDefaultValue pool f x ∧
      ∀ mode, toValue pool (some f) (normOpt pool mode pv) = some (dropDefaults pool f x) := by
  obtain ⟨pv, h1, h2, _, h3, h4⟩ := rt_field P lossy pool hok f x hs hd
  exact ⟨pv, h1, h2, h3, h4⟩

theorem tables_inverse_mode (P : Prims) (lossy : Bool) (pool : Pool) (hok : pool.Ok = true) (r : Nat)
    (v : Value) (hs : v.Sorted = true) (hsh : Shaped pool r v = true) :
    ∃ fs md, pool.msg r = some md ∧ fromValue P lossy pool r v = some fs ∧
      ∀ mode, toValueMsg pool r (normFieldsOpt pool md.fields mode fs) = some (dropDefaultsMsg pool r v) := by
  cases shape_of_defect (defect_of_shaped hsh) with | @message _ _ _ _ md m _ hmd hm => ?_
  obtain ⟨fs, h1, h2⟩ := rt_message hok hmd hs hm (rt_lookup P lossy pool hok md.fields m hs hm)
  refine ⟨fs, md, hmd, ?_, fun mode => ?_⟩
  · show (match pool.msg r with
      | some md => encodeFields (fun f => convLookup P lossy pool m f) md.fields .nil
      | none => none) = _
    simp only [hmd, h1]
  · have := h2 mode none
    rw [normOpt_message hmd] at this
    exact this.trans (congrArg some (dropDefaults_message (Or.inr rfl) hmd m).symm)

/-- **C26, the two case tables.**  For every well-formed descriptor pool, every message type `r`
    and every value shaped like it: `encode_message` accepts the value and `proto_to_value` of the
    resulting message is the value without its proto3 defaults. -/
theorem tables_inverse_partial (P : Prims) (lossy : Bool) (pool : Pool) (hok : pool.Ok = true) (r : Nat)
    (v : Value) (hs : v.Sorted = true) (hsh : Shaped pool r v = true) :
    ∃ fs, fromValue P lossy pool r v = some fs ∧ toValueMsg pool r fs = some (dropDefaultsMsg pool r v) := by
  obtain ⟨fs, md, _, h1, h2⟩ := tables_inverse_mode P lossy pool hok r v hs hsh
  exact ⟨fs, h1, h2 none⟩

/-- `encode_proto` accepts every shaped value. -/
theorem shaped_accepted (P : Prims) (pool : Pool) (hok : pool.Ok = true) (W : WireCodec pool) (r : Nat)
    (v : Value) (hs : v.Sorted = true) (hsh : Shaped pool r v = true) :
    (encodeProto P pool W r v).isSome = true := by
  obtain ⟨fs, h1, _⟩ := tables_inverse_partial P true pool hok r v hs hsh
  simp [encodeProto, h1]

/-- **C26, end to end.**  With any wire codec that satisfies the law
    `decode (encode m) = some (normalize m)`:  `parse_proto(encode_proto(v)) = dropDefaults v`
    for every shaped value. -/
theorem roundtrip_partial (P : Prims) (pool : Pool) (hok : pool.Ok = true) (W : WireCodec pool) (r : Nat)
    (v : Value) (hs : v.Sorted = true) (hsh : Shaped pool r v = true) :
    (encodeProto P pool W r v).bind (parseProto pool W r) = some (dropDefaultsMsg pool r v) := by
  obtain ⟨fs, md, hmd, h1, h2⟩ := tables_inverse_mode P true pool hok r v hs hsh
  have := h2 (some true)
  simp only [normFieldsOpt] at this
  simp [encodeProto, h1, parseProto, W.law r fs md hmd, this]

/-- `uint64` / `fixed64` fields: every `i64` comes back unchanged, although negative integers are
    sent as values above `i64::MAX` (the two wrapping casts are inverse). -/
theorem uint64_wraps_back (pool : Pool) (ctx : Option Field) (i : Int) (h : inI64 i = true) :
    toValue pool ctx (.u64 (wrapU64 i)) = some (.int i) := by
  simp [toValue, wrapI64_wrapU64 i h]

/-- `dropDefaults` is a normal form: its result is still shaped and sorted, and dropping defaults
    again changes nothing. -/
theorem dropDefaults_normal_form (pool : Pool) (r : Nat) (v : Value) (hs : v.Sorted = true)
    (hsh : Shaped pool r v = true) :
    Shaped pool r (dropDefaultsMsg pool r v) = true ∧ (dropDefaultsMsg pool r v).Sorted = true ∧
    dropDefaultsMsg pool r (dropDefaultsMsg pool r v) = dropDefaultsMsg pool r v := by
  obtain ⟨h1, h2, _, h4⟩ := dd_field pool _ v hs (defect_of_shaped hsh)
  exact ⟨Option.isNone_iff_eq_none.mpr h1, h4, h2⟩

/-- After one round trip the value is a fixed point: sending it again gives back exactly the same
    value. -/
theorem roundtrip_fixpoint (P : Prims) (pool : Pool) (hok : pool.Ok = true) (W : WireCodec pool) (r : Nat)
    (v : Value) (hs : v.Sorted = true) (hsh : Shaped pool r v = true) :
    (encodeProto P pool W r (dropDefaultsMsg pool r v)).bind (parseProto pool W r) =
      some (dropDefaultsMsg pool r v) := by
  obtain ⟨h1, h2, h3⟩ := dropDefaults_normal_form pool r v hs hsh
  rw [roundtrip_partial P pool hok W r _ h2 h1, h3]

/-- What a `float` field loses: a double `b` is sent as the nearest binary32 value
    (`F32.ofF64`: ties to even, overflow to ±∞, underflow to ±0) and comes back as that value widened;
    it survives exactly when `F32.exact b` (then `defectScalar` raises no `f32` defect). -/
theorem float_field_narrows (P : Prims) (lossy : Bool) (pool : Pool) (ctx : Option Field) (b : Nat)
    (h : F64.isNaN b = false) :
    convScalar P lossy (.float b) .float = some (.f32 (F32.ofF64 b)) ∧
    toValue pool ctx (.f32 (F32.ofF64 b)) = some (.float (F32.toF64 (F32.ofF64 b))) := by
  refine ⟨rfl, ?_⟩
  show (if F32.isNaN (F32.ofF64 b) = true then none else _) = _
  rw [F32.ofF64_not_nan b h]; rfl

end C26
