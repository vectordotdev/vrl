/-
  C25 — paired conversion functions are mutually inverse.
  Helper lemmas: VrlProofs/Lemmas/C25*.lean. Models:
  VrlModel/Conv/{Int,Entries,Flatten,Ip,Time}.lean, tied to src/stdlib/*.rs by the `c25.*`
  correspondence ops; Spec predicates: VrlModel/C25.lean (also evaluated by the `o.c25.*` oracles
  on the implementation).
-/
import VrlModel.C25
import VrlProofs.Lemmas.C25Int
import VrlProofs.Lemmas.C25Entries
import VrlProofs.Lemmas.C25Time
import VrlProofs.Lemmas.C25Ip
import VrlProofs.Lemmas.C25Unflatten
import VrlProofs.Lemmas.C25Total

namespace C25
open Conv

theorem spec_of_restores {d : Bool} {back : Res Value} {x : Value} (h : d = true → back = .ok x) :
    (!d || restores back x) = true := by
  cases d <;> simp_all [restores]

/-- the magnitude is taken with `unsigned_abs`, which does not overflow at `i64::MIN` (fixed finding,
    /repo 6983af4) -/
theorem formatRadix_never_panics (n : Int) (b : Nat) : formatRadix n b ≠ .panic := by
  rw [formatRadix_eq_signedText]; intro h; cases h

theorem fromStrRadix_formatRadix (n : Int) (b : Nat) (hb2 : 2 ≤ b) (hb36 : b ≤ 36)
    (hn : inI64 n = true) :
    ∃ s, formatRadix n b = .ok s ∧ fromStrRadix s b = some n :=
  ⟨_, formatRadix_eq_signedText n b, fromStrRadix_signedText n b hb2 hb36 hn⟩

/-- C25 (int): `parse_int(format_int(n, b), b) = n` for every base 2–36 and every `i64`
    (full statement, `i64::MIN` included). -/
theorem parse_format_int (n b : Int) (hd : intDomain n b = true) :
    ∃ s, formatInt (.int n) (.int b) = .ok (.bytes s) ∧
      parseInt (.bytes s) (some (.int b)) = .ok (.int n) := by
  simp only [intDomain, Bool.and_eq_true, decide_eq_true_eq] at hd
  obtain ⟨⟨hn, hb2⟩, hb36⟩ := hd
  obtain ⟨s, hf, hp⟩ := fromStrRadix_formatRadix n b.toNat (by omega) (by omega) hn
  refine ⟨s, ?_, ?_⟩
  · simp [formatInt, hb2, hb36, hf, Res.map]
  · simp [parseInt, hb2, hb36, hp, optToRes, Res.map]

/-- with both `base` arguments absent (`format_int` defaults to 10, `parse_int` detects the base
    from the prefix) the round trip holds as well, for every `i64`. -/
theorem parse_format_int_default (n : Int) (hn : inI64 n = true) :
    ∃ s, formatInt (.int n) (.int 10) = .ok (.bytes s) ∧ parseInt (.bytes s) none = .ok (.int n) := by
  refine ⟨signedText 10 n, ?_, parseInt_auto_signedText n hn⟩
  simp [formatInt, formatRadix_eq_signedText n 10, Res.map]

/-- the same statement through the Spec predicate the oracle evaluates, on all of its domain -/
theorem specInt_model (n b : Int) :
    specInt n b (formatInt (.int n) (.int b))
      ((formatInt (.int n) (.int b)).bind fun s => parseInt s (some (.int b))) = true := by
  refine spec_of_restores fun hd => ?_
  obtain ⟨s, hf, hp⟩ := parse_format_int n b hd
  simp [hf, Res.bind, hp]

/-- `format_int` never panics, whatever its two arguments are: values of any kind, any base, `i64::MIN`
    (the digit loop alone: `formatRadix_never_panics`). -/
theorem format_int_never_panics (v base : Value) : formatInt v base ≠ .panic := by
  unfold formatInt
  cases v <;> try (intro h; cases h)
  cases base <;> try (intro h; cases h)
  simp only
  split
  · rw [formatRadix_eq_signedText]; intro h; cases h
  · intro h; cases h

/-- at `i64::MIN` (the input of the fixed finding, /repo 6983af4) the full magnitude 2⁶³ is printed -/
theorem format_int_min :
    formatInt (.int i64Min) (.int 10) = .ok (.bytes
      [45, 57, 50, 50, 51, 51, 55, 50, 48, 51, 54, 56, 53, 52, 55, 55, 53, 56, 48, 56]) ∧
    formatInt (.int i64Min) (.int 16) = .ok (.bytes
      [45, 56, 48, 48, 48, 48, 48, 48, 48, 48, 48, 48, 48, 48, 48, 48, 48]) := by decide +kernel

/-- a base outside 2..=36 is an error of `format_int` whatever the number, `i64::MIN` included. -/
theorem format_int_bad_base (n b : Int) (hb : ¬ (2 ≤ b ∧ b ≤ 36)) :
    formatInt (.int n) (.int b) = .err := by
  simp [formatInt, hb]

/-- C25 (entries): `from_entries(to_entries(o)) = o` for every object (keys sorted and valid
    UTF-8, as the implementation holds them), whatever the values. -/
theorem from_to_entries (m : VMap) (hd : entriesDomain m = true) :
    ∃ a, toEntries (.obj m) = .ok a ∧ fromEntries a = .ok (.obj m) := by
  simp only [entriesDomain, Bool.and_eq_true] at hd
  exact ⟨_, rfl, fromEntriesLoop_entriesOfMap m hd.1 hd.2⟩

theorem specEntries_model (m : VMap) :
    specEntries m ((toEntries (.obj m)).bind fromEntries) = true := by
  refine spec_of_restores fun hd => ?_
  obtain ⟨a, ha, hb⟩ := from_to_entries m hd
  simp [ha, Res.bind, hb]

/-- `to_entries` also accepts arrays (keys = indices), but `from_entries` rejects what it then
    produces (keys must be strings): the pair is inverse on objects only. -/
theorem to_entries_array_not_invertible (v : Value) (vs : VList) :
    (toEntries (.arr (.cons v vs))).bind fromEntries = .err := by
  simp [toEntries, Res.bind, fromEntries, entriesOfList, buildEntry, fromEntriesLoop, selectKey,
    VMap.get, kKey, kKeyU, kName, kNameU, kValue, List.filterMap, keyUsable]

open Time in
/-- C25 (unix, direction 1): `to_unix_timestamp(from_unix_timestamp(n, u), u) = n` for every
    unit and every `i64` that `from_unix_timestamp` accepts. -/
theorem to_from_unix (u : TUnit) (n : Int) (hn : inI64 n = true) (t : Value)
    (h : fromUnix u (.int n) = .ok t) : toUnix u t = .ok (.int n) := by
  by_cases hu : u = .nanoseconds
  · subst hu
    simp only [fromUnix, Res.ok.injEq] at h
    subst h
    simp [toUnix, hn]
  · by_cases hr : tsInRange (n * u.ns) = true
    · rw [fromUnix_of_inRange u n hu hr] at h
      cases h
      rw [toUnix_of_ne_ns u _ hu, Int.mul_ediv_cancel n (Int.ne_of_gt (ns_pos u))]
    · rw [fromUnix_of_not_inRange u n hu hr] at h
      cases h

open Time in
/-- C25 (unix, direction 2): for a timestamp in range, `from(to(t))` is `t` rounded down to a
    multiple of the unit (`to` is a floor division, also for negative `t`); the only failure is
    `to` in nanoseconds outside the `i64` range. -/
theorem from_to_unix_floor (u : TUnit) (t : Int) (ht : tsInRange t = true)
    (hns : u = .nanoseconds → inI64 t = true) :
    ∃ n, toUnix u (.ts t) = .ok (.int n) ∧ fromUnix u (.int n) = .ok (.ts (t - t % u.ns)) := by
  by_cases hu : u = .nanoseconds
  · subst hu
    refine ⟨t, ?_, ?_⟩
    · simp [toUnix, hns rfl]
    · simp [fromUnix, TUnit.ns]
  · refine ⟨_, toUnix_of_ne_ns u t hu, ?_⟩
    have hval : t / u.ns * u.ns = t - t % u.ns := by
      rw [Int.emod_def, Int.mul_comm]; omega
    simp only [tsInRange, Bool.and_eq_true, decide_eq_true_eq] at ht
    have hr : tsInRange (t / u.ns * u.ns) = true := by
      simpa [tsInRange] using floor_mem_range tsMin tsMax u.ns t (ns_pos u) (ns_dvd_tsMin u) ht.1 ht.2
    rw [fromUnix_of_inRange u _ hu hr, hval]

open Time in
/-- … hence `from(to(t)) = t` exactly for the timestamps that are multiples of the unit. -/
theorem from_to_unix_iff (u : TUnit) (t : Int) (ht : tsInRange t = true)
    (hns : u = .nanoseconds → inI64 t = true) :
    ((toUnix u (.ts t)).bind (fromUnix u) = .ok (.ts t)) ↔ t % u.ns = 0 := by
  obtain ⟨n, h1, h2⟩ := from_to_unix_floor u t ht hns
  simp only [h1, Res.bind, h2, Res.ok.injEq, Value.ts.injEq]
  omega

open Time in
theorem specUnix_model (u : TUnit) (t : Int) :
    specUnix u t (toUnix u (.ts t)) ((toUnix u (.ts t)).bind (fromUnix u)) = true := by
  unfold specUnix
  by_cases ht : tsInRange t = true
  · by_cases hns : u = .nanoseconds → inI64 t = true
    · obtain ⟨n, h1, h2⟩ := from_to_unix_floor u t ht hns
      simp [h1, Res.bind, h2, restores]
    · have hu : u = .nanoseconds := by
        cases u <;> simp_all
      subst hu
      have hi : inI64 t = false := by simpa using hns
      simp [toUnix, hi]
  · simp [ht]

open Time in
theorem specUnixInv_model (u : TUnit) (n : Int) :
    specUnixInv n (fromUnix u (.int n)) ((fromUnix u (.int n)).bind (toUnix u)) = true := by
  unfold specUnixInv
  by_cases hn : inI64 n = true
  · cases hf : fromUnix u (.int n) with
    | ok t => simp [Res.bind, to_from_unix u n hn t hf, restores]
    | err => simp
    | panic => simp
  · simp [hn]

open Flat in
/-- C25 (flatten): `unflatten(flatten(o, sep), sep, recursive) = o` for every non-empty valid
    separator, either value of `recursive`, and every object `o` of the domain `flatOKM`:
    along the object spine keys are `sepFree` (do not contain the separator, and no occurrence
    straddles the join) and sorted, and nested objects are non-empty. Arrays — with whatever
    they contain — are leaves for both functions and come back unchanged. No depth bound. -/
theorem unflatten_flatten (sep : Key) (m : VMap) (r : Bool) (hne : sep ≠ [])
    (hfix : Utf8.fixed sep = true) (hok : flatOKM sep m = true) :
    ∃ f, flatten (.obj m) (.bytes sep) [] = .ok f ∧
      unflatten f (.bytes sep) (.bool r) = .ok (.obj m) := by
  simp only [Utf8.fixed, beq_iff_eq] at hfix
  refine ⟨.obj (ofList (F sep m)), by simp [flatten, bytesLossy, hfix], ?_⟩
  obtain ⟨M, hM⟩ := Option.isSome_iff_exists.mp (unflattenEntries_isSome sep hne r
    (weight (.obj (ofList (F sep m))) + 1) (toList (ofList (F sep m))) (by
      rw [mu_toList]; simp only [weight]; omega))
  have := unflattenEntries_sound sep hne r _ m _ M hok
    (toList_ofList_perm (F sep m) (F_nodup sep hne m hok)) hM
  simp only [unflatten, bytesLossy, hfix, hne, ↓reduceIte, hM, this]

open Flat in
/-- whenever the separator (after the lossy conversion) is not empty, `unflatten` of an object
    succeeds: the depth bound is never exhausted. -/
theorem unflatten_ok (sep : Key) (m : VMap) (r : Bool) (hne : Utf8.lossy sep ≠ []) :
    ∃ m', unflatten (.obj m) (.bytes sep) (.bool r) = .ok (.obj m') := by
  have h := unflattenEntries_isSome (Utf8.lossy sep) hne r (weight (.obj m) + 1) (toList m) (by
    rw [mu_toList]; simp only [weight]; omega)
  obtain ⟨m', hm'⟩ := Option.isSome_iff_exists.mp h
  exact ⟨m', by simp [unflatten, bytesLossy, hne, hm']⟩

open Flat in
/-- with a non-empty (valid UTF-8) separator the model's `.panic` outcome, the depth bound exhausted,
    does not occur, for every object and any `recursive`: it stands for the stack overflow that needs
    `separator: ""`, which vrl refuses (/repo 7cd2172; `witness_empty_separator_overflow`). -/
theorem unflatten_no_overflow (sep : Key) (m : VMap) (r : Bool) (hne : sep ≠ [])
    (hfix : Utf8.fixed sep = true) :
    ∃ m', unflatten (.obj m) (.bytes sep) (.bool r) = .ok (.obj m') := by
  simp only [Utf8.fixed, beq_iff_eq] at hfix
  exact unflatten_ok sep m r (by rwa [hfix])

/-- the domain as the property words it ("keys contain no separator, no empty containers"),
    minus the finding class `D_sep_overlap`, is inside the domain of the theorem. -/
theorem flatOKM_of_stated (sep : Key) : (m : VMap) → VMap.Sorted m = true → statedOKM sep m = true →
    D_sep_overlapM sep m = false → flatOKM sep m = true
  | .nil, _, _, _ => rfl
  | .cons k v rest, hs, hst, hd => by
    simp only [VMap.Sorted, Bool.and_eq_true] at hs
    simp only [statedOKM, Bool.and_eq_true] at hst
    simp only [D_sep_overlapM, Bool.or_eq_false_iff, Bool.and_eq_false_iff, Bool.not_eq_false'] at hd
    have hk : sepFree sep k = true := by
      rcases hd.1.1 with h | h
      · rw [hst.1.1] at h; cases h
      · exact h
    have hv : flatOKV sep v = true := by
      cases v with
      | obj m' =>
        simp only [statedOK, Bool.and_eq_true] at hst
        simp only [Value.Sorted] at hs
        simp only [D_sep_overlapV] at hd
        simp only [flatOKV, Bool.and_eq_true]
        exact ⟨hst.1.2.1, flatOKM_of_stated sep m' hs.1.1 hst.1.2.2 hd.1.2⟩
      | _ => rfl
    simp only [flatOKM, Bool.and_eq_true]
    exact ⟨⟨⟨hk, hv⟩, hs.1.2⟩, flatOKM_of_stated sep rest hs.2 hst.2 hd.2⟩

theorem specFlatten_partial (sep : Key) (m : VMap) (r : Bool) (hfix : Utf8.fixed sep = true)
    (hd : D_sep_overlapM sep m = false) :
    specFlatten sep m ((Flat.flatten (.obj m) (.bytes sep) []).bind fun f =>
      Flat.unflatten f (.bytes sep) (.bool r)) = true := by
  refine spec_of_restores fun hdom => ?_
  simp only [Bool.and_eq_true, bne_iff_ne, ne_eq, Bool.or_eq_true] at hdom
  -- either domain is inside `flatOKM`: the worded one because the overlap class is excluded
  have hok : flatOKM sep m = true :=
    hdom.2.elim id fun h => flatOKM_of_stated sep m h.1 h.2 hd
  obtain ⟨f, h1, h2⟩ := unflatten_flatten sep m r hdom.1 hfix hok
  simp [h1, Res.bind, h2]

open Ip in
/-- C25 (aton): `ip_aton(ip_ntoa(n)) = n` for every `u32`. -/
theorem aton_ntoa (n : Int) (h0 : 0 ≤ n) (h1 : n ≤ 4294967295) :
    ∃ s, ipNtoa (.int n) = .ok (.bytes s) ∧ ipAton (.bytes s) = .ok (.int n) := by
  have hq := octetsOfU32_quad n.toNat
  refine ⟨showV4 (octetsOfU32 n.toNat), by simp [ipNtoa, h0, h1], ?_⟩
  simp only [ipAton, bytesLossy, lossy_showV4 _ hq, (parseV4_iff _ _).mpr ⟨hq, rfl⟩,
    u32OfOctets_octetsOfU32 n.toNat (by omega)]
  congr 2
  omega

open Ip in
/-- C25 (aton, other direction): `ip_ntoa(ip_aton(s)) = s` for every byte string `s` that
    `ip_aton` accepts — std's parser admits only the canonical dotted quad (no leading zeros,
    no octet above 255, nothing else around), which is what `Display` prints. -/
theorem ntoa_aton (s : List Nat) (n : Int) (h : ipAton (.bytes s) = .ok (.int n)) :
    ipNtoa (.int n) = .ok (.bytes s) := by
  simp only [ipAton, bytesLossy] at h
  cases hp : parseV4 (Utf8.lossy s) with
  | none => simp [hp] at h
  | some o =>
    simp only [hp, Res.ok.injEq, Value.int.injEq] at h
    obtain ⟨hq, rfl⟩ := parseV4_lossy_inv s o hp
    obtain ⟨h1, h2⟩ := octetsOfU32_u32OfOctets o hq
    have hle : ((u32OfOctets o : Nat) : Int) ≤ 4294967295 := by omega
    simp [← h, ipNtoa, hle, h1]

open Ip in
/-- C25 (pton, text direction, IPv4): `ip_ntop(ip_pton(s)) = s` for every text that parses as an
    IPv4 address. -/
theorem ntop_pton_v4 (t : V6Text) (s o : List Nat) (hp : parseV4 (Utf8.lossy s) = some o) :
    ∃ b, ipPton t (.bytes s) = .ok (.bytes b) ∧ ipNtop t (.bytes b) = .ok (.bytes s) := by
  obtain ⟨hq, rfl⟩ := parseV4_lossy_inv s o hp
  refine ⟨o, ?_, by simp [ipNtop, hq.length]⟩
  simp only [ipPton, bytesLossy, lossy_showV4 o hq, parseIp_showV4 t o hq]

theorem specNtoa_model (s : List Nat) :
    specNtoa s (Ip.ipAton (.bytes s)) ((Ip.ipAton (.bytes s)).bind Ip.ipNtoa) = true := by
  unfold specNtoa
  cases hp : Ip.parseV4 (Utf8.lossy s) with
  | none => simp [Ip.ipAton, bytesLossy, hp]
  | some o =>
    have h : Ip.ipAton (.bytes s) = .ok (.int (Ip.u32OfOctets o)) := by
      simp [Ip.ipAton, bytesLossy, hp]
    simp [h, Res.bind, ntoa_aton s _ h, restores]

theorem specAton_model (n : Int) :
    specAton n ((Ip.ipNtoa (.int n)).bind Ip.ipAton) = true := by
  refine spec_of_restores fun hd => ?_
  simp only [Bool.and_eq_true, decide_eq_true_eq] at hd
  obtain ⟨s, h1, h2⟩ := aton_ntoa n hd.1 hd.2
  simp [h1, Res.bind, h2]

open Ip in
/-- C25 (pton, 4 bytes): `ip_pton(ip_ntop(b)) = b` for every 4-byte string — whatever the IPv6
    text parameter is. -/
theorem pton_ntop_v4 (t : V6Text) (a b c d : Nat) (ha : a < 256) (hb : b < 256) (hc : c < 256)
    (hd : d < 256) :
    ∃ s, ipNtop t (.bytes [a, b, c, d]) = .ok (.bytes s) ∧ ipPton t (.bytes s) = .ok (.bytes [a, b, c, d]) := by
  have hq : Quad [a, b, c, d] := ⟨a, b, c, d, rfl, ha, hb, hc, hd⟩
  refine ⟨showV4 [a, b, c, d], by simp [ipNtop], ?_⟩
  simp only [ipPton, bytesLossy, lossy_showV4 _ hq, parseIp_showV4 t _ hq]

theorem parseIp_show6 (t : Ip.V6Text) (g : List Nat) (hlaw : v6ok t g = true) :
    Utf8.lossy (t.show6 g) = t.show6 g ∧ Ip.parseIp t (t.show6 g) = some (.v6 g) := by
  simp only [v6ok, Bool.and_eq_true, List.all_eq_true, decide_eq_true_eq, Option.isNone_iff_eq_none,
    beq_iff_eq] at hlaw
  exact ⟨lossy_ascii _ hlaw.1.1, by simp [Ip.parseIp, hlaw.1.2, hlaw.2]⟩

open Ip in
/-- C25 (pton, 16 bytes): `ip_pton(ip_ntop(b)) = b` for every 16-byte string on whose address
    std's IPv6 `Display`/parser pair satisfies its law (`v6ok`: the parameter's assumption). -/
theorem pton_ntop_v6 (t : V6Text) (b : List Nat) (hl : b.length = 16) (ho : octets b = true)
    (hlaw : v6ok t (segsOfBytes b) = true) :
    ∃ s, ipNtop t (.bytes b) = .ok (.bytes s) ∧ ipPton t (.bytes s) = .ok (.bytes b) := by
  obtain ⟨hls, hp⟩ := parseIp_show6 t _ hlaw
  simp only [octets, List.all_eq_true, decide_eq_true_eq] at ho
  refine ⟨t.show6 (segsOfBytes b), by simp [ipNtop, hl], ?_⟩
  simp only [ipPton, bytesLossy, hls, hp, bytesOfSegs_segsOfBytes b (by omega) ho]

open Ip in
/-- C25 (mapped): `ipv6_to_ipv4(ip_to_ipv6(s)) = s` for the text `s` of every IPv4 address,
    under the law of the IPv6 text parameter at the mapped address `::ffff:a.b.c.d`. -/
theorem mapped_roundtrip (t : V6Text) (a b c d : Nat) (ha : a < 256) (hb : b < 256) (hc : c < 256)
    (hd : d < 256) (hlaw : v6ok t (mapped [a, b, c, d]) = true) :
    ∃ s, ipToIpv6 t (.bytes (showV4 [a, b, c, d])) = .ok (.bytes s) ∧
      ipv6ToIpv4 t (.bytes s) = .ok (.bytes (showV4 [a, b, c, d])) := by
  obtain ⟨hls, hp⟩ := parseIp_show6 t _ hlaw
  refine ⟨t.show6 (mapped [a, b, c, d]), ?_, ?_⟩
  · have hq : Quad [a, b, c, d] := ⟨a, b, c, d, rfl, ha, hb, hc, hd⟩
    simp only [ipToIpv6, bytesLossy, lossy_showV4 _ hq, parseIp_showV4 t _ hq]
  · simp only [ipv6ToIpv4, bytesLossy, hls, hp]
    simp [mapped, toIpv4, Digits.mul_add_div _ _ hb, Digits.mul_add_mod _ _ hb, Digits.mul_add_div _ _ hd,
      Digits.mul_add_mod _ _ hd]

open Time in
/-- C25 (timestamp): for a format that carries a UTC offset (`format_has_zone`), any timezone
    argument on either side and any configured zone, `parse_timestamp(format_timestamp(t, f, tz), f, tz')`
    is `t` whenever chrono's formatter/parser pair satisfies its law at `(zone, t, f)` — the
    glue neither loses the sub-second part nor re-interprets the instant in `tz'`/the configured
    zone, and does not panic. -/
theorem parse_format_timestamp (c : Chrono) (ctx z : Zone) (t : Int) (f : List Nat)
    (tz tz' : Option Value) (ht : tsInRange t = true) (hf : Utf8.fixed f = true)
    (hz : formatHasZone f = true) (hzone : zoneOfArg c tz = some z)
    (hacc : tzAccepted c tz' = true) (hlaw : tsLaw c z t f = true) :
    ∃ s, formatTimestamp c (.ts t) (.bytes f) tz = .ok (.bytes s) ∧
      parseTimestamp c ctx (.bytes s) (.bytes f) tz' = .ok (.ts t) := by
  simp only [Utf8.fixed, beq_iff_eq] at hf
  unfold tsLaw at hlaw
  cases hfm : c.format z t f with
  | none => simp [hfm] at hlaw
  | some txt =>
    simp only [hfm, Bool.and_eq_true, Utf8.fixed, beq_iff_eq] at hlaw
    obtain ⟨⟨hvalid, htxt⟩, hparse⟩ := hlaw
    refine ⟨txt, ?_, ?_⟩
    · cases tz with
      | none =>
        simp only [zoneOfArg, Option.some.injEq] at hzone
        subst hzone
        simp [formatTimestamp, bytesLossy, hf, tzArg, hvalid, hfm, toStringOrPanic]
      | some v =>
        cases v <;> simp only [zoneOfArg, reduceCtorEq] at hzone
        simp [formatTimestamp, bytesLossy, hf, tzArg, hvalid, hzone, hfm, toStringOrPanic]
    · have hdt : datetimeToUtc (t / 1000000000, (t % 1000000000).toNat) = .ok (.ts t) := by
        unfold datetimeToUtc
        simp only [Res.ok.injEq, Value.ts.injEq]
        omega
      cases tz' with
      | none =>
        simp [parseTimestamp, bytesLossy, hf, tzArg, hz, htxt, hparse, hdt]
      | some v =>
        simp only [tzAccepted, Option.isNone_some, Bool.false_or, Option.isSome_iff_exists] at hacc
        obtain ⟨z', hz'⟩ := hacc
        cases v <;> simp only [zoneOfArg, reduceCtorEq] at hz'
        simp [parseTimestamp, bytesLossy, hf, tzArg, hz', hz, htxt, hparse, hdt]

end C25
