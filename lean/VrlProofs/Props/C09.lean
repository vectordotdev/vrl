/-
  C09 — short-circuit and conditional evaluation are exact.
  Model: `Lang.eval` (VrlModel/Lang/Eval.lean), the model of `Op::resolve`, `IfStatement::resolve`,
  `Predicate::resolve`, `try_and` — tied to the code by the `lang.run` correspondence.

  Every theorem is an equation on `eval` that holds for ALL operand expressions, ALL states and ALL
  right-hand sides; the final *state* is part of the equation, so "side effects of unevaluated
  operands and branches never happen" is literally what is proved (the result does not mention
  the unevaluated expression at all).  `short s` is `s` with the relevance flag `evShort` set.
-/
import VrlProofs.Props.C06

namespace C09
open Lang

abbrev short (s : St) : St := { s with evShort := true }

/-- a value that makes `||` take its left operand -/
def truthy : Value → Bool
  | .null => false
  | .bool false => false
  | _ => true

theorem falsy_eq (v : Value) : falsy v = !truthy v := by
  cases v with
  | bool b => cases b <;> rfl
  | _ => rfl

/-- `a || b` yields `a`, without evaluating `b`, when `a` is neither null nor false. -/
theorem or_left (l r : Expr) (s s1 : St) (v : Value) (h : eval l (short s) = (.ok v, s1))
    (ht : truthy v = true) : eval (.op .or l r) s = (.ok v, s1) := by
  rw [eval_or, h, bindOk_ok, falsy_eq, ht]; rfl

/-- `a || b` evaluates `b` (in the state left by `a`) and yields it when `a` is null or false. -/
theorem or_right (l r : Expr) (s s1 : St) (v : Value) (h : eval l (short s) = (.ok v, s1))
    (ht : truthy v = false) : eval (.op .or l r) s = eval r s1 := by
  rw [eval_or, h, bindOk_ok, falsy_eq, ht]; rfl

/-- `a && b` is `false`, without evaluating `b`, when `a` is null or false. -/
theorem and_short (l r : Expr) (s s1 : St) (v : Value) (h : eval l (short s) = (.ok v, s1))
    (ht : truthy v = false) : eval (.op .and l r) s = (.ok (.bool false), s1) := by
  rw [eval_and, h, bindOk_ok, falsy_eq, ht]; rfl

/-- otherwise `b` is evaluated and the result is `try_and`: the boolean conjunction (boolean ∧ null is
    false; any other operand type is an error). -/
theorem and_both (l r : Expr) (s s1 s2 : St) (v w : Value) (h : eval l (short s) = (.ok v, s1))
    (ht : truthy v = true) (hr : eval r s1 = (.ok w, s2)) :
    eval (.op .and l r) s = (tryAnd v w, s2) := by
  rw [eval_and, h, bindOk_ok, falsy_eq, ht, hr]; rfl

theorem tryAnd_bool (a b : Bool) : tryAnd (.bool a) (.bool b) = .ok (.bool (a && b)) := rfl
theorem tryAnd_null (a : Bool) : tryAnd (.bool a) .null = .ok (.bool false) := rfl

/-- `if` runs exactly the `then` block when the predicate is `true` … -/
theorem if_true (pred thn els : Exprs) (hasElse : Bool) (s s1 : St)
    (h : evalSeq pred (short s) = (.ok (.bool true), s1)) :
    eval (.ifte pred thn hasElse els) s = evalSeq thn s1 := by
  rw [eval_ifte, h]; rfl

/-- … exactly the `else` block when it is `false` … -/
theorem if_false_else (pred thn els : Exprs) (s s1 : St)
    (h : evalSeq pred (short s) = (.ok (.bool false), s1)) :
    eval (.ifte pred thn true els) s = evalSeq els s1 := by
  rw [eval_ifte, h]; rfl

/-- … and yields `null`, running nothing, when the chosen branch is a missing `else`. -/
theorem if_false_noelse (pred thn els : Exprs) (s s1 : St)
    (h : evalSeq pred (short s) = (.ok (.bool false), s1)) :
    eval (.ifte pred thn false els) s = (.ok .null, s1) := by
  rw [eval_ifte, h]; rfl

/-- a non-boolean predicate is a runtime error; no branch runs. -/
theorem if_nonbool (pred thn els : Exprs) (hasElse : Bool) (s s1 : St) (v : Value)
    (h : evalSeq pred (short s) = (.ok v, s1)) (hv : ∀ b, v ≠ .bool b) :
    eval (.ifte pred thn hasElse els) s = (.err, s1) := by
  rw [eval_ifte, h]
  cases v with
  | bool b => exact absurd rfl (hv b)
  | _ => rfl

/-- a predicate made of several expressions evaluates all of them in order and uses the last. -/
theorem predicate_many (e : Expr) (es : Exprs) (s s1 : St) (v : Value) (hne : es ≠ .nil)
    (h : eval e s = (.ok v, s1)) : evalSeq (.cons e es) s = evalSeq es s1 :=
  C06.seq_tail e es s s1 v hne h

/-- non-vacuity: `null || 7` takes the right operand, `true || abort` the left one. -/
example : (eval (.op .or (.lit .null) (.lit (.int 7)))
    { vars := [], event := .null, metadata := .null, faults := [], ops := 0, log := [], errs := [] }).1
    = .ok (.int 7) := by decide +kernel
example : (eval (.op .or (.lit (.bool true)) (.abort false .noop))
    { vars := [], event := .null, metadata := .null, faults := [], ops := 0, log := [], errs := [] }).1
    = .ok (.bool true) := by decide +kernel

end C09
