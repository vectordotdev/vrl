/-
  C28 — string and collection functions obey their algebraic laws.

  Every theorem is about the executable models of `VrlModel/Str/*.lean` and `VrlModel/Coll.lean`
  (tied to src/stdlib/*.rs by the `c28.*` correspondence ops) and holds for every input that
  meets the hypotheses it states; `_partial` in a name marks a law that fails outside them
  (`Witness/C28.lean`).  The laws
  are the decidable Spec predicates of `VrlModel/C28.lean`, the same the oracle `o.c28.*` evaluates
  on the real functions.  Unicode case mapping is a parameter (`CaseMap`); its laws are the
  hypotheses `LawfulUpper` / `LawfulLower`, satisfied by the ASCII instance (non-vacuity) and
  sampled exhaustively on the implementation.
-/
import VrlProofs.Lemmas.C28Str
import VrlProofs.Lemmas.C28Ci
import VrlProofs.Lemmas.C28Coll

namespace C28
open Str Coll

/-! ### upcase / downcase are idempotent -/

theorem upcase_idempotent (cm : CaseMap) (h : LawfulUpper cm) (v r : Value)
    (hr : upcaseV cm v = .ok r) : upcaseV cm r = .ok r := by
  cases v <;> simp [upcaseV] at hr
  subst hr
  rename_i b
  simp only [upcaseV, upcase, R.ok.injEq, Value.bytes.injEq]
  rw [decode_encode _ (upcaseCp_scalar cm h _ (decode_scalar b)), upcaseCp_idem cm h]

theorem downcase_idempotent (cm : CaseMap) (h : LawfulLower cm) (v r : Value)
    (hr : downcaseV cm v = .ok r) : downcaseV cm r = .ok r := by
  cases v <;> simp [downcaseV] at hr
  subst hr
  rename_i b
  simp only [downcaseV, downcase, R.ok.injEq, Value.bytes.injEq]
  have hsc : ∀ d ∈ downcaseCp cm (decodeLossy b), isScalar d = true :=
    downcaseGo_scalar cm h _ [] (decode_scalar b)
  rw [decode_encode _ hsc, downcaseCp_idem cm h]

/-- the laws are satisfiable: ASCII case mapping (identity elsewhere) meets both. -/
theorem ascii_lawful : LawfulUpper CaseMap.ascii ∧ LawfulLower CaseMap.ascii :=
  ⟨ascii_lawfulUpper, ascii_lawfulLower⟩

/-! ### strip_whitespace removes exactly the leading and trailing whitespace -/

theorem strip_whitespace_spec (b : List Nat) :
    ∃ r, stripWhitespace (.bytes b) = .ok (.bytes r) ∧ specTrim (decodeLossy b) (decodeLossy r) = true := by
  refine ⟨_, rfl, ?_⟩
  have hsc : ∀ c ∈ trimCp (decodeLossy b), isScalar c = true :=
    fun c hc => decode_scalar b c (mem_trimCp hc)
  rw [decode_encode _ hsc]
  exact specTrim_trimCp _

/-! ### join(split(s, d), d) = s -/

/-- for every delimiter (the empty one included) and every limit ≥ 1 (absent = 999 999 999):
    joining the pieces with the delimiter gives back the string (`from_utf8_lossy` of the bytes). -/
theorem join_split (s d : List Nat) (limit : Option Value)
    (hl : limit = none ∨ ∃ n : Int, 1 ≤ n ∧ limit = some (.int n)) :
    ∃ arr, split (.bytes s) (.bytes d) limit = some (.ok arr) ∧
      join arr (some (.bytes d)) = .ok (.bytes (lossy s)) := by
  obtain ⟨n, hn, hlim⟩ : ∃ n : Nat, 1 ≤ n ∧
      split (.bytes s) (.bytes d) limit = some (.ok (.arr (bytesArr (splitCp n (decodeLossy d) (decodeLossy s))))) := by
    rcases hl with rfl | ⟨n, hn, rfl⟩
    · exact ⟨999999999, by omega, rfl⟩
    · refine ⟨n.toNat, by omega, ?_⟩
      have : ¬ n < 0 := by omega
      simp [split, this]
  refine ⟨_, hlim, ?_⟩
  have hj := join_splitCp n hn (decodeLossy d) (decodeLossy s)
  have hsc : ∀ p ∈ splitCp n (decodeLossy d) (decodeLossy s), ∀ c ∈ p, isScalar c = true := by
    intro p hp c hc
    apply decode_scalar s
    rw [← hj]
    exact mem_joinCp _ _ p hp c hc
  simp only [join, itemsCp_bytesArr _ hsc, hj, lossy]

/-- on valid UTF-8 the law is literally `join(split(s, d), d) == s`. -/
theorem join_split_valid (s d : List Nat) (hs : isValid s = true) :
    ∃ arr, split (.bytes s) (.bytes d) none = some (.ok arr) ∧
      join arr (some (.bytes d)) = .ok (.bytes s) := by
  obtain ⟨arr, h1, h2⟩ := join_split s d none (Or.inl rfl)
  refine ⟨arr, h1, ?_⟩
  rw [h2, lossy, encode_decode_of_valid hs]

/-! ### starts_with / ends_with / contains agree with substring position: case-sensitive mode -/

theorem caseArg_sensitive (cs : Option Value) (h : cs = none ∨ cs = some (.bool true)) : caseArg cs = some true := by
  rcases h with rfl | rfl <;> rfl

/-- `ends_with`: the substring occurs at position `len(value) − len(substring)` (chars view). -/
theorem ends_with_spec (cm : CaseMap) (v s : List Nat) (cs : Option Value)
    (h : cs = none ∨ cs = some (.bool true)) :
    ∃ b, endsWith cm (.bytes v) (.bytes s) cs = .ok (.bool b) ∧
      specEndsWith (decodeLossy v) (decodeLossy s) b = true := by
  refine ⟨_, by simp [endsWith, caseArg_sensitive cs h, convertToString]; rfl, ?_⟩
  simp [specEndsWith, isSuffixOf_eq_subAt]

/-- `contains`: the substring occurs at some position. -/
theorem contains_spec (cm : CaseMap) (v s : List Nat) (cs : Option Value)
    (h : cs = none ∨ cs = some (.bool true)) :
    ∃ b, contains cm (.bytes v) (.bytes s) cs = .ok (.bool b) ∧
      specContains (decodeLossy v) (decodeLossy s) b = true := by
  refine ⟨_, by simp [contains, caseArg_sensitive cs h, convertToString]; rfl, ?_⟩
  simp [specContains, containsCp_eq]

/-- `starts_with` compares the raw bytes: the substring occurs at byte position 0. -/
theorem starts_with_spec_bytes (cm : CaseMap) (v s : List Nat) (cs : Option Value)
    (h : cs = none ∨ cs = some (.bool true)) :
    ∃ b, startsWith cm (.bytes v) (.bytes s) cs = .ok (.bool b) ∧ specStartsWith v s b = true := by
  simp only [startsWith, caseArg_sensitive cs h, startsWithBytes, if_true]
  refine ⟨_, rfl, ?_⟩
  rw [isPrefixOf_eq_subAt]
  simp only [specStartsWith, subAt, Nat.zero_add, beq_iff_eq]
  cases decide (s.length ≤ v.length) <;> simp

/-- on valid UTF-8 (where the three functions look at the same string) `starts_with` agrees
    with position 0 of the chars view, like `ends_with` / `contains`.  Outside: `witness_starts_with_raw`. -/
theorem starts_with_spec_partial (cm : CaseMap) (v s : List Nat) (cs : Option Value)
    (h : cs = none ∨ cs = some (.bool true)) (hv : isValid v = true) (hs : isValid s = true) :
    ∃ b, startsWith cm (.bytes v) (.bytes s) cs = .ok (.bool b) ∧
      specStartsWith (decodeLossy v) (decodeLossy s) b = true := by
  obtain ⟨b, hb, hspec⟩ := starts_with_spec_bytes cm v s cs h
  refine ⟨b, hb, ?_⟩
  have ev := encode_decode_of_valid hv
  have es := encode_decode_of_valid hs
  simp only [specStartsWith, beq_iff_eq] at hspec ⊢
  rw [hspec, ← isPrefixOf_eq_subAt, ← isPrefixOf_eq_subAt, Bool.eq_iff_iff,
    List.isPrefixOf_iff_prefix, List.isPrefixOf_iff_prefix]
  constructor
  · rintro ⟨t, rfl⟩
    exact ⟨decodeLossy t, (decode_append_valid s t hs).symm⟩
  · rintro ⟨u, hu⟩
    refine ⟨encode u, ?_⟩
    rw [← ev, ← hu, encode_append, es]

/-! ### case-insensitive mode (`case_sensitive: false`)

  `ends_with` / `contains` lower-case both strings and look for the position there.
  `starts_with` (/repo 2b95bd7) requires, char by char, a partner with the same lower-case expansion
  (`starts_with_ci_charwise`); on valid UTF-8 that is the position-0 law of the lower-cased strings
  whenever lower-casing is char-wise, one char each (`starts_with_ci_spec_partial`), and it never
  reports a prefix the lower-cased strings do not have unless a `Σ` is involved
  (`starts_with_ci_sound_partial`).  Outside: `witness_starts_with_ci_{invalid,sigma,expansion}`. -/

theorem ends_with_ci_spec (cm : CaseMap) (v s : List Nat) :
    ∃ b, endsWith cm (.bytes v) (.bytes s) (some (.bool false)) = .ok (.bool b) ∧
      specEndsWith (downcaseCp cm (decodeLossy v)) (downcaseCp cm (decodeLossy s)) b = true := by
  refine ⟨_, by simp [endsWith, caseArg, convertToString]; rfl, ?_⟩
  simp [specEndsWith, isSuffixOf_eq_subAt]

theorem contains_ci_spec (cm : CaseMap) (v s : List Nat) :
    ∃ b, contains cm (.bytes v) (.bytes s) (some (.bool false)) = .ok (.bool b) ∧
      specContains (downcaseCp cm (decodeLossy v)) (downcaseCp cm (decodeLossy s)) b = true := by
  refine ⟨_, by simp [contains, caseArg, convertToString]; rfl, ?_⟩
  simp [specContains, containsCp_eq]

/-- on valid UTF-8, case-insensitive `starts_with` is exactly the char-wise comparison: every char
    of the substring has, at the same index of the value, a char with the same complete lower-case
    expansion (in particular the value has at least as many chars). -/
theorem starts_with_ci_charwise (cm : CaseMap) (hcm : AsciiLower cm) (v s : List Nat)
    (hv : isValid v = true) (hs : isValid s = true) :
    startsWith cm (.bytes v) (.bytes s) (some (.bool false)) =
      .ok (.bool (ciPrefix cm (decodeLossy s) (decodeLossy v))) := by
  have ev := encode_decode_of_valid hv
  have es := encode_decode_of_valid hs
  have hl : (decodeLossy s).length < s.length + 1 := by
    have := length_le_encode (decodeLossy s)
    rw [es] at this; omega
  have := ciAll_encode cm hcm (decodeLossy s) (decodeLossy v) (s.length + 1)
    (decode_scalar s) (decode_scalar v) hl
  rw [ev, es] at this
  simp [startsWith, caseArg, startsWithBytes, this]

/-- where lower-casing is char-wise and one char each (no `Σ`, no `İ`) `starts_with` obeys the
    same law as `ends_with_ci_spec` / `contains_ci_spec`: position 0 of the lower-cased strings. -/
theorem starts_with_ci_spec_partial (cm : CaseMap) (hcm : AsciiLower cm) (v s : List Nat)
    (hv : isValid v = true) (hs : isValid s = true)
    (lv : simpleLower cm (decodeLossy v) = true) (ls : simpleLower cm (decodeLossy s) = true) :
    ∃ b, startsWith cm (.bytes v) (.bytes s) (some (.bool false)) = .ok (.bool b) ∧
      specStartsWith (downcaseCp cm (decodeLossy v)) (downcaseCp cm (decodeLossy s)) b = true := by
  refine ⟨_, starts_with_ci_charwise cm hcm v s hv hs, ?_⟩
  simp only [simpleLower, Bool.and_eq_true] at lv ls
  rw [specStartsWith, ← isPrefixOf_eq_subAt, downcaseCp_noSigma cm _ lv.1, downcaseCp_noSigma cm _ ls.1,
    beq_iff_eq, Bool.eq_iff_iff, List.isPrefixOf_iff_prefix]
  exact ⟨ciPrefix_sound cm _ _, ciPrefix_complete cm _ _ ls.2 lv.2⟩

/-- without `Σ` a `true` of `starts_with` is a `true` of the law, multi-char lower-case
    expansions included: the only deviation left there is a missed match (`witness_starts_with_ci_expansion`). -/
theorem starts_with_ci_sound_partial (cm : CaseMap) (hcm : AsciiLower cm) (v s : List Nat)
    (hv : isValid v = true) (hs : isValid s = true)
    (nv : noSigma (decodeLossy v) = true) (ns : noSigma (decodeLossy s) = true)
    (h : startsWith cm (.bytes v) (.bytes s) (some (.bool false)) = .ok (.bool true)) :
    specStartsWith (downcaseCp cm (decodeLossy v)) (downcaseCp cm (decodeLossy s)) true = true := by
  rw [starts_with_ci_charwise cm hcm v s hv hs] at h
  simp only [R.ok.injEq, Value.bool.injEq] at h
  rw [specStartsWith, ← isPrefixOf_eq_subAt, downcaseCp_noSigma cm _ nv, downcaseCp_noSigma cm _ ns,
    beq_iff_eq, eq_comm, List.isPrefixOf_iff_prefix]
  exact ciPrefix_sound cm _ _ h

/-! ### truncate never yields more characters than the limit plus the suffix -/

theorem truncate_strlen (s : List Nat) (l : Int) (suffix : Option Value) (sfx : List Nat)
    (hs : suffix = none ∧ sfx = [] ∨ suffix = some (.bytes sfx)) :
    ∃ r n m, truncate (.bytes s) (.int l) suffix = .ok (.bytes r) ∧
      strlen (.bytes r) = .ok (.int n) ∧ strlen (.bytes sfx) = .ok (.int m) ∧
      specTruncate l n m = true := by
  have ht : truncate (.bytes s) (.int l) suffix =
      .ok (.bytes (encode (truncateCp (limitNat l) (decodeLossy sfx) (decodeLossy s)))) := by
    rcases hs with ⟨rfl, rfl⟩ | rfl <;> rfl
  refine ⟨_, _, _, ht, rfl, rfl, ?_⟩
  have hsc : ∀ c ∈ truncateCp (limitNat l) (decodeLossy sfx) (decodeLossy s), isScalar c = true :=
    fun c hc => (mem_truncateCp hc).elim (decode_scalar s c) (decode_scalar sfx c)
  have hlen := length_truncateCp (limitNat l) (decodeLossy sfx) (decodeLossy s)
  have hl : ((limitNat l : Nat) : Int) = if l < 0 then 0 else l := by
    unfold limitNat; split <;> omega
  rw [decode_encode _ hsc, specTruncate, decide_eq_true_eq, ← hl]
  omega

/-! ### strlen counts Unicode scalar values -/

/-- `specStrlen`: the number of non-continuation bytes of the lossily decoded string's UTF-8. -/
theorem strlen_spec (s : List Nat) : ∃ n, strlen (.bytes s) = .ok (.int n) ∧ specStrlen s n = true := by
  refine ⟨_, rfl, ?_⟩
  simp [specStrlen, lossy, countLeads_encode _ (decode_scalar s)]

theorem strlen_scalars (cs : List Nat) (h : ∀ c ∈ cs, isScalar c = true) :
    strlen (.bytes (encode cs)) = .ok (.int cs.length) := by
  simp [strlen, decode_encode cs h]

/-! ### slice agrees with positional indexing (both signs) -/

def endArg (e : Option Int) : Option Value := e.map Value.int

theorem slice_bytes_spec (b : List Nat) (start : Int) (e : Option Int) :
    ∃ w : Option (List Nat), slice (.bytes b) (.int start) (endArg e) =
        (match w with | some w => .ok (.bytes w) | none => .err) ∧
      specSliceL b start e w = true := by
  refine ⟨(sliceRange start e b.length).map fun p => (b.drop p.1).take (p.2 - p.1), ?_, specSliceL_ok b start e⟩
  cases e <;> simp only [slice, endArg, Option.map] <;> cases sliceRange start _ b.length <;> rfl

theorem slice_array_spec (xs : VList) (start : Int) (e : Option Int) :
    ∃ w : Option (List Value), slice (.arr xs) (.int start) (endArg e) =
        (match w with | some w => .ok (.arr (ofList w)) | none => .err) ∧
      specSliceL (toList xs) start e w = true := by
  refine ⟨(sliceRange start e (toList xs).length).map fun p => ((toList xs).drop p.1).take (p.2 - p.1), ?_,
    specSliceL_ok (toList xs) start e⟩
  rw [length_toList]
  cases e <;> simp only [slice, endArg, Option.map] <;> cases sliceRange start _ xs.length <;> rfl

/-! ### unique: no duplicates, first occurrences, in order -/

theorem unique_spec (xs : VList) :
    ∃ out, unique (.arr xs) = .ok (.arr (ofList out)) ∧ specUnique (toList xs) out = true :=
  ⟨_, rfl, specUnique_ok _⟩

/-! ### compact removes exactly the empty items it is configured to -/

/-- for every combination of values of the six options (`recursive null string object array nullish`),
    each passed explicitly; all six absent: `compact_defaults`. -/
theorem compact_spec (o : CompactOptions) (v : Value) (hv : (∃ xs, v = .arr xs) ∨ (∃ m, v = .obj m)) :
    ∃ w, compact v (some (.bool o.recursive)) (some (.bool o.null)) (some (.bool o.string))
        (some (.bool o.object)) (some (.bool o.array)) (some (.bool o.nullish)) = .ok w ∧
      specCompact o v w = true := by
  rcases hv with ⟨xs, rfl⟩ | ⟨m, rfl⟩
  · exact ⟨_, rfl, specCompact_list o xs⟩
  · exact ⟨_, rfl, specCompact_map o m⟩

/-- `compact` with its six options absent: the documented defaults, `true` for all but `nullish`. -/
theorem compact_defaults (v : Value) :
    compact v none none none none none none =
      compact v (some (.bool true)) (some (.bool true)) (some (.bool true)) (some (.bool true))
        (some (.bool true)) (some (.bool false)) := rfl

/-! ### keys / values / length agree with the object -/

theorem keys_values_length_spec (m : VMap) (h : m.Sorted = true) :
    ∃ ks vs n, keys (.obj m) = .ok (.arr (ofList ks)) ∧ values (.obj m) = .ok (.arr (ofList vs)) ∧
      length (.obj m) = .ok (.int n) ∧ specKVL m ks vs n = true :=
  ⟨_, _, _, rfl, rfl, rfl, specKVL_ok m h⟩

/-! ### merge(a, b) has b's values on shared keys -/

theorem merge_spec (a b : VMap) (hb : b.Sorted = true) (deep : Option Value) (d : Bool)
    (hd : optBool false deep = some d) :
    ∃ r, merge (.obj a) (.obj b) deep = .ok (.obj r) ∧ specMerge d a b r = true := by
  refine ⟨mergeMaps d a b, by simp [merge, hd], specMerge_ok d a b hb⟩

theorem merge_get_shallow (a b : VMap) (hb : b.Sorted = true) (k : List Nat) :
    (mergeMaps false a b).get k = (b.get k).or (a.get k) := by
  rw [get_mergeMaps false a b hb k]
  cases b.get k with
  | none => rfl
  | some v => exact congrArg some (mergeField_false _ v)

/-- deep merge: two objects under a shared key are merged recursively, anything else is `b`'s. -/
theorem merge_get_deep (a b : VMap) (hb : b.Sorted = true) (k : List Nat) :
    (mergeMaps true a b).get k =
      (match a.get k, b.get k with
       | some (.obj c1), some (.obj c2) => some (.obj (mergeMaps true c1 c2))
       | _, some v => some v
       | x, none => x) := by
  rw [get_mergeMaps true a b hb k]
  cases hbk : b.get k with
  | none => cases a.get k <;> simp
  | some v =>
    cases v <;> cases hak : a.get k <;> simp [mergeField]
    rename_i c2 o
    cases o <;> simp

/-! ### what the Spec predicates mean (soundness of the decidable forms) -/

theorem specTrim_sound (s r : List Nat) (h : specTrim s r = true) :
    ∃ pre post, s = pre ++ r ++ post ∧ (∀ c ∈ pre, isWhitespace c = true) ∧
      (∀ c ∈ post, isWhitespace c = true) ∧
      (∀ c, r.head? = some c → isWhitespace c = false) ∧
      (∀ c, r.getLast? = some c → isWhitespace c = false) := by
  simp only [specTrim, drop_takeWhile_length, Bool.and_eq_true] at h
  obtain ⟨⟨⟨hp, hpost⟩, hh⟩, hl⟩ := h
  obtain ⟨post, hpost'⟩ := List.isPrefixOf_iff_prefix.mp hp
  refine ⟨s.takeWhile isWhitespace, post, ?_, ?_, ?_, ?_, ?_⟩
  · rw [List.append_assoc, hpost', List.takeWhile_append_dropWhile]
  · intro c hc
    exact List.all_eq_true.mp List.all_takeWhile c hc
  · rw [← hpost', List.drop_left, List.all_eq_true] at hpost
    exact hpost
  · intro c hc; simp [hc] at hh; exact hh
  · intro c hc; simp [hc] at hl; exact hl

theorem subAt_iff (v sub : List Nat) (i : Nat) :
    subAt v sub i = true ↔ ∃ pre post, v = pre ++ sub ++ post ∧ pre.length = i := by
  simp only [subAt, Bool.and_eq_true, decide_eq_true_eq, beq_iff_eq]
  constructor
  · rintro ⟨hl, he⟩
    refine ⟨v.take i, (v.drop i).drop sub.length, ?_, by simp; omega⟩
    conv => lhs; rw [← List.take_append_drop i v, ← List.take_append_drop sub.length (v.drop i), he]
    simp
  · rintro ⟨pre, post, rfl, rfl⟩
    simp

/-! the clauses of `specUnique` read on `uniqueL` itself -/

theorem unique_nodup (xs : List Value) : distinct (uniqueL xs) = true := distinct_uniqueGo xs []

theorem unique_sublist (xs : List Value) : (uniqueL xs).Sublist xs := uniqueGo_sublist xs []

theorem unique_covers (xs : List Value) (x : Value) (hx : x ∈ xs) : ∃ y ∈ uniqueL xs, veq y x = true := by
  rcases uniqueGo_covers xs [] x hx with h | h
  · simp at h
  · exact h

/-! ### unique is idempotent -/

theorem uniqueGo_fix : (out seen : List Value) → distinct out = true →
    (∀ y ∈ out, seen.any (veq y) = false) → uniqueGo seen out = out
  | [], _, _, _ => rfl
  | x :: xs, seen, hd, hf => by
    simp only [distinct, Bool.and_eq_true, Bool.not_eq_true'] at hd
    have hx : seen.any (veq x) = false := hf x (by simp)
    simp only [uniqueGo, hx, Bool.false_eq_true, if_false]
    congr 1
    apply uniqueGo_fix xs (x :: seen) hd.2
    intro y hy
    have h1 : seen.any (veq y) = false := hf y (List.mem_cons_of_mem _ hy)
    have h2 : veq x y = false := Bool.eq_false_iff.mpr (List.any_eq_false.mp hd.1 y hy)
    rw [List.any_cons, h1, veq_symm, h2]
    rfl

theorem unique_idempotent (xs : List Value) : uniqueL (uniqueL xs) = uniqueL xs :=
  uniqueGo_fix _ [] (unique_nodup xs) (by intro y _; rfl)

/-- at the level of the stdlib function: `unique(unique(a)) == unique(a)` -/
theorem unique_unique (xs : VList) :
    ∃ out, unique (.arr xs) = .ok (.arr out) ∧ unique (.arr out) = .ok (.arr out) := by
  refine ⟨_, rfl, ?_⟩
  simp only [unique, toList_ofList, unique_idempotent]

/-! ### merge: identity, idempotence and associativity read key by key -/

theorem merge_empty_right (d : Bool) (a : VMap) : mergeMaps d a .nil = a := by
  simp [mergeMaps]

theorem merge_self_get_shallow (a : VMap) (ha : a.Sorted = true) (k : List Nat) :
    (mergeMaps false a a).get k = a.get k := by
  rw [merge_get_shallow a a ha k, Option.or_self]

/-- shallow merge keeps the object invariant. -/
theorem sorted_mergeMaps_shallow : (b to : VMap) → to.Sorted = true → b.Sorted = true →
    (mergeMaps false to b).Sorted = true
  | .nil, to, ht, _ => by simpa [mergeMaps] using ht
  | .cons k v rest, to, ht, hb => by
    rw [VMap.sorted_cons] at hb
    simp only [mergeMaps, mergeField_false]
    exact sorted_mergeMaps_shallow rest _ (VMap.sorted_insert to k v ht hb.1) hb.2.2

theorem merge_assoc_get_shallow (a b c : VMap) (hb : b.Sorted = true) (hc : c.Sorted = true) (k : List Nat) :
    (mergeMaps false (mergeMaps false a b) c).get k = (mergeMaps false a (mergeMaps false b c)).get k := by
  rw [merge_get_shallow _ c hc k, merge_get_shallow a _ (sorted_mergeMaps_shallow c b hb hc) k, merge_get_shallow b c hc k,
    merge_get_shallow a b hb k, Option.or_assoc]

end C28
