/-
  C36 — Results are independent of the configured timezone where they should be.

  What is proved here and what is not:
  * The language model `Lang.run` takes NO timezone; `TzModel.runTz` is that model with the zone
    parameter of `Runtime::resolve`, so `run_tz_independent` holds by construction (`rfl`): a
    STRUCTURAL fact about the model, not evidence about the code.
  * What makes it honest: the modelled stdlib subset contains no function that reads
    `ctx.timezone()` (the hand-written list `TzModel.tzReaders`), and a call to a listed reader makes
    the model answer `oom` = "outside the model", never a guessed value.
  * The decidable syntactic statement: `inModel_tzFree` — a program all of whose calls are modelled
    calls no reader (is in the tz-free fragment `tzFree`), and `tzFree_callStd`: for calls outside
    the list, stdlib dispatch with the zone (`callStd`, readers as arbitrary parameters) does not
    depend on the zone or on the readers' behaviour.
  * For the main reader, `parse_timestamp`, the glue of stdlib/parse_timestamp.rs is modelled over the
    C35 conversion model, and the two documented escape conditions are proved.
  * The CONTENT of C36 — that no function outside `tzReaders` depends on the configured zone, and
    that explicit offsets / `timezone:` arguments win for the listed ones — is the BEHAVIOURAL check
    `o.c36` on the real implementation (every stdlib function's examples and synthesised calls, and
    generated programs, under pairs of configured zones): sampling, not proof. Its verdict function
    `TzModel.verdict` is the one characterised by `verdict_auto` and `verdict_explicit`.
-/
import VrlModel.Tz

namespace C36
open Lang TzModel

/-- the hand-written list, spelt out (an edit of `tzReaders` must be made here too) -/
theorem tzReaderNames_eq : tzReaderNames =
    ["parse_timestamp", "parse_syslog", "parse_linux_authorization", "parse_apache_log", "parse_common_log", "parse_nginx_log",
     "get_timezone_name"] := by
  simp [tzReaderNames, tzReaders]

theorem modelled_functions_not_readers (f : String) (h : (fnParams f).isSome = true) :
    isTzReader f = false := by
  cases hr : isTzReader f with
  | false => rfl
  | true =>
    -- a reader is one of the seven listed names, and `fnParams` knows none of them
    have : ∀ g ∈ tzReaderNames, (fnParams g).isSome = false := by decide +kernel
    rw [this f (by simpa [isTzReader] using hr)] at h
    cases h

/-- a call to a listed reader is outside the model (`oom`), whatever its arguments -/
theorem reader_call_oom (f : String) (h : isTzReader f = true) (args : List (Option String × Thunk))
    (cl : Option (List String × Thunk)) (s : St) : callFn f args cl s = (.oom, s) := by
  cases hp : fnParams f with
  | none => unfold callFn; simp [hp]
  | some ps =>
    have := modelled_functions_not_readers f (by simp [hp])
    simp [this] at h

/-- SYNTACTIC: a program whose calls are all modelled is in the tz-free fragment -/
theorem inModel_tzFree (prog : Exprs) (h : inModel prog = true) : tzFree prog = true := by
  simp only [inModel, tzFree, List.all_eq_true] at *
  intro f hf
  simp [modelled_functions_not_readers f (h f hf)]

/-- STRUCTURAL (by construction): the language model does not take the zone -/
theorem run_tz_independent (tz₁ tz₂ : Cnv.Tz) (prog : Exprs) (s : St) :
    runTz tz₁ prog s = runTz tz₂ prog s := rfl

/-- stdlib dispatch with the zone: outside `tzReaders` neither the zone nor the (arbitrary)
    behaviour of the readers can influence the result -/
theorem tzFree_callStd (rd₁ rd₂ : ReaderImpl) (tz₁ tz₂ : Cnv.Tz) (name : String)
    (args : List (Option Value)) (h : isTzReader name = false) :
    callStd rd₁ tz₁ name args = callStd rd₂ tz₂ name args := by
  simp [callStd, h]

/-- on the modelled subset the dispatch with the zone IS the model's dispatch -/
theorem callStd_modelled (rd : ReaderImpl) (tz : Cnv.Tz) (name : String) (args : List (Option Value))
    (h : (fnParams name).isSome = true) : callStd rd tz name args = purFn name args := by
  simp [callStd, modelled_functions_not_readers name h]

/-- an explicit `timezone:` argument replaces the configured zone -/
theorem parseTimestampFn_timezone_arg {P : Type} (ft : Cnv.FloatText) (ch : Cnv.Chrono P)
    (ctx₁ ctx₂ z : Cnv.Tz) (v : List Nat) (f : List Char) :
    parseTimestampFn ft ch ctx₁ v f (some z) = parseTimestampFn ft ch ctx₂ v f (some z) := rfl

/-- a zone-explicit format: the configured zone (and the `timezone:` argument) are not consulted -/
theorem parseTimestampFn_zoned_format {P : Type} (ft : Cnv.FloatText) (ch : Cnv.Chrono P)
    (ctx₁ ctx₂ : Cnv.Tz) (a₁ a₂ : Option Cnv.Tz) (v : List Nat) (f : List Char)
    (h : Cnv.formatHasZone f = true) :
    parseTimestampFn ft ch ctx₁ v f a₁ = parseTimestampFn ft ch ctx₂ v f a₂ := by
  simp [parseTimestampFn, Cnv.Conversion.ofTimestampFmt, h]

/-- otherwise the wall-clock text is interpreted in the effective zone (argument, else configured) -/
theorem parseTimestampFn_zoneless {P : Type} (ft : Cnv.FloatText) (ch : Cnv.Chrono P)
    (ctx : Cnv.Tz) (a : Option Cnv.Tz) (v : List Nat) (f : List Char)
    (h : Cnv.formatHasZone f = false) :
    parseTimestampFn ft ch ctx v f a =
      Cnv.tsResult .timestampParse (Cnv.datetimeFromStr ch (a.getD ctx) v f) := by
  simp [parseTimestampFn, Cnv.Conversion.ofTimestampFmt, h, Cnv.convert]

/-- mode `auto` on deterministic cases: a difference between two configured zones is a failure
    exactly when the program calls no listed reader -/
theorem verdict_auto (calls : List String) (equal : Bool) :
    verdict "auto" calls true equal = .failsTz ↔ (equal = false ∧ calls.all (fun f => !isTzReader f) = true) := by
  have h1 : ("auto" == "explicit") = false := by decide
  have h2 : ("auto" == "sensitive") = false := by decide
  cases equal <;> simp [verdict, h1, h2]

theorem verdict_explicit (calls : List String) (equal : Bool) :
    verdict "explicit" calls true equal = .holds ↔ equal = true := by
  cases equal <;> simp [verdict]

end C36
