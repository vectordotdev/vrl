/-
  C15 — read-only paths are never modified.

  Acceptance logic (`is_read_only_path`: `accepted_diverges`), the value-level frame laws it relies on
  (`insert_preserves`, `remove_preserves`; Lemmas/C15Frame.lean says why compaction is harmless and
  why unique keys are needed), and the program-level theorem `run_preserves_readonly` (+ `_event`,
  `_metadata`, `_below`): for EVERY compiled program all of whose static write targets — external
  assignment targets (`assignsS`) and `del` paths (`delsS`) — pass the read-only check of `cfg` and
  are field-only (`acceptsFieldProg`, decidable), every well-formed initial state, every fault
  schedule and every outcome (value, error, abort, return, panic; closures and iteration functions
  included): every recursive field-only read-only entry of `cfg` holds after the run exactly what it
  held before, and so does every location below it. Proved by instantiating the abstract invariant
  induction (Lemmas/Inv.lean, Lemmas/InvEval.lean) with `Prot cfg s0`. The other instance, C16's log
  coverage (Lemmas/InvLog.lean), is imported because the check of C15 audits the names of
  lean/obligations/C15.txt through this module alone and the list holds its `Lang.run_covered_inv`.
  The full statement is false of the code in these classes (witnesses below): index segments are
  compared as written (`.a[-1]` vs `.a[1]`), a write through a container of the other type
  replaces an ancestor (`.a[0] = 1` destroys `.a.b`), a removal shifts later array elements, and a
  non-recursive read-only path does not protect its children although they are part of its value.
-/
import VrlModel.ReadOnly
import VrlProofs.Props.C18
import VrlProofs.Lemmas.C15Frame
import VrlProofs.Lemmas.InvEval
import VrlProofs.Lemmas.InvLog

namespace C15
open ReadOnly Value

theorem startsWith_refl : (p : Path) → startsWith p p = true
  | [] => rfl
  | s :: p => by simp [startsWith, startsWith_refl p]

theorem diverge_of_not_prefix : (w r : Path) → fieldOnly w = true → fieldOnly r = true →
    startsWith r w = false → startsWith w r = false → C18.diverge w r = true
  | [], r, _, _, h, _ => by cases r <;> cases h
  | _ :: _, [], _, _, _, h => by cases h
  | .index _ :: _, _ :: _, hw, _, _, _ => by cases hw
  | .field _ :: _, .index _ :: _, _, hr, _, _ => by cases hr
  | .field f :: w, .field g :: r, hw, hr, h1, h2 => by
    by_cases hfg : f = g
    · subst hfg
      simp only [startsWith, decide_true, Bool.true_and] at h1 h2
      simp only [C18.diverge, ↓reduceIte]
      exact diverge_of_not_prefix w r hw hr h1 h2
    · have : Seg.field f ≠ Seg.field g := fun e => hfg (Seg.field.inj e)
      simp [C18.diverge, this, C18.noAlias]

/-- what acceptance by `is_read_only_path` gives for one read-only entry of the same target, both
    paths field-only: they diverge, or the write lies strictly below a NON-recursive entry. -/
theorem accepted_diverges (cfg : List RO) (ro : RO) (m : Bool) (w : Path) (hmem : ro ∈ cfg)
    (hm : ro.isMeta = m) (hacc : isReadOnly cfg m w = false)
    (hw : fieldOnly w = true) (hr : fieldOnly ro.path = true) :
    C18.diverge w ro.path = true ∨ (ro.recursive = false ∧ startsWith w ro.path = true ∧ w ≠ ro.path) := by
  have hh : hits ro m w = false := by
    unfold isReadOnly at hacc
    rw [List.any_eq_false] at hacc
    simpa using hacc ro hmem
  unfold hits at hh
  simp only [hm, beq_self_eq_true, Bool.true_and, Bool.or_eq_false_iff] at hh
  obtain ⟨h1, h2⟩ := hh
  cases hrec : ro.recursive with
  | true =>
    simp only [hrec, ↓reduceIte] at h2
    exact .inl (diverge_of_not_prefix w ro.path hw hr h1 h2)
  | false =>
    simp only [hrec, Bool.false_eq_true, ↓reduceIte, decide_eq_false_iff_not] at h2
    by_cases h3 : startsWith w ro.path = true
    · exact .inr ⟨rfl, h3, h2⟩
    · exact .inl (diverge_of_not_prefix w ro.path hw hr h1 (by simpa using h3))

/-- between two field segments the step where `q` leaves `p` is always admissible. -/
theorem divergeOK_of_fieldOnly (p : Path) : ∀ (c : Option Value) (q : Path),
    C18.diverge p q = true → fieldOnly p = true → fieldOnly q = true → divergeOK c p q = true := by
  induction p with
  | nil => intro c q hd; cases hd
  | cons s rest ih =>
    intro c q hd hp hq
    cases q with
    | nil => cases hd
    | cons t q' =>
      cases s with
      | index _ => cases hp
      | field f =>
        cases t with
        | index _ => cases hq
        | field g =>
          unfold C18.diverge at hd
          unfold divergeOK
          split at hd
          · next he => rw [if_pos he]; exact ih _ q' hd hp hq
          · next hne => rw [if_neg hne]; rfl

/-- frame law for field-only paths: for EVERY value (unlike C18's frame law, coercion cannot hurt a
    field-only location). -/
theorem insert_preserves (p : Path) : ∀ (c : Option Value) (q : Path) (x : Value),
    C18.diverge p q = true → fieldOnly p = true → fieldOnly q = true →
    getOpt (some (insertOpt c p x)) q = getOpt c q :=
  fun c q x hd hp hq => getOpt_insertOpt_of_divergeOK p c q x (divergeOK_of_fieldOnly p c q hd hp hq)

theorem value_insert_preserves (v : Value) (p q : Path) (x : Value) (v' : Value) (prev : Option Value)
    (hd : C18.diverge p q = true) (hp : fieldOnly p = true) (hq : fieldOnly q = true)
    (h : v.insert p x = .ok (v', prev)) : v'.get q = v.get q := by
  obtain ⟨rfl, -⟩ := insert_ok h
  exact insert_preserves p (some v) q x hd hp hq

/-- D_negative_index: read-only `.a[1]`; `.a[-1] = 99` is accepted and changes `.a[1]` on `{"a":[0,1]}`. -/
theorem witness_negative_index :
    let cfg := [RO.mk false [.field [97], .index 1] false]
    let v := Value.obj (.cons [97] (.arr (.cons (.int 0) (.cons (.int 1) .nil))) .nil)
    isReadOnly cfg false [.field [97], .index (-1)] = false ∧
    (insertOpt (some v) [.field [97], .index (-1)] (.int 99)).get [.field [97], .index 1] ≠ v.get [.field [97], .index 1] := by
  decide +kernel

/-- D_container_coercion: read-only recursive `.a.b`; `.a[0] = 99` is accepted and destroys `.a.b`. -/
theorem witness_coercion :
    let cfg := [RO.mk false [.field [97], .field [98]] true]
    let v := Value.obj (.cons [97] (.obj (.cons [98] (.int 1) .nil)) .nil)
    isReadOnly cfg false [.field [97], .index 0] = false ∧
    (insertOpt (some v) [.field [97], .index 0] (.int 99)).get [.field [97], .field [98]] ≠ v.get [.field [97], .field [98]] := by
  decide +kernel

/-- D_nonrecursive_child: non-recursive read-only `.a`; `.a.b = 2` is accepted and changes the value at `.a`. -/
theorem witness_nonrecursive_child :
    let cfg := [RO.mk false [.field [97]] false]
    let v := Value.obj (.cons [97] (.obj (.cons [98] (.int 1) .nil)) .nil)
    isReadOnly cfg false [.field [97], .field [98]] = false ∧
    (insertOpt (some v) [.field [97], .field [98]] (.int 2)).get [.field [97]] ≠ v.get [.field [97]] := by
  decide +kernel

/-- removal frame law for field-only paths, any `compact` flag: the value at a diverging path is
    unchanged (and its spine stays well-formed). -/
theorem remove_preserves (v : Value) (p q : Path) (prune : Bool)
    (hd : C18.diverge p q = true) (hp : fieldOnly p = true) (hq : fieldOnly q = true)
    (hs : spineOK (some v) q = true) :
    (v.remove p prune).2.get q = v.get q ∧ spineOK (some (v.remove p prune).2) q = true := by
  unfold Value.remove Value.get
  cases hr : removeOpt (some v) p prune with
  | none => exact ⟨rfl, hs⟩
  | some r =>
    obtain ⟨prev, new, gone⟩ := r
    have := removeOpt_frame p (some v) prune q prev new gone hd hp hq hs hr
    exact ⟨this.1, this.2.1⟩

/-- the same for well-formed values (`Sorted` is the `BTreeMap` invariant of every real `Value`). -/
theorem value_remove_preserves (v : Value) (p q : Path) (prune : Bool)
    (hd : C18.diverge p q = true) (hp : fieldOnly p = true) (hq : fieldOnly q = true)
    (hv : v.Sorted = true) : (v.remove p prune).2.get q = v.get q :=
  (remove_preserves v p q prune hd hp hq
    (spineOK_of_sorted q (some v) hv)).1

/-- D_remove_index_shift (why removals need `fieldOnly`): read-only recursive `.a[1]`; `del(.a[0])` is
    accepted and moves another element into `.a[1]` on `{"a":[0,1]}` (observed on the implementation:
    `val.remove`, and the program `del(.a[0])` under the configuration). -/
theorem witness_remove_index_shift :
    let cfg := [RO.mk false [.field [97], .index 1] true]
    let v := Value.obj (.cons [97] (.arr (.cons (.int 0) (.cons (.int 1) .nil))) .nil)
    isReadOnly cfg false [.field [97], .index 0] = false ∧
    C18.diverge [.field [97], .index 0] [.field [97], .index 1] = true ∧
    (v.remove [.field [97], .index 0] false).2.get [.field [97], .index 1] ≠ v.get [.field [97], .index 1] := by
  decide +kernel

/-- D_remove_index_shift through compaction: read-only recursive `.a[0].y`; `del(.a[0].x, compact: true)`
    is accepted, empties element 0, compaction drops it and element 1 moves into `.a[0]`
    (`[{"x":1},{"y":2}]`: `.a[0].y` was absent and is `2` afterwards; observed on the implementation). -/
theorem witness_remove_compact_shift :
    let cfg := [RO.mk false [.field [97], .index 0, .field [121]] true]
    let v := Value.obj (.cons [97] (.arr (.cons (.obj (.cons [120] (.int 1) .nil))
      (.cons (.obj (.cons [121] (.int 2) .nil)) .nil))) .nil)
    isReadOnly cfg false [.field [97], .index 0, .field [120]] = false ∧
    C18.diverge [.field [97], .index 0, .field [120]] [.field [97], .index 0, .field [121]] = true ∧
    (v.remove [.field [97], .index 0, .field [120]] true).2.get [.field [97], .index 0, .field [121]]
      ≠ v.get [.field [97], .index 0, .field [121]] := by
  decide +kernel

/-- why `remove_preserves` asks for unique keys along the preserved path: on the ill-formed model value
    `{a: {b: 1}, a: {c: 2}}` (duplicate key — no `BTreeMap` looks like this, `Sorted` is false)
    the compacting removal of `.a.b` uncovers the second `a`. -/
theorem witness_remove_unsorted_model :
    let v := Value.obj (.cons [97] (.obj (.cons [98] (.int 1) .nil)) (.cons [97] (.obj (.cons [99] (.int 2) .nil)) .nil))
    v.Sorted = false ∧
    (v.remove [.field [97], .field [98]] true).2.get [.field [97], .field [99]] ≠ v.get [.field [97], .field [99]] := by
  decide +kernel

open Lang

def tgtOf (s : St) (isMeta : Bool) : Value := if isMeta then s.metadata else s.event

/-- invariant: every recursive field-only read-only location holds what it held in `s0` (and the
    objects on the way to it have unique keys) -/
def Prot (cfg : List RO) (s0 s : St) : Prop :=
  ∀ ro ∈ cfg, ro.recursive = true → fieldOnly ro.path = true →
    (tgtOf s ro.isMeta).get ro.path = (tgtOf s0 ro.isMeta).get ro.path ∧
    spineOK (some (tgtOf s ro.isMeta)) ro.path = true

theorem prot_congr {cfg : List RO} {s0 s t : St} (he : t.event = s.event)
    (hm : t.metadata = s.metadata) (hs : Prot cfg s0 s) : Prot cfg s0 t := by
  intro ro hro hrec hf
  simpa only [tgtOf, he, hm] using hs ro hro hrec hf

theorem targetGet_target (s : St) (m : Bool) (p : Path) :
    (s.targetGet m p).2.event = s.event ∧ (s.targetGet m p).2.metadata = s.metadata := by
  unfold St.targetGet St.tick
  cases s.faults.contains s.ops <;> exact ⟨rfl, rfl⟩

theorem targetInsert_spec (s s' : St) (m : Bool) (p : Path) (v : Value)
    (h : s.targetInsert m p v = some s') :
    (s'.event = s.event ∧ s'.metadata = s.metadata) ∨
    (tgtOf s' m = insertOpt (some (tgtOf s m)) p v ∧ tgtOf s' (!m) = tgtOf s (!m)) := by
  unfold St.targetInsert St.tick at h
  simp only at h
  split at h
  · -- rejected
    cases h; exact .inl ⟨rfl, rfl⟩
  · -- not rejected: `Value.insert` panics or the addressed target is rewritten
    split at h
    · cases h
    · next hins =>
      cases h
      obtain ⟨rfl, -⟩ := insert_ok hins
      cases m <;> exact .inr ⟨rfl, rfl⟩

theorem targetRemove_spec (s : St) (m : Bool) (p : Path) (c : Bool) :
    ((s.targetRemove m p c).2.event = s.event ∧ (s.targetRemove m p c).2.metadata = s.metadata) ∨
    (tgtOf (s.targetRemove m p c).2 m = ((tgtOf s m).remove p c).2 ∧
      tgtOf (s.targetRemove m p c).2 (!m) = tgtOf s (!m)) := by
  unfold St.targetRemove St.tick
  cases s.faults.contains s.ops
  · cases m <;> exact .inr ⟨rfl, rfl⟩
  · exact .inl ⟨rfl, rfl⟩

theorem okTarget_iff (cfg : List RO) (x : Bool × Path) :
    okTarget cfg x = true ↔ isReadOnly cfg x.1 x.2 = false ∧ fieldOnly x.2 = true := by
  simp [okTarget]

/-- a write at an accepted field-only path `p` of target `m` keeps `Prot` if it leaves the other
    target alone and, in `m`, every diverging field path with a well-formed spine: a recursive
    read-only entry of `m` diverges from `p` (`accepted_diverges`). -/
theorem prot_write {cfg : List RO} {s0 s s' : St} {m : Bool} {p : Path}
    (hw : okTarget cfg (m, p) = true) (hs : Prot cfg s0 s)
    (hother : tgtOf s' (!m) = tgtOf s (!m))
    (hframe : fieldOnly p = true → ∀ q, C18.diverge p q = true → fieldOnly q = true →
      spineOK (some (tgtOf s m)) q = true →
      (tgtOf s' m).get q = (tgtOf s m).get q ∧ spineOK (some (tgtOf s' m)) q = true) :
    Prot cfg s0 s' := by
  obtain ⟨hacc, hp⟩ := (okTarget_iff cfg (m, p)).mp hw
  intro ro hro hrec hf
  obtain ⟨g, sp⟩ := hs ro hro hrec hf
  by_cases hmm : ro.isMeta = m
  · rcases accepted_diverges cfg ro m p hro hmm hacc hp hf with hd | ⟨hnr, _, _⟩
    · rw [hmm] at g sp ⊢
      obtain ⟨r1, r2⟩ := hframe hp ro.path hd hf sp
      exact ⟨r1.trans g, r2⟩
    · rw [hrec] at hnr; cases hnr
  · rw [Bool.eq_not_of_ne hmm] at g sp ⊢
    rw [hother]
    exact ⟨g, sp⟩

/-- `Prot cfg s0` as an abstract invariant: reads are always harmless, inserts and removals are
    harmless at accepted field-only paths. -/
def protInv (cfg : List RO) (s0 : St) : Inv where
  J := Prot cfg s0
  G := fun _ => True
  W := fun x => okTarget cfg x = true
  D := fun x => okTarget cfg x = true
  stable := fun _ _ he hm _ hs => prot_congr he hm hs
  get := fun s m p _ hs => prot_congr (targetGet_target s m p).1 (targetGet_target s m p).2 hs
  ins := by
    intro s s' m p v hw hs hi
    rcases targetInsert_spec s s' m p v hi with ⟨he, hm⟩ | ⟨h1, h2⟩
    · exact prot_congr he hm hs
    · refine prot_write hw hs h2 fun hp q hd hq sp => ?_
      rw [h1]
      exact ⟨insert_preserves p _ q v hd hp hq, insert_spine p _ q v hd hp hq sp⟩
  rem := by
    intro s m p c hd hs
    rcases targetRemove_spec s m p c with ⟨he, hm⟩ | ⟨h1, h2⟩
    · exact prot_congr he hm hs
    · refine prot_write hd hs h2 fun hp q hdv hq sp => ?_
      rw [h1]
      exact remove_preserves (tgtOf s m) p q c hdv hp hq sp

theorem prot_init (cfg : List RO) (s : St) (hev : s.event.Sorted = true)
    (hmd : s.metadata.Sorted = true) : Prot cfg s s := by
  intro ro _ _ _
  refine ⟨rfl, spineOK_of_sorted _ _ ?_⟩
  show (tgtOf s _).Sorted = true
  unfold tgtOf
  split
  · exact hmd
  · exact hev

theorem cov_of_accepts (cfg : List RO) (s0 : St) (prog : Exprs)
    (hacc : acceptsFieldProg cfg prog = true) : CovS (protInv cfg s0) prog := by
  unfold acceptsFieldProg writeTargets at hacc
  rw [List.all_eq_true] at hacc
  exact ⟨fun _ _ => trivial, fun x hx => hacc x (List.mem_append_left _ hx),
    fun x hx => hacc x (List.mem_append_right _ hx)⟩

/-- **Read-only paths are never modified** (field-only fragment, recursive entries), whatever the
    outcome of the run. -/
theorem run_preserves_readonly (cfg : List RO) (prog : Exprs) (s : St)
    (hacc : acceptsFieldProg cfg prog = true)
    (hev : s.event.Sorted = true) (hmd : s.metadata.Sorted = true)
    (ro : RO) (hro : ro ∈ cfg) (hrec : ro.recursive = true) (hf : fieldOnly ro.path = true) :
    (tgtOf (run prog s).2 ro.isMeta).get ro.path = (tgtOf s ro.isMeta).get ro.path :=
  (run_inv (protInv cfg s) prog (cov_of_accepts cfg s prog hacc) trivial s (prot_init cfg s hev hmd)
    ro hro hrec hf).1

theorem run_preserves_readonly_event (cfg : List RO) (prog : Exprs) (s : St)
    (hacc : acceptsFieldProg cfg prog = true)
    (hev : s.event.Sorted = true) (hmd : s.metadata.Sorted = true)
    (p : Path) (hro : RO.mk false p true ∈ cfg) (hf : fieldOnly p = true) :
    (run prog s).2.event.get p = s.event.get p :=
  run_preserves_readonly cfg prog s hacc hev hmd _ hro rfl hf

theorem run_preserves_readonly_metadata (cfg : List RO) (prog : Exprs) (s : St)
    (hacc : acceptsFieldProg cfg prog = true)
    (hev : s.event.Sorted = true) (hmd : s.metadata.Sorted = true)
    (p : Path) (hro : RO.mk true p true ∈ cfg) (hf : fieldOnly p = true) :
    (run prog s).2.metadata.get p = s.metadata.get p :=
  run_preserves_readonly cfg prog s hacc hev hmd _ hro rfl hf

/-- … and so is every location below a recursive read-only path (any segments below it). -/
theorem run_preserves_readonly_below (cfg : List RO) (prog : Exprs) (s : St)
    (hacc : acceptsFieldProg cfg prog = true)
    (hev : s.event.Sorted = true) (hmd : s.metadata.Sorted = true)
    (ro : RO) (hro : ro ∈ cfg) (hrec : ro.recursive = true) (hf : fieldOnly ro.path = true) (q : Path) :
    (tgtOf (run prog s).2 ro.isMeta).get (ro.path ++ q) = (tgtOf s ro.isMeta).get (ro.path ++ q) := by
  have h := run_preserves_readonly cfg prog s hacc hev hmd ro hro hrec hf
  unfold Value.get at h ⊢
  rw [getOpt_append, getOpt_append, h]

/-! non-vacuity of `run_preserves_readonly`: `.a.b` read-only (recursive); the program
    `.a.c = 1; del(.a.d, compact: true); del(.x.y, compact: true)` passes the check, runs on
    `{"a": {"b": 7, "d": 8}, "x": {"y": 1}}` to `{"a": {"b": 7, "c": 1}}` — it writes and removes
    siblings of the read-only location and compaction deletes the emptied `.x`. -/

def exCfg : List RO := [⟨false, [.field [97], .field [98]], true⟩]

def exProg : Exprs :=
  .cons (.asg (.external false [.field [97], .field [99]]) (.lit (.int 1)))
    (.cons (.delExt false [.field [97], .field [100]] true (.lit (.bool true)))
      (.cons (.delExt false [.field [120], .field [121]] true (.lit (.bool true))) .nil))

def exS : St :=
  { vars := [],
    event := .obj (.cons [97] (.obj (.cons [98] (.int 7) (.cons [100] (.int 8) .nil)))
      (.cons [120] (.obj (.cons [121] (.int 1) .nil)) .nil)),
    metadata := .obj .nil, faults := [], ops := 0, log := [], errs := [] }

example : acceptsFieldProg exCfg exProg = true ∧ exS.event.Sorted = true ∧ exS.metadata.Sorted = true ∧
    (run exProg exS).2.event =
      .obj (.cons [97] (.obj (.cons [98] (.int 7) (.cons [99] (.int 1) .nil))) .nil) ∧
    (run exProg exS).2.event.get [.field [97], .field [98]] = some (.int 7) := by decide +kernel

/-- non-vacuity of `accepted_diverges` / `value_insert_preserves` -/
example : isReadOnly [RO.mk false [.field [97], .field [98]] true] false [.field [97], .field [99]] = false ∧
    C18.diverge [.field [97], .field [99]] [.field [97], .field [98]] = true := by decide +kernel

end C15
