/-
  C11 — Arithmetic follows the documented numeric semantics.
  Model: VrlModel/Arith.lean (`try_add/sub/mul/div/rem`, `float_result`) over the soft-float
  VrlModel/F64.lean.  Spec: VrlModel/C11.lean (`expected`: integers through `BitVec 64`, strings
  through `List`, floats through the IEEE operations of `F64`; `model op` = the code's model).
  Helper lemmas: VrlProofs/Lemmas/{F64,Arith}.lean (`C11.model_shape`: what an operator can answer at all).

  Clause by clause: integer `+ - *` wrap to the `i64` congruent mod 2^64; `/` fails with DivideByZero
  iff the divisor is 0 / ±0.0 and otherwise yields a float; an integer mixed with a float is converted
  first; `+` concatenates strings, `null` acting as the empty string; `s * n` repeats `s` max(n,0)
  times unless the result exceeds isize::MAX bytes, where the code panics (finding class `D_capacity`,
  Witness/C11.lean `repeat_capacity_witness`), and nothing else panics; a float result is never NaN,
  the NaN-producing operand pairs (∞−∞, 0·∞, ∞/∞, ∞ mod y) are exactly those that fail with NanFloat;
  the remainder is truncated.  `expected_sound_partial`: all of it against the Spec `expected`.
-/
import VrlProofs.Lemmas.Arith

namespace C11
open Arith

theorem int_add (a b : Int) : tryAdd (.int a) (.int b) = .ok (.int (bv a + bv b).toInt) := by
  simp [tryAdd, wrap64, bv, BitVec.toInt_add, BitVec.toInt_ofInt, Int.bmod_add_bmod, Int.add_bmod_bmod]

theorem int_sub (a b : Int) : trySub (.int a) (.int b) = .ok (.int (bv a - bv b).toInt) := by
  simp [trySub, wrap64, bv, BitVec.toInt_sub, BitVec.toInt_ofInt, Int.bmod_sub_bmod, Int.sub_bmod_bmod]

theorem int_mul (a b : Int) : tryMul (.int a) (.int b) = .ok (.int (bv a * bv b).toInt) := by
  simp [tryMul, wrap64, bv, BitVec.toInt_mul, BitVec.toInt_ofInt, Int.bmod_mul_bmod, Int.mul_bmod_bmod]

/-- with `wrap64_congr`: `wrap64 x` is the `i64` congruent to `x` modulo 2^64 -/
theorem wrap64_range (x : Int) : inI64 (wrap64 x) = true := by
  have h1 := Int.le_bmod (x := x) (m := 18446744073709551616) (by decide)
  have h2 := Int.bmod_lt (x := x) (m := 18446744073709551616) (by decide)
  rw [inI64_iff]
  unfold wrap64
  omega

theorem wrap64_congr (x : Int) : (wrap64 x - x) % 18446744073709551616 = 0 :=
  Int.emod_eq_emod_iff_emod_sub_eq_zero.1 Int.bmod_emod

theorem wrap64_id (x : Int) (h : inI64 x = true) : wrap64 x = x := by
  rw [inI64_iff] at h
  exact Int.bmod_eq_of_le (by omega) (by omega)

/-- integer `+`, `-`, `*` (`i64::wrapping_add`, `wrapping_sub`, `wrapping_mul`): the exact result, then
    `wrap64`. -/
theorem int_ops_wrap (a b : Int) :
    tryAdd (.int a) (.int b) = .ok (.int (wrap64 (a + b))) ∧
    trySub (.int a) (.int b) = .ok (.int (wrap64 (a - b))) ∧
    tryMul (.int a) (.int b) = .ok (.int (wrap64 (a * b))) :=
  ⟨rfl, rfl, rfl⟩

/-- is `b` a numeric zero (`0`, `0.0`, `-0.0`)? -/
def numZero : Value → Bool
  | .int i => decide (i = 0)
  | .float r => F64.isZero r
  | _ => false

/-- `/` fails with `DivideByZero` exactly when the divisor is `0`, `0.0` or `-0.0`, whatever the
    dividend, a non-numeric one included: `try_div` tests the divisor first. -/
theorem div_by_zero_iff (a b : Value) (hb : C10.floatsOK b = true) :
    tryDiv a b = .err .divideByZero ↔ numZero b = true := by
  unfold tryDiv
  split
  · split
    · simp [numZero, *]
    · -- past the zero test every arm is a `float_result` (NanFloat at worst) or `Div`
      refine iff_of_false (fun h => ?_) (by simpa [numZero])
      split at h <;> first | cases floatResult_eq_err h | cases h
  · rw [F64.eq_zero]
    split
    · simp [numZero, *]
    · refine iff_of_false (fun h => ?_) ‹_›
      split at h <;> first | cases floatResult_eq_err h | cases h
  · refine iff_of_false nofun ?_
    unfold numZero
    split <;> simp_all

/-- the clause "`/` always yields a float": whatever `/` returns successfully is a float, and not NaN. -/
theorem div_yields_float (a b v : Value) (h : tryDiv a b = .ok v) :
    ∃ r, v = .float r ∧ F64.isNaN r = false := by
  cases (show model .div a b = _ from h) ▸ model_shape .div a b with
  | float r hr => exact ⟨r, rfl, hr⟩
  | int _ hd => exact absurd rfl hd
  | bytes _ hs => exact hs.elim nofun nofun

/-- `a / b` on two integers with `b ≠ 0` never fails: it is the `f64` quotient of the two converted
    integers (`lhs as f64 / rhs as f64`), which is never NaN. -/
theorem int_div_int (a b : Int) (ha : inI64 a = true) (hb : inI64 b = true) (h0 : b ≠ 0) :
    ∃ r, tryDiv (.int a) (.int b) = .ok (.float r) ∧ F64.div (F64.ofInt a) (F64.ofInt b) = some r := by
  have na := inI64_natAbs a ha
  cases hd : F64.div (F64.ofInt a) (F64.ofInt b) with
  | none =>
    rw [F64.div_none_iff _ _ (F64.ofInt_notNaN a) (F64.ofInt_notNaN b)] at hd
    rw [F64.ofInt_isInf a na, F64.isZero_ofInt b] at hd
    simp [h0] at hd
  | some r =>
    refine ⟨r, ?_, rfl⟩
    simp [tryDiv, h0, hd, floatResult_some r (F64.div_notNaN _ _ _ hd)]

theorem mixed_is_float_op (op : Op5) (a : Int) (y : Nat) :
    model op (.int a) (.float y) = model op (.float (F64.ofInt a)) (.float y) ∧
    model op (.float y) (.int a) = model op (.float y) (.float (F64.ofInt a)) := by
  have hz : F64.eq (F64.ofInt a) 0 = decide (a = 0) := by rw [F64.eq_zero, F64.isZero_ofInt]
  -- only the zero test of an integer divisor looks at the integer itself
  cases op
  · exact ⟨rfl, rfl⟩
  · exact ⟨rfl, rfl⟩
  · exact ⟨rfl, rfl⟩
  · exact ⟨rfl, by simp [model, tryDiv, hz]⟩
  · exact ⟨rfl, by simp [model, tryRem, hz]⟩

theorem add_strings (s t : List Nat) :
    tryAdd (.bytes s) (.bytes t) = .ok (.bytes (s ++ t)) ∧
    tryAdd (.bytes s) .null = .ok (.bytes (s ++ [])) ∧
    tryAdd .null (.bytes t) = .ok (.bytes ([] ++ t)) :=
  ⟨rfl, by rw [List.append_nil]; rfl, rfl⟩

theorem replicateBytes_eq (s : List Nat) (n : Int) :
    replicateBytes s n = (List.replicate (max n 0).toNat s).flatten := by
  unfold replicateBytes
  split
  · rename_i h
    have : s = [] := by simpa using h
    subst this; simp
  · rfl

theorem mul_repeat_partial (s : List Nat) (n : Int) (h : D_capacity s n = false) :
    tryMul (.bytes s) (.int n) = .ok (.bytes (replicateBytes s n)) ∧
    tryMul (.int n) (.bytes s) = .ok (.bytes (replicateBytes s n)) := by
  simp [tryMul, repeatBytes_spec, h]

/-- `s * n` and `n * s` panic (`[u8]::repeat`, "capacity overflow") exactly on the finding class
    `D_capacity`: a result above `isize::MAX` bytes. -/
theorem mul_repeat_panics_iff (s : List Nat) (n : Int) :
    (tryMul (.bytes s) (.int n) = .panic ↔ D_capacity s n = true) ∧
    (tryMul (.int n) (.bytes s) = .panic ↔ D_capacity s n = true) := by
  simp only [tryMul, repeatBytes_spec]
  cases D_capacity s n <;> simp

/-- nothing else in the arithmetic panics: of `+ - * / mod` only a string repetition of the class
    `D_capacity` does. -/
theorem panic_only_repeat (op : Op5) (a b : Value) (h : model op a b = .panic) :
    op = .mul ∧ D_capacityV a b = true := by
  have s := model_shape op a b
  rw [h] at s
  cases s
  exact ⟨‹_›, ‹_›⟩

theorem never_nan (op : Op5) (a b : Value) (r : Nat) (h : model op a b = .ok (.float r)) :
    F64.isNaN r = false := by
  have s := model_shape op a b
  rw [h] at s
  cases s
  assumption

theorem f64op_notNaN (op : Op5) (x y r : Nat) (h : f64op op x y = some r) : F64.isNaN r = false := by
  cases op
  · exact F64.add_notNaN _ _ _ h
  · exact F64.sub_notNaN _ _ _ h
  · exact F64.mul_notNaN _ _ _ h
  · exact F64.div_notNaN _ _ _ h
  · exact F64.rem_notNaN _ _ _ h

theorem ofFloat_eq (o : Option Nat) : ofFloat o = floatResult o := rfl

theorem floatSpec_model (op : Op5) (x y : Nat) : model op (.float x) (.float y) = floatSpec op x y := by
  -- the code tests `y == 0.0`, the Spec `isZero y`
  have he := F64.eq_zero y
  cases op
  · rfl
  · rfl
  · rfl
  · simp [model, floatSpec, tryDiv, he]; rfl
  · simp [model, floatSpec, tryRem, he]; rfl

theorem nanFloat_iff (op : Op5) (x y : Nat) (hz : op = .div ∨ op = .mod → F64.isZero y = false) :
    model op (.float x) (.float y) = .err .nanFloat ↔ f64op op x y = none := by
  rw [floatSpec_model op x y, floatSpec, if_neg (fun h => by simp [hz h.1] at h), ofFloat_eq]
  cases ho : f64op op x y with
  | none => exact iff_of_true rfl rfl
  | some r => rw [floatResult_some r (f64op_notNaN op x y r ho)]; exact iff_of_false nofun nofun

/-- `x + y` on floats fails with `NanFloat` exactly for `∞ + −∞` (either order). -/
theorem float_add_fails_iff (x y : Nat) (hx : F64.isNaN x = false) (hy : F64.isNaN y = false) :
    tryAdd (.float x) (.float y) = .err .nanFloat ↔
      (F64.isInf x = true ∧ F64.isInf y = true ∧ F64.signBit x ≠ F64.signBit y) :=
  (nanFloat_iff .add x y (by simp)).trans (F64.add_none_iff x y hx hy)

/-- `x * y` on floats fails with `NanFloat` exactly for `0 · ∞` (either order, any signs). -/
theorem float_mul_fails_iff (x y : Nat) (hx : F64.isNaN x = false) (hy : F64.isNaN y = false) :
    tryMul (.float x) (.float y) = .err .nanFloat ↔
      ((F64.isInf x = true ∧ F64.isZero y = true) ∨ (F64.isZero x = true ∧ F64.isInf y = true)) :=
  (nanFloat_iff .mul x y (by simp)).trans (F64.mul_none_iff x y hx hy)

/-- `x / y` on floats, `y` not a zero (a zero is `DivideByZero`), fails with `NanFloat` exactly for
    `∞ / ∞`. -/
theorem float_div_fails_iff (x y : Nat) (hx : F64.isNaN x = false) (hy : F64.isNaN y = false)
    (hz : F64.isZero y = false) :
    tryDiv (.float x) (.float y) = .err .nanFloat ↔ (F64.isInf x = true ∧ F64.isInf y = true) := by
  rw [show tryDiv _ _ = model .div _ _ from rfl, nanFloat_iff .div x y (fun _ => hz),
    show f64op .div = F64.div from rfl, F64.div_none_iff x y hx hy]
  simp [hz]

/-- `mod(x, y)` on floats, `y` not a zero, fails with `NanFloat` exactly for an infinite dividend. -/
theorem float_rem_fails_iff (x y : Nat) (hx : F64.isNaN x = false) (hy : F64.isNaN y = false)
    (hz : F64.isZero y = false) :
    tryRem (.float x) (.float y) = .err .nanFloat ↔ F64.isInf x = true := by
  rw [show tryRem _ _ = model .mod _ _ from rfl, nanFloat_iff .mod x y (fun _ => hz),
    show f64op .mod = F64.rem from rfl, F64.rem_none_iff x y hx hy]
  simp [hz]

theorem int_rem (a b : Int) :
    tryRem (.int a) (.int b) = if b = 0 then .err .divideByZero else .ok (.int (Int.tmod a b)) :=
  rfl

/-- `i64::wrapping_rem` -/
theorem int_rem_sign (a b : Int) (hb : b ≠ 0) :
    b * Int.tdiv a b + Int.tmod a b = a ∧ (Int.tmod a b).natAbs < b.natAbs ∧
    (0 ≤ a → 0 ≤ Int.tmod a b) ∧ (a ≤ 0 → Int.tmod a b ≤ 0) ∧
    (inI64 a = true → inI64 (Int.tmod a b) = true) := by
  obtain ⟨h2, h3, h4⟩ := tmod_bounds a b hb
  have h5 : (Int.tmod a b).natAbs ≤ a.natAbs := Int.natAbs_tmod a b ▸ Nat.mod_le _ _
  refine ⟨Int.mul_tdiv_add_tmod a b, h2, h3, h4, fun ha => ?_⟩
  rw [inI64_iff] at ha ⊢
  omega

/-- `i64::MIN % -1` is `0` (no overflow, no panic). -/
theorem int_rem_min_neg_one :
    tryRem (.int (-9223372036854775808)) (.int (-1)) = .ok (.int 0) := by decide

/-- `mod(x, y)` on floats is the truncated remainder (Rust `%`): a result has the sign of the dividend. -/
theorem float_rem_sign (x y r : Nat) (h : tryRem (.float x) (.float y) = .ok (.float r)) :
    F64.signBit r = F64.signBit x := by
  simp only [tryRem] at h
  split at h
  · cases h
  · obtain ⟨_, ho, _, hv⟩ := floatResult_eq_ok h
    cases hv
    exact F64.rem_sign _ _ _ ho

/-- The model (hence, through the correspondence, the code) meets the documented semantics on every
    operand pair the property speaks about, except the repeat sizes of class `D_capacity`. -/
theorem expected_sound_partial (op : Op5) (a b : Value) (e : Res Value)
    (ha : scalarOK a = true) (hb : scalarOK b = true)
    (hD : op = .mul → D_capacityV a b = false)
    (he : expected op a b = some e) : model op a b = e := by
  revert he
  -- the arms of `expected` in its order: integer `+ - * / mod`, float ⊙ float, integer ⊙ float,
  -- float ⊙ integer, the three string sums, the two repetitions
  fun_cases expected op a b <;> intro he <;> cases he
  · exact int_add _ _
  · exact int_sub _ _
  · exact int_mul _ _
  · rename_i x y
    split
    · simp [model, tryDiv, *]
    · rw [← floatSpec_model, ← (mixed_is_float_op .div y _).2]
      simp [model, tryDiv, *]
  · rfl
  · exact floatSpec_model ..
  · exact (mixed_is_float_op ..).1.trans (floatSpec_model ..)
  · exact (mixed_is_float_op ..).2.trans (floatSpec_model ..)
  · exact (add_strings _ _).1
  · exact (add_strings _ []).2.1
  · exact (add_strings [] _).2.2
  · exact (mul_repeat_partial _ _ (hD rfl)).1
  · exact (mul_repeat_partial _ _ (hD rfl)).2

end C11
