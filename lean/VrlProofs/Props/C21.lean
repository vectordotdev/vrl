/-
  C21 — JSON encoding round-trips.

  Model: `VrlModel/Json.lean` (`encodeJson` = `encode_json`, `parseJson` = `parse_json` without
  `max_depth`, `serToString`/`deFromSlice` = `serde_json::to_string{,_pretty}(&Value)` /
  `serde_json::from_slice::<Value>`).  Float printing and number → float conversion are the
  parameters `P.showF`, `P.parseF` (`zmij`, `serde_json`); their laws are hypotheses.

  Full-strength statement (`Roundtrip`): for every JSON-representable value, both printer modes and
  both `lossy` settings, `parse_json(encode_json(v))` is `v` up to one ulp in each float.  On the
  pinned tree it is false for two reasons, both witnessed in `Witness/C21.lean` and re-observed on
  the implementation: `serde_json` refuses documents nested 128 deep or more (`D_json_recursion_limit`),
  and its default float conversion is off by 2 ulp on ~0.2 % of doubles (`D_json_float_2ulp`).
  The `_partial` theorems carry exactly these two restrictions: `depth v ≤ 127`, and the float law
  as a hypothesis on the primitives.  The first is exact: `serde_roundtrip_depth` says that a
  representable value nested 128 deep or more, whose floats are printed as float tokens that the
  conversion accepts (`FloatTextOK`), is always refused.
-/
import VrlProofs.Lemmas.JsonValid

namespace C21
open Json

/-- precise float parsing: the printed text is a float token and converts back to the same double -/
def FloatLawExact (P : Prims) : Prop :=
  ∀ x, x < F64.p64 → F64.isFinite x = true → FloatTextOK P x ∧ P.parseF (P.showF x) = some x

/-- default float parsing as the property allows it: back within `k` units in the last place -/
def FloatLawUlp (k : Nat) (P : Prims) : Prop :=
  ∀ x, x < F64.p64 → F64.isFinite x = true → FloatTextOK P x ∧ ulpDist x (readBack P x) ≤ k

theorem FloatLawExact.ulp {P : Prims} (h : FloatLawExact P) (k : Nat) : FloatLawUlp k P :=
  fun x h1 h2 => ⟨(h x h1 h2).1, by simp [readBack, (h x h1 h2).2, ulpDist]⟩

/-- the property at full strength (false of the pinned tree, see the header) -/
def Roundtrip (P : Prims) : Prop :=
  ∀ (pretty lossy : Bool) (v : Value), jsonRepr v = true →
    ∃ w, parseJson P lossy (encodeJson P pretty v) = some w ∧ approx 1 v w = true

/-- the same through serde directly -/
def SerdeRoundtrip (P : Prims) : Prop :=
  ∀ (pretty : Bool) (v : Value), jsonRepr v = true →
    ∃ w, deFromSlice P (serToString P pretty v) = some w ∧ approx 1 v w = true

/-- serde path, complete: for a representable `v` whose floats satisfy `FloatTextOK`,
    `from_slice(to_string(v))` is `v` with each float replaced by its read-back when `v` nests at
    most 127 deep, and an error otherwise (`remaining_depth` is 128). -/
theorem serde_roundtrip_depth (P : Prims) (pretty : Bool) (v : Value)
    (hr : jsonRepr v = true) (hf : AllFloats (FloatTextOK P) v) :
    deFromSlice P (serToString P pretty v) =
      if depth v ≤ 127 then some (mapFloats (readBack P) v) else none := by
  have h := parse_pv P false pretty v 0 (fuelFor (pv P pretty 0 v)) 128 [] hr hf (by omega) rfl
    (by simp only [fuelFor, List.append_nil]; omega)
  rw [List.append_nil] at h
  rw [deFromSlice, deFrom, serToString, h]
  by_cases hd : depth v ≤ 127
  · rw [if_pos hd, if_pos (by omega)]; rfl
  · rw [if_neg hd, if_neg (by omega)]

/-- "general" in the float primitives: the `_partial` theorems put a float law for `hf` -/
theorem serde_roundtrip_general (P : Prims) (pretty : Bool) (v : Value)
    (hr : jsonRepr v = true) (hf : AllFloats (FloatTextOK P) v) (hd : depth v ≤ 127) :
    deFromSlice P (serToString P pretty v) = some (mapFloats (readBack P) v) :=
  (serde_roundtrip_depth P pretty v hr hf).trans (if_pos hd)

/-- `parse_json(encode_json(v, pretty), lossy)` is `from_slice(to_string(v))`: the lossy conversion
    and the BOM stripping leave the printer's output alone. -/
theorem parseJson_encodeJson (P : Prims) (pretty lossy : Bool) (v : Value)
    (hr : jsonRepr v = true) (hf : AllFloats (FloatTextOK P) v) :
    parseJson P lossy (encodeJson P pretty v) = deFromSlice P (serToString P pretty v) := by
  have hh := pv_head P pretty 0 v hr hf
  cases lossy
  · simp only [parseJson, encodeJson, serToString, Bool.false_eq_true, ↓reduceIte]
    rw [stripBomBytes_start _ hh]
  · simp only [parseJson, encodeJson, serToString, ↓reduceIte]
    rw [utf8Lossy_valid _ (valid_pv P pretty v 0 hr hf), stripBomStr_start _ hh]

theorem parse_encode_general (P : Prims) (pretty lossy : Bool) (v : Value)
    (hr : jsonRepr v = true) (hf : AllFloats (FloatTextOK P) v) (hd : depth v ≤ 127) :
    parseJson P lossy (encodeJson P pretty v) = some (mapFloats (readBack P) v) := by
  rw [parseJson_encodeJson P pretty lossy v hr hf, serde_roundtrip_general P pretty v hr hf hd]

/-- the serde path and `parse_json ∘ encode_json` agree wherever the theorems apply -/
theorem serde_same (P : Prims) (pretty lossy : Bool) (v : Value)
    (hr : jsonRepr v = true) (hf : AllFloats (FloatTextOK P) v) (hd : depth v ≤ 127) :
    parseJson P lossy (encodeJson P pretty v) = deFromSlice P (serToString P pretty v) := by
  rw [parse_encode_general P pretty lossy v hr hf hd, serde_roundtrip_general P pretty v hr hf hd]

/-! ### float-free values: exact round trip, no assumption on the float primitives -/

theorem roundtrip_floatfree_partial (P : Prims) (pretty lossy : Bool) (v : Value)
    (hr : jsonRepr v = true) (hff : floatFree v = true) (hd : depth v ≤ 127) :
    parseJson P lossy (encodeJson P pretty v) = some v := by
  rw [parse_encode_general P pretty lossy v hr (allFloats_of_floatFree _ v hff) hd,
    mapFloats_id _ v (allFloats_of_floatFree _ v hff)]

theorem serde_roundtrip_floatfree_partial (P : Prims) (pretty : Bool) (v : Value)
    (hr : jsonRepr v = true) (hff : floatFree v = true) (hd : depth v ≤ 127) :
    deFromSlice P (serToString P pretty v) = some v := by
  rw [serde_roundtrip_general P pretty v hr (allFloats_of_floatFree _ v hff) hd,
    mapFloats_id _ v (allFloats_of_floatFree _ v hff)]

/-! ### values with floats, precise float parsing -/

theorem readBack_exact (P : Prims) (hlaw : FloatLawExact P) (v : Value) (hr : jsonRepr v = true) :
    AllFloats (FloatTextOK P) v ∧ mapFloats (readBack P) v = v :=
  ⟨allFloats_of_repr _ (fun x h1 h2 => (hlaw x h1 h2).1) v hr,
    mapFloats_id _ v (allFloats_of_repr _ (fun x h1 h2 => by simp [readBack, (hlaw x h1 h2).2]) v hr)⟩

theorem roundtrip_precise_partial (P : Prims) (hlaw : FloatLawExact P) (pretty lossy : Bool) (v : Value)
    (hr : jsonRepr v = true) (hd : depth v ≤ 127) :
    parseJson P lossy (encodeJson P pretty v) = some v := by
  obtain ⟨hf, hid⟩ := readBack_exact P hlaw v hr
  rw [parse_encode_general P pretty lossy v hr hf hd, hid]

theorem serde_roundtrip_precise_partial (P : Prims) (hlaw : FloatLawExact P) (pretty : Bool) (v : Value)
    (hr : jsonRepr v = true) (hd : depth v ≤ 127) :
    deFromSlice P (serToString P pretty v) = some v := by
  obtain ⟨hf, hid⟩ := readBack_exact P hlaw v hr
  rw [serde_roundtrip_general P pretty v hr hf hd, hid]

/-! ### values with floats, float parsing good to `k` ulp (the property allows `k = 1`) -/

theorem readBack_ulp (P : Prims) (k : Nat) (hlaw : FloatLawUlp k P) (v : Value) (hr : jsonRepr v = true) :
    AllFloats (FloatTextOK P) v ∧ approx k v (mapFloats (readBack P) v) = true :=
  ⟨allFloats_of_repr _ (fun x h1 h2 => (hlaw x h1 h2).1) v hr,
    approx_mapFloats k _ v (allFloats_of_repr _ (fun x h1 h2 => (hlaw x h1 h2).2) v hr)⟩

theorem roundtrip_ulp_partial (P : Prims) (k : Nat) (hlaw : FloatLawUlp k P) (pretty lossy : Bool) (v : Value)
    (hr : jsonRepr v = true) (hd : depth v ≤ 127) :
    ∃ w, parseJson P lossy (encodeJson P pretty v) = some w ∧ approx k v w = true :=
  have ⟨hf, ha⟩ := readBack_ulp P k hlaw v hr
  ⟨_, parse_encode_general P pretty lossy v hr hf hd, ha⟩

theorem serde_roundtrip_ulp_partial (P : Prims) (k : Nat) (hlaw : FloatLawUlp k P) (pretty : Bool) (v : Value)
    (hr : jsonRepr v = true) (hd : depth v ≤ 127) :
    ∃ w, deFromSlice P (serToString P pretty v) = some w ∧ approx k v w = true :=
  have ⟨hf, ha⟩ := readBack_ulp P k hlaw v hr
  ⟨_, serde_roundtrip_general P pretty v hr hf hd, ha⟩

/-- the oracle evaluated by the check (`roundTripClass`) reports nothing where the theorems apply -/
theorem oracle_silent (P : Prims) (hlaw : FloatLawUlp 1 P) (pretty lossy : Bool) (v : Value)
    (hd : depth v ≤ 127) :
    roundTripClass v (parseJson P lossy (encodeJson P pretty v)) = none := by
  unfold roundTripClass
  by_cases hr : jsonRepr v = true
  · obtain ⟨w, hw, ha⟩ := roundtrip_ulp_partial P 1 hlaw pretty lossy v hr hd
    simp [hr, hw, ha]
  · simp [hr]

/-- a document that opens 128 brackets in a row is rejected, whatever follows (recursion limit) -/
theorem deep_rejected (P : Prims) (X : List Nat) :
    deFromSlice P (List.replicate 128 91 ++ X) = none := by
  unfold deFromSlice deFrom
  rw [parseValue_deep P.parseF false 127 128 _ X (Nat.le_refl _)]

end C21
