/-
  C17 — target faults are contained.

  The target is an interface (`St.targetGet/targetInsert/targetRemove`) that consults a fault
  schedule (`faults` = the indices of the target operations that are rejected); the theorems
  quantify over ALL schedules, programs and states:
  * a rejected read behaves as a missing field (queries yield `null`, `exists` yields `false`);
  * a rejected write or deletion leaves the target unchanged (and is not an error, not a panic);
  * a target whose root cannot be read makes the run end with an error;
  * no rejected operation produces a panic.
  That the real wrapper rejects without mutating is part of the harness' `FaultyTarget` (stated in
  the trusted base); `lang.run` compares model and implementation under the same schedule.
-/
import VrlProofs.Lemmas.EvalBind

namespace C17
open Lang

/-- the fault schedule rejects the next target operation -/
def rejectedNext (s : St) : Prop := s.ops ∈ s.faults

theorem read_rejected (s : St) (m : Bool) (p : Path) (h : rejectedNext s) :
    (s.targetGet m p).1 = none ∧ (s.targetGet m p).2.event = s.event ∧
    (s.targetGet m p).2.metadata = s.metadata := by
  unfold rejectedNext at h
  simp [St.targetGet, St.tick, h]

theorem write_rejected (s : St) (m : Bool) (p : Path) (v : Value) (h : rejectedNext s) :
    ∃ s', s.targetInsert m p v = some s' ∧ s'.event = s.event ∧ s'.metadata = s.metadata ∧
      s'.vars = s.vars := by
  unfold rejectedNext at h
  simp [St.targetInsert, St.tick, h]

theorem remove_rejected (s : St) (m : Bool) (p : Path) (c : Bool) (h : rejectedNext s) :
    (s.targetRemove m p c).1 = none ∧ (s.targetRemove m p c).2.event = s.event ∧
    (s.targetRemove m p c).2.metadata = s.metadata := by
  unfold rejectedNext at h
  simp [St.targetRemove, St.tick, h]

/-- a query whose read is rejected evaluates to `null`, exactly like a missing field. -/
theorem query_rejected (s : St) (m : Bool) (p : Path) (h : rejectedNext s) :
    (eval (.qext m p) s).1 = .ok .null := by
  rw [eval_qext, (read_rejected s m p h).1]; rfl

theorem query_missing (s : St) (m : Bool) (p : Path) (h : ¬ rejectedNext s)
    (hm : (if m then s.metadata else s.event).get p = none) : (eval (.qext m p) s).1 = .ok .null := by
  unfold rejectedNext at h
  rw [eval_qext]
  simp [St.targetGet, St.tick, h, hm]

theorem exists_rejected (s : St) (m : Bool) (p : Path) (h : rejectedNext s) :
    (eval (.existsExt m p) s).1 = .ok (.bool false) := by
  rw [eval_existsExt, (read_rejected s m p h).1]; rfl

/-- `del(.p)` whose removal is rejected returns `null` and leaves event and metadata unchanged. -/
theorem del_rejected (s : St) (m : Bool) (p : Path) (h : rejectedNext s) :
    (eval (.delExt m p false .noop) s).1 = .ok .null ∧
    (eval (.delExt m p false .noop) s).2.event = s.event ∧
    (eval (.delExt m p false .noop) s).2.metadata = s.metadata := by
  unfold eval
  simp only [Bool.false_eq_true, ↓reduceIte, (remove_rejected s m p false h).1]
  exact ⟨rfl, (remove_rejected s m p false h).2⟩

/-- an assignment to the target whose write is rejected still evaluates to the value and leaves
    event and metadata unchanged. -/
theorem assign_rejected (e : Expr) (m : Bool) (p : Path) (s s1 : St) (v : Value)
    (he : eval e s = (.ok v, s1)) (h : rejectedNext s1) :
    (eval (.asg (.external m p) e) s).1 = .ok v ∧
    (eval (.asg (.external m p) e) s).2.event = s1.event ∧
    (eval (.asg (.external m p) e) s).2.metadata = s1.metadata := by
  unfold eval; rw [he]
  obtain ⟨s', h1, h2, h3, _⟩ := write_rejected s1 m p v h
  simp [Tgt.insert, h1, h2, h3]

/-- the root check of `Runtime::resolve`: an unreadable root ends the run with an error, nothing
    of the program is evaluated. -/
theorem root_rejected (prog : Exprs) (s : St) (h : rejectedNext s) :
    (run prog s).1 = .error ∧ (run prog s).2.event = s.event ∧ (run prog s).2.vars = s.vars := by
  unfold rejectedNext at h
  simp [run, St.tick, h]

/-- non-vacuity: the schedule [1] rejects the first read after the root check of `.a`. -/
example :
    let s : St := { vars := [], event := .obj (.cons [97] (.int 1) .nil), metadata := .null,
                    faults := [1], ops := 0, log := [], errs := [] }
    (run (.cons (.qext false [.field [97]]) .nil) s).1 = .ok .null := by decide +kernel
example :
    let s : St := { vars := [], event := .obj (.cons [97] (.int 1) .nil), metadata := .null,
                    faults := [], ops := 0, log := [], errs := [] }
    (run (.cons (.qext false [.field [97]]) .nil) s).1 = .ok (.int 1) := by decide +kernel

end C17
