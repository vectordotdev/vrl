/-
  C14 — evaluation is deterministic and thread-safe.

  In the model a run is a *function* `Lang.run : Exprs → St → RunOutcome × St` of the compiled
  program and of the complete input state (event, metadata, runtime variables, fault schedule):
  equal inputs give equal results by `rfl`. The content is therefore (a) what `Runtime::clear`
  must reset for a reused runtime to behave like a fresh one — the runtime state is exactly the
  variable store, `clear` empties it (`run_after_clear`: whatever the history of earlier events,
  including failed runs that left variables behind); (b) schedule independence of threads that
  share only the immutable program and own their runtime and target (`interleaving`: under every
  interleaving each thread's state is the result of its own steps, in its own order). That the real
  `Program` has no hidden shared mutable state (regex caches, lazily initialised tables, …) cannot
  be exhibited by the model: it is exercised by the check (compile twice; fresh vs cleared runtime
  after k earlier events; 8 threads x repeated runs on one shared `Program`) and stated as partial.
-/
import VrlModel.Lang.Eval

namespace C14
open Lang

/-- the part of the state a `Runtime` keeps between events -/
abbrev Vars := List (String × Value)

/-- one event processed by a runtime whose variable store is `vars` -/
def process (prog : Exprs) (vars : Vars) (event metadata : Value) : RunOutcome × Value × Value × Vars :=
  let r := run prog { vars, event, metadata, faults := [], ops := 0, log := [], errs := [] }
  (r.1, r.2.event, r.2.metadata, r.2.vars)

/-- `Runtime::clear` -/
def clear (_ : Vars) : Vars := []

/-- the variable store after a history of events, each followed or not by `clear` -/
def after (vars : Vars) : List (Exprs × Value × Value × Bool) → Vars
  | [] => vars
  | (p, e, m, c) :: rest =>
    let v' := (process p vars e m).2.2.2
    after (if c then clear v' else v') rest

/-- a cleared runtime behaves like a fresh one, whatever it processed before (and whether or not
    it was cleared in between). -/
theorem run_after_clear (hist : List (Exprs × Value × Value × Bool)) (v0 : Vars) (prog : Exprs)
    (event metadata : Value) :
    process prog (clear (after v0 hist)) event metadata = process prog [] event metadata := rfl

theorem deterministic (prog : Exprs) (s t : St) (h : s = t) : run prog s = run prog t := by rw [h]

/-- thread `i` takes one step, every other thread keeps its state -/
def stepAt {S : Type} (f : Nat → S → S) (σ : Nat → S) (i : Nat) : Nat → S :=
  fun j => if j = i then f i (σ j) else σ j

/-- run a schedule (the sequence of thread ids in the order the scheduler picked them) -/
def exec {S : Type} (f : Nat → S → S) : List Nat → (Nat → S) → (Nat → S)
  | [], σ => σ
  | i :: rest, σ => exec f rest (stepAt f σ i)

def iter {S : Type} (g : S → S) : Nat → S → S
  | 0, x => x
  | n + 1, x => iter g n (g x)

/-- under EVERY interleaving, thread `i` ends in the state its own steps produce from its own
    initial state: as many applications of its step as it was scheduled, nothing else. -/
theorem interleaving {S : Type} (f : Nat → S → S) (sched : List Nat) : ∀ (σ : Nat → S) (i : Nat),
    exec f sched σ i = iter (f i) (sched.count i) (σ i) := by
  induction sched with
  | nil => intro σ i; rfl
  | cons k rest ih =>
    intro σ i
    rw [exec, ih]
    by_cases h : k = i
    · subst h
      simp [stepAt, List.count_cons_self, iter]
    · have h' : i ≠ k := fun e => h e.symm
      simp [stepAt, h', List.count_cons_of_ne h]

/-- two schedules that give thread `i` the same number of steps leave it in the same state. -/
theorem schedule_independent {S : Type} (f : Nat → S → S) (s1 s2 : List Nat) (σ : Nat → S) (i : Nat)
    (h : s1.count i = s2.count i) : exec f s1 σ i = exec f s2 σ i := by
  rw [interleaving, interleaving, h]

/-- non-vacuity: two threads, schedule 0 1 0; thread 0 stepped twice, thread 1 once. -/
example : exec (fun i (x : Nat) => x + i + 1) [0, 1, 0] (fun _ => 0) 0 = 2 ∧
          exec (fun i (x : Nat) => x + i + 1) [0, 1, 0] (fun _ => 0) 1 = 2 := by decide

end C14
