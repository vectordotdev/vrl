/-
  C03 – every stdlib function honours its declared signature (for the MODELLED functions `C03.Fn`).

  Model: VrlModel/C03.lean (`declared` = the TypeDef the compiler computes for a call from the kinds
  of its argument expressions, `Fn.returnMask` = `Function::return_kind()`, `model` = `resolve`),
  tied to the real compiler / functions by the correspondence ops `c03.sig`, `c03.decl`, `c03.run`.
  Spec: `Spec.memR` (VrlModel/KindSpec.lean), the membership relation of the C19 theorems, and the
  one the oracle `o.c03.fn` evaluates on the implementation for ALL stdlib functions.

  For a call `F(as)` that the compiler accepts with TypeDef `td` (`declared F as = some td`) and
  every tuple of run-time values `vs` the argument expressions can evaluate to (`Admits as vs`:
  a literal evaluates to itself, a runtime-typed expression of kind `k` to any member of `k`):

    (a) `model E F vs = ok v → v ∈ᵣ td.kind`                     (first half of `SoundAt`)
    (k) `model E F vs = ok v → kind bit of v ∈ F.returnMask`     (second half of `SoundAt`)
    (b) `td.fallible = false → model E F vs ≠ err`               (`InfallibleAt`)

  for every `Env` (third-party primitives). The statements at full strength are `Sound` and
  `Infallible` below; they are FALSE for the unchanged code (witness theorems in
  VrlProofs/Witness/C03.lean, replayed on the implementation by `o.c03.fn`). What holds is
  `sound_partial` / `infallible_partial`: the same statements outside the decidable finding classes
  `soundClass` / `errClass`.
-/
import VrlProofs.Lemmas.C03Coll
import VrlProofs.Lemmas.C03Err

namespace C03
open Spec
open Str (R)

/-- a compiled call together with run-time argument values it can see -/
structure Call (F : Fn) (as : ASlots) (vs : Slots) (td : TD) : Prop where
  /-- literal arguments are well-formed values (object keys strictly increasing: `BTreeMap`) -/
  lits : LitsSorted as = true
  /-- the compiler accepts the call and gives it the TypeDef `td` -/
  decl : declared F as = some td
  /-- each argument expression can evaluate to the corresponding value -/
  adm : Admits as vs = true

/-- clauses (a) and (k) for one call -/
def SoundAt (E : Env) (F : Fn) (as : ASlots) (vs : Slots) (td : TD) : Prop :=
  ∀ v, model E F vs = .ok v → memR v td.kind = true ∧ hasBit F.returnMask (kindBit v) = true

/-- clause (b) for one call -/
def InfallibleAt (E : Env) (F : Fn) (vs : Slots) (td : TD) : Prop :=
  td.fallible = false → model E F vs ≠ .err

/-- **C03 (a)+(k) at full strength** (false for `pop`, `slice`, `compact`, `flatten`, `merge`:
    see the witnesses). -/
def Sound (E : Env) (F : Fn) : Prop :=
  ∀ as vs td, Call F as vs td → SoundAt E F as vs td

/-- **C03 (b) at full strength** (false for `from_entries`, `unflatten`, `encode_base64`, `mod`:
    see the witnesses; for `to_float` it holds since /repo 3677b5b, class `infallible_err:to_float`:
    `W.fixed_to_float`). -/
def Infallible (E : Env) (F : Fn) : Prop :=
  ∀ as vs td, Call F as vs td → InfallibleAt E F vs td

/-! ### table lemmas (`c03.sig` ties the table to `Function::parameters()` / `return_kind()`) -/

/-- every documented return mask is non-empty and only uses value kinds. -/
theorem returnMask_wf (F : Fn) : F.returnMask ≠ 0 ∧ F.returnMask % 2 = 0 ∧ F.returnMask < 1024 := by
  cases F <;> decide +kernel

/-- every parameter accepts at least one kind; required parameters come first. -/
theorem params_wf (F : Fn) :
    (F.params.all fun p => decide (p.mask ≠ 0)) = true ∧
    (F.params.dropWhile (·.required)).all (fun p => !p.required) = true := by
  cases F <;> decide +kernel

theorem admits_cons {as : ASlots} {v : Value} {rest : Slots} (h : Admits as (some v :: rest) = true) :
    ∃ a as', as = some a :: as' ∧ a.admits v = true ∧ Admits as' rest = true := by
  cases as with
  | nil => simp [Admits] at h
  | cons a as' =>
    cases a with
    | none => simp [Admits] at h
    | some a =>
      simp only [Admits, Bool.and_eq_true] at h
      exact ⟨a, as', rfl, h.1, h.2⟩

theorem head_mem {as : ASlots} {v : Value} {rest : Slots} (hl : LitsSorted as = true)
    (ha : Admits as (some v :: rest) = true) : mem v (akind as 0) = true := by
  obtain ⟨a, as', rfl, ha, _⟩ := admits_cons ha
  exact admits_mem (litsSorted_head hl).1 ha

theorem Call.head_mem {F : Fn} {as : ASlots} {v : Value} {rest : Slots} {td : TD}
    (c : Call F as (some v :: rest) td) : mem v (akind as 0) = true :=
  C03.head_mem c.lits c.adm

theorem Call.tail_mem {F : Fn} {as : ASlots} {v w : Value} {rest : Slots} {td : TD}
    (c : Call F as (some v :: some w :: rest) td) : mem w (akind as 1) = true := by
  obtain ⟨a0, as', rfl, _, hadm⟩ := admits_cons c.adm
  obtain ⟨a1, as'', rfl, ha1, _⟩ := admits_cons hadm
  exact admits_mem (litsSorted_head (litsSorted_head c.lits).2).1 ha1

theorem decl_kind {F : Fn} {as : ASlots} {td : TD} (h : declared F as = some td) :
    td.kind = (declaredFn F as).kind := by
  unfold declared at h
  split at h
  · cases h
  · cases h; rfl

/-- the one state a function declares whatever its arguments: its type_def has kind `t.kind`. -/
def Fn.primTag : Fn → Option Tag
  | .string | .toString | .upcase | .downcase | .stripWhitespace | .truncate | .join | .formatInt
  | .encodeBase64 | .decodeBase64 | .encodeBase16 | .decodeBase16 | .encodeJson => some .bytes
  | .int | .length | .strlen | .toInt | .parseInt => some .integer
  | .float | .toFloat | .parseFloat => some .float
  | .bool | .toBool | .isString | .isInteger | .isFloat | .isBoolean | .isNull | .isArray | .isObject
  | .isTimestamp | .isRegex | .isNullish | .isEmpty | .startsWith | .endsWith | .contains => some .boolean
  | .timestamp => some .timestamp
  | .unique | .toEntries => some .array
  | .fromEntries | .unflatten => some .object
  | _ => none

/-- the three facts of a table row, from one case split over the functions -/
theorem primTag_spec {E : Env} {F : Fn} {t : Tag} (h : F.primTag = some t) :
    (∀ as, (declaredFn F as).kind = t.kind) ∧ F.returnMask = t.bit ∧
      ∀ {vs r}, model E F vs = .ok r → tagOf r = t := by
  cases F <;> cases h <;> refine ⟨fun _ => rfl, rfl, fun hr => ?_⟩
  case string | int | float | bool | timestamp =>
    obtain ⟨v, rfl, hr⟩ := un_ok hr; obtain ⟨rfl, ht⟩ := assertV_ok hr; exact ht
  case isString | isInteger | isFloat | isBoolean | isNull | isArray | isObject | isTimestamp | isRegex
      | isNullish =>
    obtain ⟨v, rfl, hr⟩ := un_ok hr; exact boolR_tag hr
  case isEmpty => obtain ⟨v, rfl, hr⟩ := un_ok hr; exact isEmptyV_tag hr
  case length => obtain ⟨v, rfl, hr⟩ := un_ok hr; exact length_tag hr
  case strlen => obtain ⟨v, rfl, hr⟩ := un_ok hr; exact strlen_tag hr
  case toInt => obtain ⟨v, rfl, hr⟩ := un_ok hr; exact toInt_tag hr
  case toFloat => obtain ⟨v, rfl, hr⟩ := un_ok hr; exact toFloat_tag hr
  case toBool => obtain ⟨v, rfl, hr⟩ := un_ok hr; exact toBool_tag hr
  case toString => obtain ⟨v, rfl, hr⟩ := un_ok hr; exact toStringV_tag hr
  case upcase => obtain ⟨v, rfl, hr⟩ := un_ok hr; exact upcaseV_tag hr
  case downcase => obtain ⟨v, rfl, hr⟩ := un_ok hr; exact downcaseV_tag hr
  case stripWhitespace => obtain ⟨v, rfl, hr⟩ := un_ok hr; exact stripWhitespace_tag hr
  case startsWith => obtain ⟨a, b, o, rfl, hr⟩ := bin1_ok hr; exact startsWith_tag hr
  case endsWith => obtain ⟨a, b, o, rfl, hr⟩ := bin1_ok hr; exact endsWith_tag hr
  case contains => obtain ⟨a, b, o, rfl, hr⟩ := bin1_ok hr; exact contains_tag hr
  case truncate => obtain ⟨a, b, o, rfl, hr⟩ := bin1_ok hr; exact truncate_tag hr
  case join => obtain ⟨v, o, rfl, hr⟩ := un1_ok hr; exact join_tag hr
  case formatInt => obtain ⟨v, o, rfl, hr⟩ := un1_ok hr; exact formatInt_tag hr
  case parseInt => obtain ⟨v, o, rfl, hr⟩ := un1_ok hr; exact parseInt_tag hr
  case parseFloat => obtain ⟨v, rfl, hr⟩ := un_ok hr; exact parseFloat_tag hr
  case encodeBase64 => obtain ⟨v, o1, o2, rfl, hr⟩ := un2_ok hr; exact encodeBase64V_tag hr
  case decodeBase64 => obtain ⟨v, o, rfl, hr⟩ := un1_ok hr; exact decodeBase64V_tag hr
  case encodeBase16 => obtain ⟨v, rfl, hr⟩ := un_ok hr; exact encodeBase16V_tag hr
  case decodeBase16 => obtain ⟨v, rfl, hr⟩ := un_ok hr; exact decodeBase16V_tag hr
  case encodeJson => obtain ⟨v, o, rfl, hr⟩ := un1_ok hr; exact encodeJsonV_tag hr
  case unique => obtain ⟨v, rfl, hr⟩ := un_ok hr; exact unique_tag hr
  case toEntries => obtain ⟨v, rfl, hr⟩ := un_ok hr; exact toEntries_tag hr
  case fromEntries => obtain ⟨v, rfl, hr⟩ := un_ok hr; exact fromEntries_tag hr
  case unflatten => obtain ⟨v, o1, o2, rfl, hr⟩ := un2_ok hr; exact unflattenV_tag hr

/-- **The 42 functions with a `primTag` (type assertions, `is_*` predicates, string functions,
    conversions, codecs, and the four of `anyColl_sound`): whatever the arguments, a returned value
    belongs to the declared kind and to the documented return kinds.** -/
theorem prim_sound (E : Env) (F : Fn) (t : Tag) (h : F.primTag = some t) : Sound E F := by
  intro as vs td c v hr
  obtain ⟨hk, hb, hm⟩ := primTag_spec (E := E) h
  have ht := hm hr
  rw [decl_kind c.decl, hk, hb]
  exact ⟨memR_of_mem (mem_tag_kind ht), hasBit_of_tag ht (by cases t <;> decide)⟩

/-- **`unique`, `to_entries` return some array; `from_entries`, `unflatten` some object.** -/
theorem anyColl_sound (E : Env) (F : Fn)
    (hF : F = .unique ∨ F = .toEntries ∨ F = .fromEntries ∨ F = .unflatten) : Sound E F := by
  rcases hF with rfl | rfl | rfl | rfl <;> exact prim_sound E _ _ rfl

theorem numKind_sound {k0 : Kind} {v r : Value} (hm : mem v k0 = true) (hn : (tagOf v).isNum = true)
    (ht : tagOf r = tagOf v) :
    memR r (if (k0.isFloat || k0.isInteger) = true then k0 else intOrFloat) = true ∧
      hasBit (mInteger + mFloat) (kindBit r) = true := by
  refine ⟨memR_of_mem ?_, num_bit (ht ▸ hn)⟩
  split
  · rw [mem_num k0 (ht ▸ hn), ht, ← mem_num k0 hn]; exact hm
  · exact mem_intOrFloat (ht ▸ hn)

/-- **`abs`, `floor`, `ceil`, `round`: an integer stays an integer, a float a float; the result is in
    the argument's own kind when that is exactly `integer` or `float`, in `integer | float` otherwise.** -/
theorem num_sound (E : Env) (F : Fn) (hF : F = .abs ∨ F = .floor ∨ F = .ceil ∨ F = .round) :
    Sound E F := by
  intro as vs td c r hr
  rw [decl_kind c.decl]
  rcases hF with rfl | rfl | rfl | rfl
  · obtain ⟨v, rfl, hr⟩ := un_ok hr
    obtain ⟨hn, ht⟩ := abs_pres hr
    exact numKind_sound c.head_mem hn ht
  all_goals
    obtain ⟨v, o, rfl, hr⟩ := un1_ok hr
    obtain ⟨hn, ht⟩ := roundFn_pres hr
    exact numKind_sound c.head_mem hn ht

/-- **`array(v)` / `object(v)`: the value itself, in the array (object) part of the argument kind.** -/
theorem array_sound (E : Env) : Sound E .array := by
  intro as vs td c r hr
  rw [decl_kind c.decl]
  obtain ⟨v, rfl, hr⟩ := un_ok hr
  obtain ⟨rfl, ht⟩ := assertV_ok hr
  obtain ⟨xs, rfl⟩ := tag_array ht
  exact ⟨memR_of_mem (mem_arr_restrictArray xs _ c.head_mem), hasBit_of_tag ht (by decide)⟩

theorem object_sound (E : Env) : Sound E .object := by
  intro as vs td c r hr
  rw [decl_kind c.decl]
  obtain ⟨v, rfl, hr⟩ := un_ok hr
  obtain ⟨rfl, ht⟩ := assertV_ok hr
  obtain ⟨m, rfl⟩ := tag_object ht
  exact ⟨memR_of_mem (mem_obj_restrictObject m _ c.head_mem), hasBit_of_tag ht (by decide)⟩

/-- **`pop`: sound when every known index of the argument's array kind may be absent** (in
    particular for `any` and for arrays without known indices). `type_def` keeps the argument kind
    unchanged although the last element is gone: `witness_pop`. -/
theorem pop_sound_partial (E : Env) (as : ASlots) (vs : Slots) (td : TD) (c : Call .pop as vs td)
    (hk : (arrayCol (akind as 0)).knownOptional = true) : SoundAt E .pop as vs td := by
  intro r hr
  rw [decl_kind c.decl]
  obtain ⟨v, rfl, hr⟩ := un_ok hr
  obtain ⟨xs, rfl, rfl⟩ := popV_ok hr
  refine ⟨memR_of_mem ?_, hasBit_of_tag (t := .array) rfl (by decide)⟩
  obtain ⟨col, hcol, h1, _⟩ := (mem_arr_iff _ _).mp c.head_mem
  rw [arrayCol, hcol] at hk
  refine (mem_arr_iff _ (restrictArray (akind as 0))).mpr ⟨col, by rw [restrictArray, hcol]; rfl, ?_, ?_⟩
  · intro j x hj
    exact h1 j x (getN_popList xs j x hj)
  · intro k K' hg _
    exact KList.all_of_get _ _ hk k K' hg

/-- **`split`: an array of strings** (string or regex pattern, any limit). -/
theorem split_sound (E : Env) : Sound E .split := by
  intro as vs td c r hr
  rw [decl_kind c.decl]
  obtain ⟨a, b, o, rfl, hr⟩ := bin1_ok hr
  obtain ⟨ys, rfl, h⟩ := splitV_ok hr
  exact ⟨memR_of_mem (mem_arr_bytesCol ys h), hasBit_of_tag (t := .array) rfl (by decide)⟩

/-- **`keys`: an array of strings.** -/
theorem keys_sound (E : Env) : Sound E .keys := by
  intro as vs td c r hr
  rw [decl_kind c.decl]
  obtain ⟨v, rfl, hr⟩ := un_ok hr
  obtain ⟨ys, rfl, h⟩ := keys_ok hr
  refine ⟨memR_of_mem ?_, hasBit_of_tag (t := .array) rfl (by decide)⟩
  show mem _ (Kind.ofArray (Col.empty.withUnknown Kind.bytes)) = true
  rw [show Col.empty.withUnknown Kind.bytes = Col.fromUnknown Kind.bytes by decide]
  exact mem_arr_bytesCol ys h

/-- **`compact` / `flatten`: an array stays an array, an object an object; the declared kind is
    `array` only when the argument kind is exactly an array and `object` otherwise, so the result is
    in the declared kind whenever the argument kind is exactly an array or has no array state.**
    For an argument that may be an array *or* something else (`.p`): `witness_compact`,
    `witness_flatten`. -/
theorem compact_flatten_sound_partial (E : Env) (F : Fn) (hF : F = .compact ∨ F = .flatten)
    (as : ASlots) (vs : Slots) (td : TD) (c : Call F as vs td)
    (hk : (akind as 0).isArray = true ∨ (akind as 0).hasArr = false) : SoundAt E F as vs td := by
  intro r hr
  rw [decl_kind c.decl]
  have key : ∀ v, mem v (akind as 0) = true →
      ((∃ m m', v = .obj m ∧ r = .obj m') ∨ (∃ xs ys, v = .arr xs ∧ r = .arr ys)) →
      memR r (if (akind as 0).isArray = true then anyArray else anyObject) = true ∧
        hasBit (mObject + mArray) (kindBit r) = true := by
    intro v hm hs
    rcases hs with ⟨m, m', rfl, rfl⟩ | ⟨xs, ys, rfl, rfl⟩
    · refine ⟨memR_of_mem ?_, hasBit_of_tag (t := .object) rfl (by decide)⟩
      split
      · rename_i hi
        cases tag_of_isArray hi hm
      · exact mem_obj_anyObject m'
    · refine ⟨memR_of_mem ?_, hasBit_of_tag (t := .array) rfl (by decide)⟩
      rcases hk with hi | hn
      · rw [if_pos hi]; exact mem_arr_anyArray ys
      · exact absurd rfl (tag_ne_of_not_hasTag hm hn)
  rcases hF with rfl | rfl
  · obtain ⟨v, o1, o2, o3, o4, o5, o6, rfl, hr⟩ := un6_ok hr
    exact key v c.head_mem (compact_ok hr)
  · obtain ⟨v, o1, o2, rfl, hr⟩ := un2_ok hr
    exact key v c.head_mem (flattenV_ok hr)

theorem slice_kind (as : ASlots) :
    (declaredFn .slice as).kind =
      if (akind as 0).isBytes = true then Kind.never.union (akind as 0)
      else if (akind as 0).isArray = true then Kind.never.union (akind as 0)
      else (Kind.never.orBytes).orArray Col.any :=
  (apply_ite TD.kind _ _ _).trans (congrArg _ (apply_ite TD.kind _ _ _))

/-- **`slice`: a string gives a string, an array an array. The declared kind is the argument kind
    itself when that is exactly `bytes` or exactly an array, so for arrays the result is in the
    declared kind when the array kind has no known index** (the elements move to other indices;
    `type_def` re-uses the input collection: `witness_slice`). Sound without condition for strings
    and for arguments that are not exactly an array (`.p`). -/
theorem slice_sound_partial (E : Env) (as : ASlots) (vs : Slots) (td : TD) (c : Call .slice as vs td)
    (hk : (akind as 0).isBytes = true ∨ (akind as 0).isArray = false ∨
      (arrayCol (akind as 0)).known = .nil) : SoundAt E .slice as vs td := by
  intro r hr
  rw [decl_kind c.decl, slice_kind]
  obtain ⟨v, st, o, rfl, hr⟩ := bin1_ok hr
  have hm := c.head_mem
  rcases slice_ok hr with ⟨b, b', rfl, rfl⟩ | ⟨xs, i, n, rfl, rfl⟩
  · -- a string
    refine ⟨memR_of_mem ?_, hasBit_of_tag (t := .bytes) rfl (by decide)⟩
    by_cases hb : (akind as 0).isBytes = true
    · rw [if_pos hb, mem_bytes, never_union_prim]; exact hm
    · by_cases ha : (akind as 0).isArray = true
      · cases tag_of_isArray ha hm
      · rw [if_neg hb, if_neg ha]; rfl
  · -- an array
    refine ⟨memR_of_mem ?_, hasBit_of_tag (t := .array) rfl (by decide)⟩
    by_cases hb : (akind as 0).isBytes = true
    · cases tag_of_isBytes hb hm
    · by_cases ha : (akind as 0).isArray = true
      · rw [if_neg hb, if_pos ha]
        obtain ⟨col, hcol, _, _⟩ := (mem_arr_iff _ _).mp hm
        have hkn : col.known = .nil := by
          rcases hk with h | h | h
          · exact absurd h hb
          · rw [ha] at h; cases h
          · rwa [arrayCol, hcol] at h
        apply mem_arr_of_noKnown _ _ col (by rw [never_union_array]; exact hcol) hkn
        intro j x hj
        exact mem_elem_of_noKnown hm hcol hkn (getN_slice xs i n j x hj)
      · rw [if_neg hb, if_neg ha]
        rw [mem_arr_congr _ (K := (Kind.never.orBytes).orArray Col.any) (K' := anyArray) rfl]
        exact mem_arr_anyArray _

/-- whether or not the dividend is a constant infinity only changes the fallibility -/
theorem mod_kind (as : ASlots) :
    (declaredFn .mod as).kind = (modTD (akind as 0) (aconst as 1)).kind := by
  show (if modValueInf (aconst as 0) = true then _ else _ : TD).kind = _
  split <;> rfl

theorem mem_modDividendKind {k0 : Kind} {v r : Value} (hm : mem v k0 = true)
    (hn : (tagOf v).isNum = true) (ht : tagOf r = tagOf v) : mem r (modDividendKind k0) = true := by
  unfold modDividendKind
  split
  · rename_i hk
    exact mem_tag_kind (ht.trans (tag_of_isInteger hk hm))
  · split
    · rename_i hk
      exact mem_tag_kind (ht.trans (tag_of_isFloat hk hm))
    · exact mem_intOrFloat (ht ▸ hn)

/-- **`mod`: with a float literal as modulus the result is a float; with a non-zero integer literal
    the result has the kind of the dividend (integer, float, or `integer | float` when the dividend
    is not exactly one of them); with a runtime-typed modulus an integer or a float.** The statement
    holds in full since /repo cbab0ba (class `result_type:mod`: a constant integer modulus was typed
    `integer` whatever the dividend; `W.fixed_mod`). -/
theorem mod_sound (E : Env) : Sound E .mod := by
  intro as vs td c r hr
  rw [decl_kind c.decl, mod_kind]
  obtain ⟨v, m, rfl, hr⟩ := bin_ok hr
  obtain ⟨hvn, hres⟩ := tryRem_ok hr
  have hm := c.head_mem
  obtain ⟨a0, as', rfl, _, hadm⟩ := admits_cons c.adm
  obtain ⟨a1, as'', rfl, ha1, _⟩ := admits_cons hadm
  have hrn : (tagOf r).isNum = true := by
    rcases hres with ⟨i, -, -, ht⟩ | ⟨f, -, ht⟩
    · exact ht ▸ hvn
    · rw [ht]; rfl
  refine ⟨memR_of_mem ?_, num_bit hrn⟩
  show mem r (modTD _ a1.const).kind = true
  cases a1 with
  | dyn k => exact mem_intOrFloat hrn
  | lit w =>
    cases of_decide_eq_true ha1
    rcases hres with ⟨i, rfl, hi, ht⟩ | ⟨f, rfl, ht⟩
    · -- integer literal, non-zero since the call returned a value
      simp only [Arg.const, modTD, if_neg hi]
      exact mem_modDividendKind hm hvn ht
    · exact mem_tag_kind ht

end C03
