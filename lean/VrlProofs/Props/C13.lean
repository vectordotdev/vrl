/-
  C13 — closure parameters are scoped to the closure.

  For every closure runner of function/closure.rs (`run_key_value`, `run_index_value`, `map_key`,
  `map_value`), every closure body (an arbitrary state transformer: it may assign the parameter,
  fail, abort or return), every state and every outcome: a variable named like a closure parameter
  holds afterwards exactly what it held before (unset stays unset).  Lifted to whole iterations
  (`for_each`, `filter`, `map_keys`, `map_values` over objects and arrays of any size), stopping
  early or not.  Holds also when both parameters have the same name.

  Model: `Lang.runKeyValue` … `Lang.mapValuesList` (VrlModel/Lang/Eval.lean), tied to the code by the
  `lang.run` correspondence; the two defects this property exposed on the pinned tree (early `?`
  before `cleanup`; restoration order with duplicate names) are repaired (`fix:` commits), so the
  model describes the repaired code.
-/
import VrlProofs.Lemmas.Vars
import VrlProofs.Lemmas.Call

namespace C13
open Lang

/-- `p` is (the non-empty name of) parameter 0 or parameter 1. -/
def isParam (vars : List String) (p : String) : Prop :=
  cIdent vars 0 = some p ∨ cIdent vars 1 = some p

theorem runKeyValue_restores (vars : List String) (body : Thunk) (k : List Nat) (v : Value) (s : St)
    (p : String) (hp : isParam vars p) :
    (runKeyValue vars body k v s).2.getVar p = s.getVar p := by
  unfold runKeyValue; exact cCleanup_restores_pair _ _ _ _ _ _ _ hp

theorem runIndexValue_restores (vars : List String) (body : Thunk) (i : Nat) (v : Value) (s : St)
    (p : String) (hp : isParam vars p) :
    (runIndexValue vars body i v s).2.getVar p = s.getVar p := by
  unfold runIndexValue; exact cCleanup_restores_pair _ _ _ _ _ _ _ hp

theorem mapKey_restores (vars : List String) (body : Thunk) (k : List Nat) (s : St)
    (p : String) (hp : cIdent vars 0 = some p) :
    (mapKey vars body k s).2.getVar p = s.getVar p := by
  unfold mapKey
  simp only []
  rw [hp]
  split <;> exact cCleanup_restores _ _ _ _

theorem mapValue_restores (vars : List String) (body : Thunk) (v : Value) (s : St)
    (p : String) (hp : cIdent vars 0 = some p) :
    (mapValue vars body v s).2.getVar p = s.getVar p := by
  unfold mapValue
  simp only []
  rw [hp]; exact cCleanup_restores _ _ _ _

/-! whole iterations: "`p` holds what it held in `s`" is kept by every single run of the closure, hence
    by the iteration (Lemmas/Call.lean) -/

theorem forEachMap_restores (vars : List String) (body : Thunk) (p : String) (hp : isParam vars p) :
    (m : VMap) → (s : St) → (forEachMap vars body m s).2.getVar p = s.getVar p :=
  fun m s => forEachMap_keeps (J := fun t => t.getVar p = s.getVar p)
    (fun k v t ht => (runKeyValue_restores vars body k v t p hp).trans ht) m s rfl

theorem forEachList_restores (vars : List String) (body : Thunk) (p : String) (hp : isParam vars p) :
    (a : VList) → (i : Nat) → (s : St) → (forEachList vars body a i s).2.getVar p = s.getVar p :=
  fun a i s => forEachList_keeps (J := fun t => t.getVar p = s.getVar p)
    (fun i v t ht => (runIndexValue_restores vars body i v t p hp).trans ht) a i s rfl

theorem filterMap_restores (vars : List String) (body : Thunk) (p : String) (hp : isParam vars p) :
    (m : VMap) → (s : St) → (filterMap vars body m s).2.getVar p = s.getVar p :=
  fun m s => filterMap_keeps (J := fun t => t.getVar p = s.getVar p)
    (fun k v t ht => (runKeyValue_restores vars body k v t p hp).trans ht) m s rfl

theorem filterList_restores (vars : List String) (body : Thunk) (p : String) (hp : isParam vars p) :
    (a : VList) → (i : Nat) → (s : St) → (filterList vars body a i s).2.getVar p = s.getVar p :=
  fun a i s => filterList_keeps (J := fun t => t.getVar p = s.getVar p)
    (fun i v t ht => (runIndexValue_restores vars body i v t p hp).trans ht) a i s rfl

theorem mapKeysMap_restores (vars : List String) (body : Thunk) (p : String)
    (hp : cIdent vars 0 = some p) :
    (m : VMap) → (s : St) → (mapKeysMap vars body m s).2.getVar p = s.getVar p :=
  fun m s => mapKeysMap_keeps (J := fun t => t.getVar p = s.getVar p)
    (fun k t ht => (mapKey_restores vars body k t p hp).trans ht) m s rfl

theorem mapValuesMap_restores (vars : List String) (body : Thunk) (p : String)
    (hp : cIdent vars 0 = some p) :
    (m : VMap) → (s : St) → (mapValuesMap vars body m s).2.getVar p = s.getVar p :=
  fun m s => mapValuesMap_keeps (J := fun t => t.getVar p = s.getVar p)
    (fun v t ht => (mapValue_restores vars body v t p hp).trans ht) m s rfl

theorem mapValuesList_restores (vars : List String) (body : Thunk) (p : String)
    (hp : cIdent vars 0 = some p) :
    (a : VList) → (s : St) → (mapValuesList vars body a s).2.getVar p = s.getVar p :=
  fun a s => mapValuesList_keeps (J := fun t => t.getVar p = s.getVar p)
    (fun v t ht => (mapValue_restores vars body v t p hp).trans ht) a s rfl

/-- non-vacuity: parameters `k`, `v`; also the duplicate-name case `|x, x|`. -/
example : isParam ["k", "v"] "v" := Or.inr (by decide)
example : isParam ["x", "x"] "x" := Or.inl (by decide)

end C13
