/-
  C22 — Binary codecs round-trip: decoding what the matching encoder produced returns the
  original bytes. Helper lemmas: VrlProofs/Lemmas/C22*.lean. Models: VrlModel/Codec/*.lean,
  Spec predicate `C22.RoundTrip` in VrlModel/C22.lean (the predicate the oracle evaluates on the
  implementation). Bytes are `List Nat` with the explicit hypothesis `∀ x ∈ b, x < 256`.

  base16, base64 and percent are modelled in full and proved for all byte strings (percent: on its
  exact domain of validity, `percent_roundtrip_iff`; witness that the unrestricted statement is
  false of the code: VrlProofs/Witness/C22.lean). For gzip, zlib, zstd, snappy, lz4, charset and
  punycode the option dispatch is modelled and the primitive is a structure parameter carrying its
  assumed law (level **partial**: the law is a hypothesis, sampled on the real crate by `o.c22`).
-/
import VrlModel.C22
import VrlProofs.Lemmas.C22Utf8
import VrlProofs.Lemmas.C22Base
import VrlProofs.Lemmas.C22Percent
import VrlProofs.Lemmas.C22Puny

namespace C22
open Codec

/-- `decode_base16(encode_base16(b)) = Ok(b)` for every byte string. -/
theorem base16_roundtrip (b : Bytes) (hb : ∀ x ∈ b, x < 256) : RoundTrip b (base16 b) := by
  unfold RoundTrip base16 Base16.encode
  rw [Base16.decode_enc b hb]
  rfl

/-- the decoder accepts upper-case digits as well: `decode_base16(upper(encode_base16(b))) = Ok(b)`. -/
theorem base16_roundtrip_upper (b : Bytes) (hb : ∀ x ∈ b, x < 256) :
    RoundTrip b (resOfOption (Base16.decode (Base16.encUpper b))) := by
  unfold RoundTrip
  rw [Base16.decode_encUpper b hb]
  rfl

def standardName : Bytes := [115, 116, 97, 110, 100, 97, 114, 100]
def urlSafeName : Bytes := [117, 114, 108, 95, 115, 97, 102, 101]

/-- the two names `Base64Charset::from_slice` accepts. -/
theorem base64_charset_ofName_some (n : Bytes) (cs : Base64.Charset) :
    Base64.Charset.ofName n = some cs ↔
      (n = standardName ∧ cs = .standard) ∨ (n = urlSafeName ∧ cs = .urlSafe) := by
  unfold Base64.Charset.ofName standardName urlSafeName
  constructor
  · intro h
    split at h
    · left; cases h; exact ⟨by assumption, rfl⟩
    · split at h
      · right; cases h; exact ⟨by assumption, rfl⟩
      · cases h
  · rintro (⟨rfl, rfl⟩ | ⟨rfl, rfl⟩) <;> decide

/-- `decode_base64(encode_base64(b, padding, charset), charset) = Ok(b)` for every byte string,
    both alphabets and both padding modes (the decoder has no padding option: it strips `=`). -/
theorem base64_roundtrip (b : Bytes) (hb : ∀ x ∈ b, x < 256) (padding : Bool) (charset : Bytes)
    (hcs : charset = standardName ∨ charset = urlSafeName) :
    RoundTrip b (base64 b padding charset) := by
  obtain ⟨cs, h⟩ : ∃ cs, Base64.Charset.ofName charset = some cs := by
    rcases hcs with rfl | rfl <;> exact ⟨_, rfl⟩
  unfold RoundTrip base64 Base64.encode Base64.decode
  simp only [h, Option.map_some]
  rw [Base64.stripPad_enc cs padding b hb, Base64.dec_enc cs b hb]
  rfl

/-- any other `charset` name: `encode_base64` and `decode_base64` both fail (`Base64Charset::from_slice`,
    "unknown charset"). -/
theorem base64_unknown_charset (b v : Bytes) (padding : Bool) (charset : Bytes)
    (h1 : charset ≠ standardName) (h2 : charset ≠ urlSafeName) :
    Base64.encode b padding charset = none ∧ Base64.decode v charset = .badCharset := by
  have : Base64.Charset.ofName charset = none := by
    cases h : Base64.Charset.ofName charset with
    | none => rfl
    | some cs =>
      rcases (base64_charset_ofName_some _ _).mp h with ⟨h, _⟩ | ⟨h, _⟩
      · exact absurd h h1
      · exact absurd h h2
  simp [Base64.encode, Base64.decode, this]

/-- `percent_decode` ∘ `percent_encode` of the crate, without vrl's two UTF-8 conversions. -/
theorem percent_raw_roundtrip_iff (set : Percent.AsciiSet) (s : Bytes) (hs : ∀ x ∈ s, x < 256) :
    Percent.decRaw (Percent.encRaw set s) = s ↔ Percent.roundTripOK set s = true :=
  Percent.roundtrip_iff_of_ascii (f := id) (fun _ => rfl) set hs rfl

/-- `decode_percent(encode_percent(s, set)) = s` for UTF-8 text `s` **iff** the set escapes `%` or
    `s` contains no `%` followed by two hex digits. -/
theorem percent_roundtrip_iff (set : Percent.AsciiSet) (s : Bytes) (hs : Utf8.lossy s = s) :
    RoundTrip s (percent set s) ↔ Percent.roundTripOK set s = true := by
  unfold RoundTrip percent Percent.encode Percent.decode
  rw [hs, Res.ok.injEq]
  exact Percent.roundtrip_iff_of_ascii Utf8.ascii_lossy set (Utf8.bytes_of_lossy_fixed hs) hs

/-- the three sets that escape `%`. -/
theorem percent_roundtrip (set : Percent.AsciiSet) (s : Bytes) (hs : Utf8.lossy s = s)
    (hset : set = .nonAlphanumeric ∨ set = .component ∨ set = .wwwFormUrlencoded) :
    RoundTrip s (percent set s) := by
  apply (percent_roundtrip_iff set s hs).mpr
  rcases hset with h | h | h <;> subst h <;> simp [Percent.roundTripOK] <;> left <;> decide

/-- (partial) every set round-trips UTF-8 text outside the finding class `D_percent_literal`. -/
theorem percent_roundtrip_partial (set : Percent.AsciiSet) (s : Bytes) (hs : Utf8.lossy s = s)
    (hD : D_percent_literal set s = false) : RoundTrip s (percent set s) := by
  apply (percent_roundtrip_iff set s hs).mpr
  simpa [D_percent_literal] using hD

/-- the same for well-formed UTF-8 in the sense of the Unicode standard (Table 3-7). -/
theorem percent_roundtrip_valid (set : Percent.AsciiSet) (s : Bytes) (hs : Utf8.Valid s) :
    RoundTrip s (percent set s) ↔ Percent.roundTripOK set s = true :=
  percent_roundtrip_iff set s (Utf8.lossy_valid hs)

/-- every accepted `compression_level` (0..10 after the `as u32` cast; 10 is clamped to 9). -/
theorem gzip_roundtrip (P : Gzip.Prim) (b : Bytes) (level : Int) (hl : asU32 level ≤ 10) :
    RoundTrip b (andThen (Gzip.encode P b level) (Gzip.decode P)) := by
  obtain ⟨c, hc, hd⟩ := P.rt (min (asU32 level) 9) b (Nat.min_le_right _ _)
  have : Gzip.level? level = some (asU32 level) := by
    simp [Gzip.level?, Gzip.maxLevel, Nat.not_lt.mpr hl]
  simp [RoundTrip, Gzip.encode, this, hc, andThen, Gzip.decode, hd]

theorem zlib_roundtrip (P : Zlib.Prim) (b : Bytes) (level : Int) (hl : asU32 level ≤ 10) :
    RoundTrip b (andThen (Zlib.encode P b level) (Zlib.decode P)) := by
  obtain ⟨c, hc, hd⟩ := P.rt (min (asU32 level) 9) b (Nat.min_le_right _ _)
  have : Zlib.level? level = some (asU32 level) := by
    simp [Zlib.level?, Zlib.maxLevel, Nat.not_lt.mpr hl]
  simp [RoundTrip, Zlib.encode, this, hc, andThen, Zlib.decode, hd]

/-- e.g. every negative level (the cast is `as u32`). -/
theorem gzip_level_rejected (P : Gzip.Prim) (b : Bytes) (level : Int) (hl : 10 < asU32 level) :
    Gzip.encode P b level = .err := by
  simp [Gzip.encode, Gzip.level?, Gzip.maxLevel, hl]

theorem asI32_range (n : Int) : -2147483648 ≤ asI32 n ∧ asI32 n ≤ 2147483647 := by
  unfold asI32; omega

/-- every `compression_level` (any i64; the glue casts with `as i32`). -/
theorem zstd_roundtrip (P : Zstd.Prim) (b : Bytes) (level : Int) :
    RoundTrip b (andThen (Zstd.encode P b level) (Zstd.decode P)) := by
  obtain ⟨c, hc, hd⟩ := P.rt (asI32 level) b (asI32_range level).1 (asI32_range level).2
  simp [RoundTrip, Zstd.encode, hc, andThen, Zstd.decode, hd]

theorem snappy_roundtrip (P : Snappy.Prim) (b : Bytes) (hlen : b.length < 4294967296) :
    RoundTrip b (andThen (Snappy.encode P b) (Snappy.decode P)) := by
  obtain ⟨c, hc, hd⟩ := P.rt b hlen
  simp [RoundTrip, Snappy.encode, hc, andThen, Snappy.decode, hd]

theorem le32_isPrefix_magic (n : Nat) (hn : n ≤ Lz4.u32Max) (rest : Bytes) :
    Lz4.magic.isPrefixOf (Lz4.le32 n ++ rest) = true ↔ n = Lz4.magicAsSize := by
  simp only [Lz4.magic, Lz4.le32, Lz4.magicAsSize, Lz4.u32Max, List.cons_append, List.nil_append,
    List.isPrefixOf, Bool.and_eq_true, beq_iff_eq, Bool.and_true] at *
  constructor
  · rintro ⟨h0, h1, h2, h3⟩
    -- `n` from its four base-256 digits, so that `omega` sees no division
    have e0 := Nat.div_add_mod n 256
    have e1 := Nat.div_add_mod (n / 256) 256
    have e2 := Nat.div_add_mod (n / 65536) 256
    have d1 : n / 256 / 256 = n / 65536 := Nat.div_div_eq_div_mul n 256 256
    have d2 : n / 65536 / 256 = n / 16777216 := Nat.div_div_eq_div_mul n 65536 256
    have e3 := Nat.mod_eq_of_lt (Nat.div_lt_of_lt_mul (Nat.lt_succ_of_le hn) : n / 16777216 < 256)
    rw [← h0] at e0
    rw [d1, ← h1] at e1
    rw [d2, ← h2] at e2
    rw [← h3] at e3
    generalize n / 256 = q1 at *
    generalize n / 65536 = q2 at *
    generalize n / 16777216 = q3 at *
    omega
  · rintro rfl; decide

/-- block format without size prefix (`prepend_size: false` / `prepended_size: false`): every
    `buf_size` that is at least the length (and a `u32`). -/
theorem lz4_roundtrip_block (P : Lz4.Prim) (b : Bytes) (bufSize : Int)
    (h0 : 0 ≤ bufSize) (h1 : bufSize ≤ 4294967295) (hlen : (b.length : Int) ≤ bufSize) :
    RoundTrip b (Lz4.decode P (Lz4.encode P b false) bufSize false) := by
  have hn : Lz4.bufferSize bufSize = bufSize.toNat := by simp [Lz4.bufferSize, h0, h1]
  simp only [RoundTrip, Lz4.encode, Lz4.decode, hn, P.blockNoMagic b, Bool.false_eq_true, ↓reduceIte]
  exact P.rtBlock b bufSize.toNat (by omega) (by simp only [Lz4.u32Max]; omega)

/-- (partial) size-prefixed block format (`prepend_size: true` / `prepended_size: true`), every
    `buf_size`: holds unless the length equals the frame magic read as a little-endian `u32`. -/
theorem lz4_roundtrip_prepended_partial (P : Lz4.Prim) (b : Bytes) (bufSize : Int)
    (hlen : b.length ≤ Lz4.u32Max) (hD : D_lz4_size_is_magic b.length = false) :
    RoundTrip b (Lz4.decode P (Lz4.encode P b true) bufSize true) := by
  have hne : b.length ≠ Lz4.magicAsSize := by
    intro h
    simp only [D_lz4_size_is_magic, Lz4.u32Max] at hD hlen
    rw [Nat.mod_eq_of_lt (by omega)] at hD
    simp [h] at hD
  have hm : Lz4.magic.isPrefixOf (P.compressPrepend b) = false := by
    rw [P.prependShape b hlen]
    cases h : Lz4.magic.isPrefixOf (Lz4.le32 b.length ++ P.compress b) with
    | false => rfl
    | true => exact absurd ((le32_isPrefix_magic _ hlen _).mp h) hne
  simp only [RoundTrip, Lz4.encode, Lz4.decode, hm, Bool.false_eq_true, ↓reduceIte]
  exact P.rtPrepend b hlen

/-- in the excluded class the decoder dispatches to the *frame* decoder, not to the inverse of the
    encoder that ran (the defect behind finding class `lz4:D_size_is_frame_magic`, in Lean
    `D_lz4_size_is_magic`). -/
theorem lz4_magic_collision (P : Lz4.Prim) (b : Bytes) (bufSize : Int) (pre : Bool)
    (hlen : b.length = Lz4.magicAsSize) :
    Lz4.decode P (Lz4.encode P b true) bufSize pre =
      P.frameDecode (P.compressPrepend b) (Lz4.bufferSize bufSize) := by
  have hle : b.length ≤ Lz4.u32Max := by rw [hlen]; decide
  have hm : Lz4.magic.isPrefixOf (P.compressPrepend b) = true := by
    rw [P.prependShape b hle]
    exact (le32_isPrefix_magic _ hle _).mpr hlen
  simp [Lz4.encode, Lz4.decode, hm]

/-- data that starts with the frame magic always goes to the frame decoder (whatever
    `prepended_size` says); vrl has no frame *encoder*, so there is no frame round trip to state —
    the oracle samples `decode_lz4` on frames made by lz4_flex's `FrameEncoder` (`o.c22 lz4frame`). -/
theorem lz4_frame_dispatch (P : Lz4.Prim) (rest : Bytes) (bufSize : Int) (pre : Bool) :
    Lz4.decode P (Lz4.magic ++ rest) bufSize pre =
      P.frameDecode (Lz4.magic ++ rest) (Lz4.bufferSize bufSize) := by
  simp [Lz4.decode, Lz4.magic, List.isPrefixOf]

/-- both functions resolve the label with the same `Encoding::for_label`. -/
theorem charset_roundtrip (P : Charset.Prim) (t label : Bytes) (e : P.Enc)
    (hl : P.forLabel label = some e) (ht : Utf8.lossy t = t) (hr : P.representable e t) :
    RoundTrip t (andThen (Charset.encodeCharset P t label) (fun x => Charset.decodeCharset P x label)) := by
  simp [RoundTrip, Charset.encodeCharset, Charset.decodeCharset, ht, hl, andThen, P.rt e t ht hr]

/-- `encode_charset` checks the value first: ill-formed UTF-8 is an error whatever the label. -/
theorem charset_unknown_label (P : Charset.Prim) (t label : Bytes) (hl : P.forLabel label = none) :
    Charset.decodeCharset P t label = .err ∧
    (Utf8.lossy t = t → Charset.encodeCharset P t label = .err) := by
  simp [Charset.encodeCharset, Charset.decodeCharset, hl]

theorem charset_encode_never_panics (P : Charset.Prim) (t label : Bytes) :
    Charset.encodeCharset P t label ≠ .panic := by
  unfold Charset.encodeCharset
  split
  · simp
  · split <;> simp

/-- a label the `validate: false` pair handles faithfully: already lower-case, not itself starting
    with "xn--", and (when not ASCII) encodable by the raw punycode primitive. -/
def PunyLabelOK (P : Punycode.Prim) (l : Bytes) : Prop :=
  P.lower l = l ∧ Punycode.prefix_.isPrefixOf l = false ∧
    (Punycode.isAscii l = false → ∃ e, P.punyEnc l = some e)

theorem puny_encLabel_props (P : Punycode.Prim) (l : Bytes) (hl : PunyLabelOK P l)
    (hdot : Punycode.dot ∉ l) :
    Punycode.isAscii (Punycode.encLabel P l) = true ∧ Punycode.dot ∉ Punycode.encLabel P l ∧
    Punycode.decLabel P (Punycode.encLabel P l) = l := by
  obtain ⟨hlow, hpre, henc⟩ := hl
  cases ha : Punycode.isAscii l with
  | true =>
    have he : Punycode.encLabel P l = l := by simp [Punycode.encLabel, ha, hlow]
    rw [he]
    exact ⟨ha, hdot, by simp [Punycode.decLabel, hpre]⟩
  | false =>
    obtain ⟨e, he⟩ := henc ha
    obtain ⟨hdec, hea, hed⟩ := P.rtPuny l e he
    have hE : Punycode.encLabel P l = Punycode.prefix_ ++ e := by
      simp [Punycode.encLabel, ha, hpre, hlow, he]
    rw [hE]
    refine ⟨?_, ?_, ?_⟩
    · simp only [Punycode.isAscii, List.all_append, Bool.and_eq_true] at hea ⊢
      exact ⟨Punycode.isAscii_prefix, hea⟩
    · intro h
      rcases List.mem_append.mp h with h | h
      · exact Punycode.dot_not_in_prefix h
      · exact hed h
    · simp [Punycode.decLabel, Punycode.drop_prefix_append, hdec]

/-- `validate: false` on both sides. -/
theorem punycode_roundtrip_novalidate (P : Punycode.Prim) (d : Bytes) (hd : Utf8.lossy d = d)
    (hl : ∀ l ∈ Punycode.splitDot d, PunyLabelOK P l) :
    RoundTrip d (andThen (Punycode.encode P d false) (fun e => Punycode.decode P e false)) := by
  have hnodot := Punycode.splitDot_no_dot d
  have hprops := fun l hm => puny_encLabel_props P l (hl l hm) (hnodot l hm)
  have hjoin := Punycode.joinDot_splitDot d
  unfold RoundTrip
  simp only [Punycode.encode, hd, Bool.false_eq_true, ↓reduceIte]
  split
  · -- only `a-z0-9.`: returned unchanged, and no label starts with "xn--"
    rw [andThen, ← hjoin, Punycode.decode_joinDot P (Punycode.splitDot_ne_nil d) hnodot (by rw [hjoin, hd]),
      map_eq_self fun l hm => by simp [Punycode.decLabel, (hl l hm).2.1]]
  · -- the encoded text
    have hne : (Punycode.splitDot d).map (Punycode.encLabel P) ≠ [] := by
      simpa using Punycode.splitDot_ne_nil d
    have hdot : ∀ l ∈ (Punycode.splitDot d).map (Punycode.encLabel P), Punycode.dot ∉ l := by
      simpa using fun l hm => (hprops l hm).2.1
    have hascii : Punycode.isAscii (Punycode.joinDot ((Punycode.splitDot d).map (Punycode.encLabel P))) = true :=
      Punycode.isAscii_joinDot _ (by simpa using fun l hm => (hprops l hm).1)
    have hlossy := Utf8.lossy_ascii _ ((Punycode.isAscii_iff _).mp hascii)
    have hid : (Punycode.splitDot d).map (Punycode.decLabel P ∘ Punycode.encLabel P) = Punycode.splitDot d :=
      map_eq_self fun l hm => (hprops l hm).2.2
    rw [andThen, Punycode.decode_joinDot P hne hdot hlossy, List.map_map, hid, hjoin]

/-- `validate: true` on both sides. -/
theorem punycode_roundtrip_validate (P : Punycode.Prim) (d : Bytes) (hd : Utf8.lossy d = d)
    (hv : P.validDomain d) :
    RoundTrip d (andThen (Punycode.encode P d true) (fun e => Punycode.decode P e true)) := by
  obtain ⟨a, ha, hascii, hu⟩ := P.rtIdna d hv
  have hlossy := Utf8.lossy_ascii a ((Punycode.isAscii_iff a).mp hascii)
  unfold RoundTrip
  simp only [Punycode.encode, hd, ↓reduceIte, ha, andThen, Punycode.decode, hlossy]
  split
  · rename_i hno
    have hno' : Punycode.hasPrefixAnywhere a = false := by simpa using hno
    rw [P.asciiFixed d a hv ha hno']
  · simp [hu]

/-- mixed combinations, under the compatibility law "on this domain ToASCII is label-wise raw
    punycode" (i.e. both encoders produce the same text): the decoder with either `validate`
    inverts the encoder with the other. -/
theorem punycode_roundtrip_mixed (P : Punycode.Prim) (d : Bytes) (hd : Utf8.lossy d = d)
    (hv : P.validDomain d) (hl : ∀ l ∈ Punycode.splitDot d, PunyLabelOK P l)
    (hcompat : Punycode.encode P d true = Punycode.encode P d false) :
    RoundTrip d (andThen (Punycode.encode P d true) (fun e => Punycode.decode P e false)) ∧
    RoundTrip d (andThen (Punycode.encode P d false) (fun e => Punycode.decode P e true)) := by
  constructor
  · rw [hcompat]; exact punycode_roundtrip_novalidate P d hd hl
  · rw [← hcompat]; exact punycode_roundtrip_validate P d hd hv

end C22
