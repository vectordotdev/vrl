/-
  C31 — Datadog search matching follows the query semantics.
  Model: VrlModel/Search/Match.lean (`build_matcher`, `Filter::range`, `VrlFilter`, `normalize_fields`,
  the JIT path parser, `string_value`), tied to the real `match_datadog_query` by the `c31.match` /
  `c31.path` correspondence ops.  Reference semantics: VrlModel/Search/MatchSpec.lean.
  All theorems are for every environment `E` (regex engine, float printing, … are parameters),
  every query tree and every event — no vocabulary or size bound.

  Boolean nodes are the logical operations on the outcomes of their children ((1)), so every Boolean
  skeleton evaluates as its truth function ((2)); a range is its two comparisons, conjoined per field
  ((3)); on every leaf and field kind `match_datadog_query` decides as the reference semantics, except
  for an existence test of the reserved field `tags` (witness in VrlProofs/Witness/C31.lean) ((4));
  under a law about the regex engine the reference predicates are the reference glob matcher ((5)).
-/
import VrlProofs.Lemmas.SearchMatch

namespace C31
open Search Search.Spec

def notOut : MatchOut → MatchOut
  | .ok b => .ok (!b)
  | .err => .err
  | .panic => .panic

/-- the outcomes of the children, left to right: the first failure wins -/
def seqOut : List MatchOut → Build (List Bool)
  | [] => .ok []
  | .ok b :: r => (match seqOut r with
    | .ok bs => .ok (b :: bs)
    | .err => .err
    | .panic => .panic)
  | .err :: _ => .err
  | .panic :: _ => .panic

def outOf : Build Bool → MatchOut
  | .ok b => .ok b
  | .err => .err
  | .panic => .panic

def allOut (l : List MatchOut) : MatchOut := outOf ((seqOut l).map fun bs => bs.all id)
def anyOut (l : List MatchOut) : MatchOut := outOf ((seqOut l).map fun bs => bs.any id)

def andOut (a b : MatchOut) : MatchOut := allOut [a, b]

def childOutcomes (E : Env) (qs : QList) (e : Value) : List MatchOut :=
  qs.toList.map fun q => matchQuery E q e

theorem matchQuery_eq (E : Env) (q : QNode) (e : Value) :
    matchQuery E q e = outOf ((build E q).map fun m => m e) := by
  unfold matchQuery
  cases build E q <;> rfl

theorem seqOut_children (E : Env) (e : Value) : (qs : QList) →
    seqOut (childOutcomes E qs e) = (buildList E qs).map fun ms => ms.map fun m => m e
  | .nil => rfl
  | .cons q qs => by
    have ih := seqOut_children E e qs
    simp only [childOutcomes, QList.toList, List.map] at ih ⊢
    rw [buildList]
    cases hb : build E q with
    | ok m =>
      have hq : matchQuery E q e = .ok (m e) := by simp [matchQuery, hb]
      simp only [hq, seqOut]
      rw [ih]
      cases buildList E qs <;> rfl
    | err =>
      have hq : matchQuery E q e = .err := by simp [matchQuery, hb]
      simp only [hq, seqOut]
      rfl
    | panic =>
      have hq : matchQuery E q e = .panic := by simp [matchQuery, hb]
      simp only [hq, seqOut]
      rfl

/-- (1a) negation is logical negation of the child's verdict -/
theorem match_not (E : Env) (q : QNode) (e : Value) :
    matchQuery E (.neg q) e = notOut (matchQuery E q e) := by
  unfold matchQuery
  rw [build]
  cases build E q <;> rfl

/-- (1b) `AND` holds exactly when every child holds; of failing children the first one wins -/
theorem match_and (E : Env) (qs : QList) (e : Value) :
    matchQuery E (.bool .and qs) e = allOut (childOutcomes E qs e) := by
  unfold allOut
  rw [seqOut_children, matchQuery_eq, build]
  cases buildList E qs with
  | ok ms => simp [Build.map, outOf, allM, List.all_map]
  | err => rfl
  | panic => rfl

/-- (1c) `OR` holds exactly when some child holds -/
theorem match_or (E : Env) (qs : QList) (e : Value) :
    matchQuery E (.bool .or qs) e = anyOut (childOutcomes E qs e) := by
  unfold anyOut
  rw [seqOut_children, matchQuery_eq, build]
  cases buildList E qs with
  | ok ms => simp [Build.map, outOf, anyM, List.any_map]
  | err => rfl
  | panic => rfl

theorem seqOut_ok : (l : List Bool) → seqOut (l.map MatchOut.ok) = .ok l
  | [] => rfl
  | b :: l => by simp [seqOut, seqOut_ok l]

/-- (1b') in Boolean terms: when every child builds (its outcome is some `.ok b`), `AND` = `∀ child` -/
theorem match_and_ok (E : Env) (qs : QList) (e : Value) (bs : List Bool)
    (h : childOutcomes E qs e = bs.map MatchOut.ok) :
    matchQuery E (.bool .and qs) e = .ok (bs.all id) := by
  rw [match_and, h, allOut, seqOut_ok]; rfl

theorem match_or_ok (E : Env) (qs : QList) (e : Value) (bs : List Bool)
    (h : childOutcomes E qs e = bs.map MatchOut.ok) :
    matchQuery E (.bool .or qs) e = .ok (bs.any id) := by
  rw [match_or, h, anyOut, seqOut_ok]; rfl

/-- (2) every Boolean skeleton (NOT / AND / OR / juxtaposition, any nesting) evaluates as its truth
    function of the verdicts of its atoms — the identity `o.c31 skel` checks on the implementation. -/
theorem match_formula (E : Env) (atoms : Nat → QNode) (val : Nat → Bool) (e : Value)
    (h : ∀ i, matchQuery E (atoms i) e = .ok (val i)) :
    (fm : Fm) → matchQuery E (fm.toQuery atoms) e = .ok (fm.eval val)
  | .atom i => h i
  | .not f => by
    rw [Fm.toQuery, match_not, match_formula E atoms val e h f]; rfl
  | .and f g => by
    rw [Fm.toQuery, match_and_ok E _ e [f.eval val, g.eval val]]
    · simp [Fm.eval]
    · simp [childOutcomes, QList.toList, match_formula E atoms val e h f, match_formula E atoms val e h g]
  | .juxt f g => by
    rw [Fm.toQuery, match_and_ok E _ e [f.eval val, g.eval val]]
    · simp [Fm.eval]
    · simp [childOutcomes, QList.toList, match_formula E atoms val e h f, match_formula E atoms val e h g]
  | .or f g => by
    rw [Fm.toQuery, match_or_ok E _ e [f.eval val, g.eval val]]
    · simp [Fm.eval]
    · simp [childOutcomes, QList.toList, match_formula E atoms val e h f, match_formula E atoms val e h g]

/-- (3) a range with two bounds is built from exactly two comparisons, conjoined -/
theorem range_two_compares (E : Env) (f : Field) (lo : CV) (li : Bool) (hi : CV) (ui : Bool)
    (h1 : lo ≠ .unbounded) (h2 : hi ≠ .unbounded) (m : Matcher)
    (h : filterRange E f lo li hi ui = .ok m) :
    ∃ lower upper, filterCompare E f (lowerOp li) lo = .ok lower ∧
      filterCompare E f (upperOp ui) hi = .ok upper ∧ ∀ e, m e = (lower e && upper e) := by
  rw [filterRange_bounded E f lo li hi ui h1 h2] at h
  unfold bothM at h
  cases hl : filterCompare E f (lowerOp li) lo with
  | ok lower =>
    cases hu : filterCompare E f (upperOp ui) hi with
    | ok upper =>
      simp only [hl, hu] at h
      cases h
      exact ⟨lower, upper, rfl, rfl, fun _ => rfl⟩
    | err => simp [hl, hu] at h
    | panic => simp [hl, hu] at h
  | err => simp [hl] at h
  | panic => simp [hl] at h

/-- (3) an unbounded lower side drops out … -/
theorem range_lower_unbounded (E : Env) (f : Field) (li : Bool) (hi : CV) (ui : Bool) (h2 : hi ≠ .unbounded) :
    filterRange E f .unbounded li hi ui = filterCompare E f (upperOp ui) hi :=
  filterRange_lower_unbounded E f li hi ui h2

/-- … and so does an unbounded upper side; … -/
theorem range_upper_unbounded (E : Env) (f : Field) (lo : CV) (li : Bool) (ui : Bool) (h1 : lo ≠ .unbounded) :
    filterRange E f lo li .unbounded ui = filterCompare E f (lowerOp li) lo :=
  filterRange_upper_unbounded E f lo li ui h1

/-- … `[* TO *]` is existence. -/
theorem range_unbounded (E : Env) (a : Str) (li ui : Bool) (e : Value) :
    matchQuery E (.leaf (.range a .unbounded li .unbounded ui)) e = matchQuery E (.leaf (.exists_ a)) e := rfl

/-- (3) For an attribute that resolves to a single field (everything but the default field), the range
    node is the conjunction of the two comparison nodes — the identity `o.c31 range` checks. -/
theorem match_range_single (E : Env) (a : Str) (f : Field) (lo : CV) (li : Bool) (hi : CV) (ui : Bool)
    (e : Value) (hf : normalizeFields a = [f]) (h1 : lo ≠ .unbounded) (h2 : hi ≠ .unbounded) :
    matchQuery E (.leaf (.range a lo li hi ui)) e =
      andOut (matchQuery E (.leaf (.comparison a (lowerOp li) lo)) e)
             (matchQuery E (.leaf (.comparison a (upperOp ui) hi)) e) := by
  unfold matchQuery
  simp only [build, buildLeaf, hf, Build.mapM]
  rw [filterRange_bounded E f lo li hi ui h1 h2]
  unfold bothM
  cases filterCompare E f (lowerOp li) lo with
  | ok l =>
    cases filterCompare E f (upperOp ui) hi with
    | ok u => simp [andOut, allOut, seqOut, outOf, Build.map, anyM]
    | err => rfl
    | panic => rfl
  | err => rfl
  | panic => rfl

theorem leaf_refines (E : Env) (l : Leaf) (h2 : leafExistsTags l = false) :
    Refines (buildLeaf E l) (checkLeaf l) (leafHolds E l) := by
  -- no field of an existence test is the reserved field `tags`
  have hx : ∀ a, (normalizeFields a).any isTagsReserved = false →
      ∀ f ∈ normalizeFields a, FieldRefines (filterExists E f) f (existsRef E f) := by
    intro a ha f hf
    simp only [List.any_eq_false] at ha
    exact exists_refines E f (by simpa using ha f hf)
  cases l with
  | matchAll => rfl
  | matchNone => rfl
  | exists_ a => exact Refines.any (mapM_eq _ _ _ (hx a h2))
  | missing a => exact Refines.all (mapM_eq _ (fun f e => !existsRef E f e) _ fun f hf => (hx a h2 f hf).not)
  | term a v => exact Refines.any (mapM_eq _ _ _ fun f _ => equals_refines E f v)
  | quoted a v => exact Refines.any (mapM_eq _ _ _ fun f _ => equals_refines E f v)
  | pfx a p => exact Refines.any (mapM_eq _ _ _ fun f _ => prefix_refines E f p)
  | wildcard a w => exact Refines.any (mapM_eq _ _ _ fun f _ => wildcard_refines E f w)
  | comparison a c v => exact Refines.any (mapM_eq _ _ _ fun f _ => compare_refines E f c v)
  | range a lo li hi ui =>
    refine Refines.any (mapM_eq _ _ _ fun f hf => ?_)
    apply range_refines
    by_cases hb : lo = .unbounded ∧ hi = .unbounded
    · have : (normalizeFields a).any isTagsReserved = false := by
        simpa [leafExistsTags, hb.1, hb.2] using h2
      simp only [List.any_eq_false] at this
      exact Or.inl (by simpa using this f hf)
    · exact Or.inr hb

def noDevL (ns : QList) : Bool := !anyLeafL leafExistsTags ns

theorem holdsAll_eq (E : Env) (e : Value) : (ns : QList) →
    holdsAll E ns e = ns.toList.all (fun n => holds E n e)
  | .nil => rfl
  | .cons n ns => by simp [holdsAll, QList.toList, holdsAll_eq E e ns]

theorem holdsAny_eq (E : Env) (e : Value) : (ns : QList) →
    holdsAny E ns e = ns.toList.any (fun n => holds E n e)
  | .nil => rfl
  | .cons n ns => by simp [holdsAny, QList.toList, holdsAny_eq E e ns]

mutual
  theorem build_refines (E : Env) : (q : QNode) → noDev q = true →
      Refines (build E q) (check q) (holds E q)
    | .leaf l, h => leaf_refines E l (by simpa [noDev, devExistsTags, anyLeaf] using h)
    | .neg n, h => (build_refines E n (by simpa [noDev, devExistsTags, anyLeaf] using h)).not
    | .bool op ns, h => by
      have ih := buildList_eq E ns (by simpa [noDev, noDevL, devExistsTags, anyLeaf] using h)
      cases op
      · exact (Refines.all ih).congr fun e => (holdsAll_eq E e ns).symm
      · exact (Refines.any ih).congr fun e => (holdsAny_eq E e ns).symm
  theorem buildList_eq (E : Env) : (ns : QList) → noDevL ns = true →
      buildList E ns = (checkList ns).map fun _ => ns.toList.map (holds E)
    | .nil, _ => rfl
    | .cons n ns, h => by
      have hh : noDev n = true ∧ noDevL ns = true := by
        simp only [noDevL, anyLeafL, noDev, devExistsTags] at h ⊢
        cases h2 : anyLeaf leafExistsTags n <;> simp_all
      have ih1 : build E n = _ := build_refines E n hh.1
      simp only [buildList, checkList, ih1, buildList_eq E ns hh.2]
      cases check n with
      | ok u => cases checkList ns <;> rfl
      | err => rfl
      | panic => rfl
end

theorem buildList_refines (E : Env) : (ns : QList) → noDevL ns = true →
      match checkList ns with
      | .ok _ => ∃ ms, buildList E ns = .ok ms ∧ (∀ e, ms.all (fun m => m e) = holdsAll E ns e) ∧
          (∀ e, ms.any (fun m => m e) = holdsAny E ns e)
      | .err => buildList E ns = .err
      | .panic => buildList E ns = .panic := by
  intro ns h
  rw [buildList_eq E ns h]
  cases checkList ns with
  | ok u => exact ⟨_, rfl, fun e => by rw [List.all_map, holdsAll_eq]; rfl,
      fun e => by rw [List.any_map, holdsAny_eq]; rfl⟩
  | err => rfl
  | panic => rfl

/-- (4) `match_datadog_query` decides a query on an event exactly as the reference semantics does
    (same verdict, same compile-time rejection), for every query without an existence test of the
    reserved field `tags`.  Without that hypothesis the statement is false of the code:
    `witness_exists_tags`. -/
theorem matches_spec_partial (E : Env) (q : QNode) (e : Value) (h : noDev q = true) :
    matchQuery E q e = Spec.run E q e := by
  have : build E q = _ := build_refines E q h
  unfold matchQuery Spec.run
  rw [this]
  cases check q <;> rfl

/-- (4) every comparison — on a tag, attribute, reserved or default field — is decided as the reference
    semantics says, without hypothesis; on a tag `k` only the values of the elements `k:value` are
    compared (`Spec.tagValues`, as of /repo d99b562) -/
theorem comparison_spec (E : Env) (a : Str) (c : Cmp) (v : CV) (e : Value) :
    matchQuery E (.leaf (.comparison a c v)) e = Spec.run E (.leaf (.comparison a c v)) e :=
  matches_spec_partial E _ e rfl

/-- (4) a range with at least one bound, on any field, likewise -/
theorem range_spec (E : Env) (a : Str) (lo : CV) (li : Bool) (hi : CV) (ui : Bool) (e : Value)
    (h : ¬ (lo = .unbounded ∧ hi = .unbounded)) :
    matchQuery E (.leaf (.range a lo li hi ui)) e = Spec.run E (.leaf (.range a lo li hi ui)) e := by
  apply matches_spec_partial
  simp only [noDev, devExistsTags, anyLeaf, leafExistsTags, Bool.not_eq_true', Bool.and_eq_false_iff,
    decide_eq_false_iff_not]
  by_cases h1 : lo = .unbounded
  · right; intro h2; exact h ⟨h1, h2⟩
  · left; right; exact h1

/-- the reference semantics is compositional by definition; stated for the record -/
theorem spec_and (E : Env) (ns : QList) (e : Value) :
    holds E (.bool .and ns) e = ns.toList.all (fun n => holds E n e) := by
  rw [holds]; exact holdsAll_eq E e ns

theorem spec_or (E : Env) (ns : QList) (e : Value) :
    holds E (.bool .or ns) e = ns.toList.any (fun n => holds E n e) := by
  rw [holds]; exact holdsAny_eq E e ns

theorem spec_not (E : Env) (n : QNode) (e : Value) : holds E (.neg n) e = !holds E n e := by
  rw [holds]

/-- the law assumed of the regex engine for the two shapes vrl compiles -/
structure EngineLaw (E : Env) : Prop where
  wild : ∀ p h, E.R.wild p h = Glob.wild p h
  word : ∀ p h, E.R.word p h = Glob.word p h

/-- (5) under the engine law the reference predicate of a wildcard on an attribute
    (`Spec.wildcardRef`) is the reference glob match of the wildcard against the attribute's text -/
theorem wildcard_is_glob (E : Env) (hE : EngineLaw E) (p : Str) (w : Str) (e : Value) :
    wildcardRef E (.attr p) w e =
      match valueAt (.attr p) e with
      | some x => Glob.wild (utf8 w) (stringValue E x)
      | none => false := by
  simp only [wildcardRef, hE.wild]
  cases valueAt (.attr p) e <;> rfl

/-- (5) under the engine law the reference predicate of a term on a default field
    (`Spec.equalsRef`) is a word-boundary match (`*` is a wildcard) -/
theorem word_is_glob (E : Env) (hE : EngineLaw E) (p : Str) (v : Str) (e : Value) :
    equalsRef E (.default p) v e =
      match valueAt (.default p) e with
      | some (.bytes b) => Glob.word (utf8 v) (E.lossy b)
      | _ => false := by
  simp only [equalsRef, hE.word]
  cases valueAt (.default p) e with
  | none => rfl
  | some x => cases x <;> rfl

end C31
